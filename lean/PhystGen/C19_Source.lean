import PhystGen.ConfigSrc
import Physt.Theorems.C19
/-!
# C19 — the context machine of the model IS what `config.py` says

`PhystGen/ConfigSrc.lean` is generated by `tools/py2lean.py config` from the current
`physt/config.py`: each method of `_Config` as the `ContextVar` operations it performs, the
generator-based context manager `_change_value` as (before the `yield`, after it, is the latter in
a `finally`).  Here these primitives get their meaning on the model's context (`Physt.Ctx`: the
current value of the variable and the stack of tokens), and the clauses of C19 are proved for
the GENERATED description: restore on normal and on exceptional exit for every well-bracketed
body, the value inside, getter / setter, the environment default.  A change of `config.py` that
drops the `finally`, keeps the previous value somewhere else than in a `ContextVar` token, adds a
short cut, or makes the public names do more than delegate regenerates another description (or
is refused by the translator) and these theorems no longer check (harness/gen_tie.py, run by the
C19 check).
-/
namespace Physt
open Src

/-- the model operation a `ContextVar` primitive is, given the value passed to the method -/
def VarPrim.op (v : Bool) : VarPrim → COp
  | .get => .read
  | .set => .set v
  | .setKeepToken => .enter v      -- the token remembers the previous value: pushed
  | .resetToken => .exit           -- `var.reset(token)`: popped and restored

/-- executing `with <manager>(v): body`, where `raises` says whether the body is left by an exception:
    the part after the `yield` runs on normal exit, and on an exception only if it is in a `finally` -/
def CtxMgr.block (m : CtxMgr) (v : Bool) (body : List COp) (raises : Bool) : List COp :=
  m.enter.map (VarPrim.op v) ++ body ++
    (if raises && !m.exitInFinally then [] else m.exit.map (VarPrim.op v))

/-- the generated `_change_value` is the model's `enter v … exit`, also when the body raises -/
theorem C19_src_block_is_enter_exit (v : Bool) (body : List COp) (raises : Bool) :
    Config.changeValue.block v body raises = .enter v :: body ++ [.exit] := by
  cases raises <;> simp [CtxMgr.block, Config.changeValue, VarPrim.op]

/-- **Restore, on the source.** `with config.enable_free_arithmetics(v): body` as `config.py` implements it leaves the
    context exactly as it was — for every well-bracketed body, nested to any depth, left normally or by an exception. -/
theorem C19_src_restore (dflt : Bool) (v : Bool) (body : List COp) (hb : Balanced body) (raises : Bool) (c : Ctx) :
    (c.run dflt (Config.changeValue.block v body raises)).1 = c := by
  rw [C19_src_block_is_enter_exit]
  exact C19_restore dflt v body hb c

/-- **Inside, on the source**: right after entering, the getter reads the requested value -/
theorem C19_src_inside (dflt : Bool) (v : Bool) (c : Ctx) :
    (c.run dflt (Config.changeValue.enter.map (VarPrim.op v) ++ Config.getValue.map (VarPrim.op v))).2
      = [.none, .value v] := by
  simpa [Config.changeValue, Config.getValue, VarPrim.op] using C19_inside dflt v c

/-- the property's getter and setter are one `var.get()` / one `var.set(value)` of the current context -/
theorem C19_src_get_set (dflt : Bool) (v : Bool) (c : Ctx) :
    (c.run dflt (Config.setValue.map (VarPrim.op v) ++ Config.getValue.map (VarPrim.op v))).2 = [.none, .value v] ∧
    (c.run dflt (Config.getValue.map (VarPrim.op v))).2 = [.value (c.read dflt)] ∧
    (c.run dflt (Config.getValue.map (VarPrim.op v))).1 = c := by
  simp [Config.setValue, Config.getValue, VarPrim.op, Ctx.run, Ctx.step, Ctx.read]

/-- the option lives in a `ContextVar` (so threads and tasks have their own value: `C19_isolate`, `C19_spawn`), its
    default is "environment variable equals the ON string", which the unset default is not; `enable_free_arithmetics()`
    without argument enables -/
theorem C19_src_option :
    Config.option.usesContextVar = true ∧ Config.option.envDefault ≠ Config.option.envOn ∧
    Config.option.envName = "PHYST_FREE_ARITHMETICS" ∧ Config.enableDefault = true := by
  simp [Config.option, Config.enableDefault]

/-- what a manager WITHOUT the `finally` would do (the seeded change C06g): not restored when the body raises -/
example : (({} : Ctx).run false
    (({ enter := [.setKeepToken], exit := [.resetToken], exitInFinally := false } : CtxMgr).block true [.arith] true)).1
    ≠ ({} : Ctx) := by decide

example : Balanced [.arith, .enter false, .read, .exit] := .arith (.block false (body := [.read]) (.read .nil) .nil)

end Physt
