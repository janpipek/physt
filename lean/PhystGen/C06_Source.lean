import PhystGen.C14_Source
import Physt.Theorems.C06
/-!
# C06 — the statistics clause, on the definitions generated from `physt/statistics.py`

"The recorded mean, variance, minimum and maximum are invariant under positive scaling while the
recorded weight scales by c."  `C06_stats` states it for the model histogram; here the recorded
statistics of the scaled histogram are related to the GENERATED `Statistics.__mul__`, `mean` and
`variance` (see `PhystGen/C14_Source.lean` for the refinement these rest on).
-/
namespace Physt
open Src H1

/-- **Scaling a histogram by a positive scalar, seen through the source's `Statistics`**: the statistics object of
    the result is `stats * c` as `Statistics.__mul__` computes it, and its `mean()`, `variance()`, `min`, `max` are those
    of the operand while its `weight` is `c` times the operand's. -/
theorem C06_src_stats (h r : H1) (c : Rat) (k : NumKind) (hc : 0 < c) (hv : h.stats.valid = true)
    (hr : h.imul c k = .ok r) (np : Bool) :
    (absStats h.stats).mul (.scalar np (.fin c)) = .ok (absStats r.stats) ∧
    (absStats r.stats).mean = (absStats h.stats).mean ∧
    (absStats r.stats).variance = (absStats h.stats).variance ∧
    (absStats r.stats).min = (absStats h.stats).min ∧ (absStats r.stats).max = (absStats h.stats).max ∧
    (absStats r.stats).weight = .fin (h.stats.weight * c) := by
  have hs : r.stats = h.stats.scale c := (imul_ok h r c k hr).2.2.2.2.2.2.1
  obtain ⟨t, ht, h1, h2, h3, h4, h5⟩ := C14_src_scale_invariant h.stats c hc hv np
  rw [C14_src_mul] at ht
  cases ht
  rw [hs]
  exact ⟨C14_src_mul _ _ _, h1, h2, h4, h5, h3⟩

/-- the factor enters the sums linearly: `sum2` is multiplied by `c`, not by `c²` (the defect repaired by `fix:` 6f9c6b1) -/
theorem C06_src_sum2_linear (s : Stats) (hv : s.valid = true) (c : Rat) (np : Bool) :
    ∃ t : Statistics, (absStats s).mul (.scalar np (.fin c)) = .ok t ∧ t.sum2 = .fin (s.sum2 * c) ∧ t.sum = .fin (s.sum * c) := by
  refine ⟨_, C14_src_mul s c np, ?_, ?_⟩ <;> simp [absStats, Stats.scale, hv]

example : ∃ t : Statistics, (absStats (rawStats [(2, 1)])).mul (.scalar false (.fin 3)) = .ok t ∧ t.sum2 = .fin 12 := by
  obtain ⟨t, h1, h2, _⟩ := C06_src_sum2_linear (rawStats [(2, 1)]) (by decide +kernel) 3 false
  exact ⟨t, h1, by rw [h2]; decide +kernel⟩

end Physt
