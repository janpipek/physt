import PhystGen.StatisticsSrc
import Physt.Theorems.C14
import Mathlib.Tactic.Ring
/-!
# C14 / C06 — the hand-written statistics model REFINES the definitions generated from the source

`PhystGen/StatisticsSrc.lean` is produced by `tools/py2lean.py` from the current
`physt/statistics.py` (class `Statistics`: fields and defaults, `mean`, `variance`, `__add__`,
`__mul__`, `INVALID_STATISTICS`).  The theorems below relate those generated definitions to
`Physt.Stats` (the model every C06 / C14 / C18 theorem talks about) through the abstraction
`absStats`, so the property theorems are statements about what the code says NOW: a change of
`statistics.py` that alters a field default, an accumulation rule, the scaling rule, the guard of
`variance`, the handling of the zero weight or what invalid statistics turn into regenerates other
definitions and these proofs no longer check (harness/gen_tie.py runs that in every C06 / C14 run).

Idealisation: Python floats are exact (extended) rationals, `PyF`.
-/
namespace Physt
open Src

/-- closes what `simp` leaves of a refinement goal when the source computes the same numbers in another order
    (`c * sum` for `sum * c`, re-associated sums): identities of ℚ, possibly several -/
macro "close_arith" : tactic => `(tactic| all_goals (repeat' (first | ring | constructor)))

/-- an optional rational as a Python float, `d` standing for "none" -/
def optF (d : PyF) : Option Rat → PyF
  | none => d
  | some x => .fin x

/-- the `Statistics` object a model record stands for (`valid = false`: `INVALID_STATISTICS`) -/
def absStats (s : Stats) : Statistics :=
  if s.valid then
    { sum := .fin s.sum, sum2 := .fin s.sum2, min := optF .pinf s.min, max := optF .ninf s.max,
      weight := .fin s.weight, median := optF .nan s.median }
  else INVALID_STATISTICS

-- the monad of the translated bodies is `Except`; a local variable of the source becomes a `>>=`
attribute [local simp] bind Except.bind pure Except.pure

/-- the default-constructed `Statistics()` is the model's empty record -/
theorem C14_src_empty : absStats Stats.empty = ({} : Statistics) := by
  simp [absStats, Stats.empty, optF]

theorem C14_src_invalid : absStats Stats.invalid = INVALID_STATISTICS := by
  simp [absStats, Stats.invalid]

/-- NaN absorbs on either side (the operations match on the left operand first: on the right it takes the cases) -/
theorem PyF.nan_absorbs (x : PyF) :
    (PyF.nan.add x = .nan ∧ x.add .nan = .nan) ∧ (PyF.nan.minimum x = .nan ∧ x.minimum .nan = .nan) ∧
      PyF.nan.maximum x = .nan ∧ x.maximum .nan = .nan := by
  cases x <;> exact ⟨⟨rfl, rfl⟩, ⟨rfl, rfl⟩, rfl, rfl⟩

theorem Src.Statistics.invalid_add (s : Statistics) : INVALID_STATISTICS.add (.inst s) = .ok INVALID_STATISTICS := by
  simp [Statistics.add, INVALID_STATISTICS, PyF.nan_absorbs]

theorem Src.Statistics.add_invalid (s : Statistics) : s.add (.inst INVALID_STATISTICS) = .ok INVALID_STATISTICS := by
  simp [Statistics.add, INVALID_STATISTICS, PyF.nan_absorbs]

theorem Src.Statistics.invalid_mul (np : Bool) (c : Rat) :
    INVALID_STATISTICS.mul (.scalar np (.fin c)) = .ok INVALID_STATISTICS := by
  simp [Statistics.mul, INVALID_STATISTICS, PyF.mul]

theorem Src.Statistics.invalid_mean : INVALID_STATISTICS.mean = .ok .nan := by
  simp [Statistics.mean, INVALID_STATISTICS, PyF.div, PyF.divNZ]

theorem Src.Statistics.invalid_variance : INVALID_STATISTICS.variance = .ok .nan := by
  simp [Statistics.variance, INVALID_STATISTICS, PyF.gt]

theorem minimum_optF (a b : Option Rat) :
    PyF.minimum (optF .pinf a) (optF .pinf b) = optF .pinf (Stats.minO a b) := by
  cases a <;> cases b <;> simp [optF, Stats.minO, PyF.minimum, PyF.gt]
  split <;> simp_all

theorem maximum_optF (a b : Option Rat) :
    PyF.maximum (optF .ninf a) (optF .ninf b) = optF .ninf (Stats.maxO a b) := by
  cases a <;> cases b <;> simp [optF, Stats.maxO, PyF.maximum, PyF.gt]
  split <;> simp_all

/-- **`Statistics.__add__` is `Stats.add`** — for valid and invalid operands alike, and it never raises. -/
theorem C14_src_add (a b : Stats) :
    (absStats a).add (.inst (absStats b)) = .ok (absStats (a.add b)) := by
  cases ha : a.valid
  · simp [absStats, Stats.add, Stats.invalid, ha, Statistics.invalid_add]
  cases hb : b.valid
  · simp [absStats, Stats.add, Stats.invalid, hb, Statistics.add_invalid]
  · simp only [absStats, Stats.add, ha, hb, Bool.and_self, if_true, Statistics.add, PyF.add, minimum_optF, maximum_optF]
    simp [optF]
    close_arith

/-- anything that is not a `Statistics` makes the sum invalid -/
theorem C14_src_add_foreign (s : Statistics) (np : Bool) (x : PyF) :
    s.add .other = .ok INVALID_STATISTICS ∧ s.add (.scalar np x) = .ok INVALID_STATISTICS := by
  simp [Statistics.add]

/-- **`Statistics.__mul__` by a finite scalar is `Stats.scale`** (python and numpy scalars alike: the
    sums and the weight are multiplied by `c` — not by `c²` —, minimum, maximum and median are kept). -/
theorem C14_src_mul (a : Stats) (c : Rat) (np : Bool) :
    (absStats a).mul (.scalar np (.fin c)) = .ok (absStats (a.scale c)) := by
  cases ha : a.valid
  · simp [absStats, Stats.scale, Stats.invalid, ha, Statistics.invalid_mul]
  · simp [absStats, Stats.scale, ha, Statistics.mul, PyF.mul]
    close_arith

/-- a non-scalar factor invalidates the statistics -/
theorem C14_src_mul_foreign (s t : Statistics) :
    s.mul .other = .ok INVALID_STATISTICS ∧ s.mul (.inst t) = .ok INVALID_STATISTICS := by
  simp [Statistics.mul]

/-- **`mean()`**: the quotient, NaN for zero weight (the `ZeroDivisionError` is caught) and for invalid statistics;
    no exception escapes. -/
theorem C14_src_mean (a : Stats) : (absStats a).mean = .ok (optF .nan a.mean) := by
  cases ha : a.valid
  · simp [absStats, Stats.mean, optF, ha, Statistics.invalid_mean]
  · by_cases hw : a.weight = 0 <;>
      simp [absStats, Stats.mean, optF, ha, hw, Statistics.mean, PyF.div, PyF.divNZ]

/-- **`variance()`**: `(sum2 − sum²/weight)/weight` for positive weight, NaN otherwise; no exception escapes. -/
theorem C14_src_variance (a : Stats) : (absStats a).variance = .ok (optF .nan a.variance) := by
  cases ha : a.valid
  · simp [absStats, Stats.variance, optF, ha, Statistics.invalid_variance]
  · by_cases hw : 0 < a.weight
    · simp [absStats, Stats.variance, optF, ha, hw, hw.ne', Statistics.variance, PyF.gt, PyF.div, PyF.divNZ, PyF.powNat,
        PyF.mul, PyF.sub, PyF.add, PyF.neg]
      ring
    · simp [absStats, Stats.variance, optF, ha, hw, Statistics.variance, PyF.gt]

/-- **C14 on the source.** Adding the `Statistics` of two data sets gives the `Statistics` of the combined data. -/
theorem C14_src_hom (d₁ d₂ : List Pt) :
    (absStats (rawStats d₁)).add (.inst (absStats (rawStats d₂))) = .ok (absStats (rawStats (d₁ ++ d₂))) := by
  rw [C14_src_add, C14_hom]

/-- **C06 / C14 on the source.** Multiplying valid statistics by a positive scalar leaves `mean()` and `variance()`
    as they were and multiplies the recorded weight by the scalar. -/
theorem C14_src_scale_invariant (s : Stats) (c : Rat) (hc : 0 < c) (hv : s.valid = true) (np : Bool) :
    ∃ t : Statistics, (absStats s).mul (.scalar np (.fin c)) = .ok t ∧
      t.mean = (absStats s).mean ∧ t.variance = (absStats s).variance ∧
      t.weight = .fin (s.weight * c) ∧ t.min = (absStats s).min ∧ t.max = (absStats s).max := by
  refine ⟨_, C14_src_mul s c np, ?_, ?_, ?_⟩
  · rw [C14_src_mean, C14_src_mean, (C14_scale s c hc hv).1]
  · rw [C14_src_variance, C14_src_variance, (C14_scale s c hc hv).2.1]
  · simp [absStats, Stats.scale, hv]

/-- **Invalid stays invalid on the source**: whichever operand is `INVALID_STATISTICS`, the sum is; its scaling is;
    its mean and variance read NaN. -/
theorem C14_src_invalid_absorbs (s : Stats) (c : Rat) (np : Bool) :
    INVALID_STATISTICS.add (.inst (absStats s)) = .ok INVALID_STATISTICS ∧
    (absStats s).add (.inst INVALID_STATISTICS) = .ok INVALID_STATISTICS ∧
    INVALID_STATISTICS.mul (.scalar np (.fin c)) = .ok INVALID_STATISTICS ∧
    INVALID_STATISTICS.mean = .ok .nan ∧ INVALID_STATISTICS.variance = .ok .nan :=
  ⟨Statistics.invalid_add _, Statistics.add_invalid _, Statistics.invalid_mul np c, Statistics.invalid_mean,
    Statistics.invalid_variance⟩

-- non-vacuity: concrete records through the generated code
example : (absStats (rawStats [(1, 2), (3, 1 / 2)])).mean = .ok (.fin (7 / 5)) := by
  rw [C14_src_mean]; decide +kernel
example : ({} : Statistics).mean = .ok .nan ∧ ({} : Statistics).variance = .ok .nan := by decide +kernel
example : (absStats (rawStats [(1, 2)])).mul (.scalar true (.fin 3)) = .ok (absStats (rawStats [(1, 6)])) := by
  rw [C14_src_mul]; decide +kernel

end Physt
