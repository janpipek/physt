import Physt.Proofs.AdaptiveHistory
import Physt.Proofs.Quantiles
import Physt.Proofs.Ops
/-!
# Composition: the binning factories (C07 / C04) followed by the 1-D construction (C01)

Over a rising, consecutive binning whose first edge is `≤` and whose last edge is `≥` every value, every
value lies in a bin, nothing is missed and the total is the total weight; when `H1.construct` accepts and what
it then returns; and what each factory derives from the data: the grid of `fixed_width` (for `align=False`
in exact arithmetic only), the ends of bins given by edges, integer bins.
The theorems composed from these are in `Theorems/C01_Factories.lean`.
-/
namespace Physt
open Grid H1

/-- **Every value between the first and the last edge of a rising, consecutive binning lies in a bin**
    (the last bin contains its right edge). -/
theorem in_some_bin (bins : Bins) (hb : Rising bins) (hc : consecutiveB bins = true) (b0 bl : Bin)
    (h0 : bins.head? = some b0) (hl : bins.getLast? = some bl) (v : Rat) (hlo : b0.1 ≤ v) (hhi : v ≤ bl.2) :
    ∃ i, i < bins.length ∧ inBin bins true i v = true := by
  have spec := leCount_spec bins hb v
  rw [List.head?_eq_getElem?] at h0
  rw [List.getLast?_eq_getElem?] at hl
  have hkle : leCount bins v ≤ bins.length := List.length_filter_le _ _
  -- the bin before the first one that starts above `v`
  obtain ⟨k, hk⟩ : ∃ k, leCount bins v = k + 1 := ⟨leCount bins v - 1, by have := (spec 0 b0 h0).mpr hlo; omega⟩
  rw [hk] at spec hkle
  have hget : bins[k]? = some bins[k] := List.getElem?_eq_getElem (by omega)
  refine ⟨k, by omega, ?_⟩
  rw [inBin_eq bins k (bins[k]).1 (bins[k]).2 hget, Bool.and_eq_true, decide_eq_true_eq]
  refine ⟨(spec k _ hget).mp (by omega), ?_⟩
  split
  · next hlast =>
    rw [← hlast, Nat.add_sub_cancel, hget] at hl
    cases hl
    exact decide_eq_true hhi
  · next hlast =>
    have hnext : k + 1 < bins.length := lt_of_le_of_ne hkle hlast
    rw [(consecutiveB_iff_getElem bins).mp hc k hnext, decide_eq_true_eq]
    by_contra hle
    have := (spec (k + 1) _ (List.getElem?_eq_getElem hnext)).mpr (not_lt.mp hle)
    omega

/-- **Nothing is missed and nothing is lost** over a binning that spans the data. -/
theorem calc1d_spanning (bins : Bins) (pts : List Pt) (hb : Rising bins) (hc : consecutiveB bins = true)
    (b0 bl : Bin) (h0 : bins.head? = some b0) (hl : bins.getLast? = some bl)
    (hspan : ∀ p ∈ pts, b0.1 ≤ p.1 ∧ p.1 ≤ bl.2) :
    (calc1d bins pts).under = some 0 ∧ (calc1d bins pts).over = some 0 ∧
    (calc1d bins pts).freq.sum = wsum pts := by
  have e := C01_under_over bins pts hc b0 bl h0 hl
  have f1 : (pts.filter fun p => decide (p.1 < b0.1)) = [] :=
    List.filter_eq_nil_iff.mpr fun p hp hlt => not_lt.mpr (hspan p hp).1 (of_decide_eq_true hlt)
  have f2 : (pts.filter fun p => decide (bl.2 < p.1)) = [] :=
    List.filter_eq_nil_iff.mpr fun p hp hlt => not_lt.mpr (hspan p hp).2 (of_decide_eq_true hlt)
  rw [f1] at e
  rw [f2] at e
  refine ⟨e.1, e.2, ?_⟩
  obtain ⟨u, o, hu, ho, hsum⟩ := C01_accounting bins pts (List.ne_nil_of_mem (List.mem_of_mem_head? h0)) hb hc
  rw [e.1] at hu
  rw [e.2] at ho
  cases hu
  cases ho
  have z : wsum ([] : List Pt) = 0 := rfl
  rw [z, add_zero, add_zero] at hsum
  exact hsum

/-- the content type `h1` chooses: the requested one, else the weights' type, else `int64` -/
def constructDType (ws : Option (List Rat)) (wkind : DType) (dtype : Option DType) : DType :=
  dtype.getD (if ws.isSome then wkind else .i64)

/-- the arguments pass every validation of `h1` that does not concern the bins -/
structure ArgsOk (vs : List (Option Rat)) (ws : Option (List Rat)) (wkind : DType) (dtype : Option DType)
    (dropna : Bool) : Prop where
  /-- `dropna=False` is only accepted for data without NaN -/
  nan : dropna = false → vs.any Option.isNone = false
  /-- the weights have the shape of the data -/
  shape : weightsShapeOk vs ws = true
  /-- no integer histogram from float weights -/
  dt : (constructDType ws wkind dtype).isInt = true → (if ws.isSome then wkind else DType.i64).isInt = true

theorem construct_eq_ok (fo : FloatOps) (b : Binning) (vs : List (Option Rat)) (ws : Option (List Rat))
    (wkind : DType) (dtype : Option DType) (keep dropna : Bool) (ok : ArgsOk vs ws wkind dtype dropna)
    (hne : b.bins fo ≠ []) (hr : Rising (b.bins fo)) :
    H1.construct fo b vs ws wkind dtype keep dropna = .ok
      { binning := b, freq := (calc1d (b.bins fo) (maskPts vs ws)).freq,
        err2 := (calc1d (b.bins fo) (maskPts vs ws)).err2,
        under := if keep then (calc1d (b.bins fo) (maskPts vs ws)).under else some 0,
        over := if keep then (calc1d (b.bins fo) (maskPts vs ws)).over else some 0,
        inner := some 0, keep := keep, dtype := constructDType ws wkind dtype,
        stats := statsOf (maskPts vs ws) (allEqual ((maskPts vs ws).map (·.2)))
          (medianOf ((maskPts vs ws).map (·.1))) } := by
  have h1 : (!dropna && vs.any Option.isNone) = false := by
    cases hd : dropna with
    | true => rfl
    | false => rw [ok.nan hd]; rfl
  have h3 : (b.bins fo).isEmpty = false := by
    rw [List.isEmpty_eq_false_iff]; exact hne
  have h5 : ((dtype.getD (if ws.isSome then wkind else .i64)).isInt &&
      !(if ws.isSome then wkind else DType.i64).isInt) = false := by
    cases hi : (dtype.getD (if ws.isSome then wkind else .i64)).isInt with
    | false => rfl
    | true => rw [ok.dt hi]; rfl
  rw [construct_eq, h1, ok.shape, h3, (risingB_iff _).mpr hr, h5]
  rfl

/-- **The histogram counts every value exactly once and misses nothing**: one content and one squared
    error per bin, the content of bin `i` is the weight of the values inside bin `i`, every value lies in
    exactly one bin, underflow / overflow / inner-missed are `0`, the total is the total weight. -/
structure CountsAll (bins : Bins) (pts : List Pt) (h : H1) : Prop where
  flen : h.freq.length = bins.length
  elen : h.err2.length = bins.length
  content : ∀ i, i < bins.length → h.freq[i]? = some (wsum (pts.filter fun p => inBin bins true i p.1))
  error2 : ∀ i, i < bins.length → h.err2[i]? = some (w2sum (pts.filter fun p => inBin bins true i p.1))
  placed : ∀ p ∈ pts, ∃ i, i < bins.length ∧ inBin bins true i p.1 = true ∧
    ∀ j, inBin bins true j p.1 = true → j = i
  under : h.under = some 0
  over : h.over = some 0
  inner : h.inner = some 0
  underflow : h.underflow = if h.keep then some 0 else none
  overflow : h.overflow = if h.keep then some 0 else none
  total : h.total = wsum pts
  weight : h.stats.weight = wsum pts

theorem statsOf_weight (data : List Pt) (eq : Bool) (m : Option Rat) : (statsOf data eq m).weight = wsum data := by
  cases data with
  | nil => rfl
  | cons p ps => rfl

/-- a binning that is not rising is refused, whatever the data -/
theorem construct_refused_not_rising (fo : FloatOps) (b : Binning) (vs : List (Option Rat))
    (ws : Option (List Rat)) (wkind : DType) (dtype : Option DType) (keep dropna : Bool)
    (hr : risingB (b.bins fo) = false) :
    ∃ e, H1.construct fo b vs ws wkind dtype keep dropna = .error e := by
  rw [construct_eq, hr]
  by_cases h1 : (!dropna && vs.any Option.isNone) = true
  · exact ⟨_, if_pos h1⟩
  rw [if_neg h1]
  by_cases h2 : (!weightsShapeOk vs ws) = true
  · exact ⟨_, if_pos h2⟩
  rw [if_neg h2]
  by_cases h3 : (b.bins fo).isEmpty = true
  · exact ⟨_, if_pos h3⟩
  rw [if_neg h3]
  exact ⟨_, if_pos rfl⟩

theorem mem_vals_of_mem_maskPts (vs : List (Option Rat)) (ws : Option (List Rat))
    (hok : weightsShapeOk vs ws = true) (p : Pt) (hp : p ∈ maskPts vs ws) : p.1 ∈ vs.filterMap id := by
  rw [← maskPts_values vs ws hok]
  exact List.mem_map_of_mem hp

/-- data inside a grid lie between its first and its last edge -/
theorem inside_spans {edge : Int → Rat} (hm : ∀ a b : Int, a < b → edge a < edge b) (t : Int) (n : Nat)
    (pts : List Pt) (hin : Inside edge t n pts) (hne : binsFrom edge t n ≠ []) :
    ∀ p ∈ pts, ((binsFrom edge t n).head hne).1 ≤ p.1 ∧ p.1 ≤ ((binsFrom edge t n).getLast hne).2 := by
  intro p hp
  obtain ⟨k, hk, h1, h2⟩ := hin p hp
  rw [(binsFrom_ends edge t n hne).1, (binsFrom_ends edge t n hne).2]
  constructor
  · exact le_trans (edge_le_of_le hm h1) hk.1
  · exact le_trans (le_of_lt hk.2) (edge_le_of_le hm (by omega))

/-- `_force_bin_existence` for one value on an empty grid: one bin, at the cell of the value; with
    `align=False` the origin is first moved and the cell searched again -/
theorem forceSingle_empty (fo : FloatOps) (fuel : Nat) (g : Grid) (v : Rat) (ire : Bool) (h0 : g.count = 0) :
    (g.forceSingle fo fuel v ire).1 =
      if g.align = true then { g with tmin := g.findIndex fo fuel v, count := 1 }
      else { g with
        shift := fo.shiftOf g.w (g.findIndex fo fuel v) v
        tmin := Grid.findIndex fo fuel
          { g with tmin := g.findIndex fo fuel v, shift := fo.shiftOf g.w (g.findIndex fo fuel v) v } v
        count := 1 } := by
  unfold forceSingle
  rw [if_pos h0]
  split
  · rfl
  · rfl

/-- the second call of `_force_bin_existence` (for the maximum) on a one-bin grid whose first edge is not
    above the value: the grid ends with the cell of the value (before it, when the value sits on the cell's
    left edge and `includes_right_edge` is set) -/
theorem forceSingle_second (fo : FloatOps) (fuel : Nat) (g1 : Grid) (hc : g1.count = 1)
    (hm : EdgeMono fo g1.w g1.shift) (ire : Bool) (hi : Rat) (khi : Int)
    (hkhi : CellOf (fo.edge g1.w g1.shift) hi khi) (hfhi : (fo.est g1.w g1.shift hi - khi).natAbs ≤ fuel)
    (hge : fo.edge g1.w g1.shift g1.tmin ≤ hi) :
    ∃ n : Nat, (g1.forceSingle fo fuel hi ire).1 = { g1 with count := n } ∧ 0 < n ∧
      (CellOf (fo.edge g1.w g1.shift) hi (g1.tmin + n - 1) ∨
        (ire = true ∧ fo.edge g1.w g1.shift (g1.tmin + n) = hi)) := by
  have hk : g1.tmin ≤ khi := cell_ge_of_le hm hkhi hge
  rw [forceSingle_eq fo fuel g1 hi khi ire (fun h => by omega) hm hkhi hfhi, if_neg (by omega),
    if_neg (not_lt.mpr hk)]
  split_ifs with h2 hon he
  · exact ⟨1, by rw [← hc], Nat.one_pos,
      Or.inr ⟨hon.2, by rw [show g1.tmin + ((1 : Nat) : Int) = khi by omega]; exact hon.1⟩⟩
  · exact ⟨_, rfl, by omega,
      Or.inr ⟨hon.2, by rw [show g1.tmin + ((khi - g1.tmin).toNat : Int) = khi by omega]; exact hon.1⟩⟩
  · exact ⟨_, rfl, by omega,
      Or.inl (by rw [show g1.tmin + ((khi + 1 - g1.tmin).toNat : Int) - 1 = khi by omega]; exact hkhi)⟩
  · exact ⟨1, by rw [← hc], Nat.one_pos,
      Or.inl (by rw [show g1.tmin + ((1 : Nat) : Int) - 1 = khi by omega]; exact hkhi)⟩

/-- the value a grid ends with (`TightOn.hi`) is not above the last edge -/
theorem le_lastEdge_of_tight {edge : Int → Rat} {hi : Rat} {t : Int} {n : Nat} {ire : Bool}
    (h : CellOf edge hi (t + n - 1) ∨ (ire = true ∧ edge (t + n) = hi)) : hi ≤ edge (t + n) := by
  rcases h with h | h
  · have := h.2
    rw [show t + (n : Int) - 1 + 1 = t + n by omega] at this
    exact le_of_lt this
  · exact le_of_eq h.2.symm

/-- **`fixed_width_binning(data)`**: a fresh (empty, aligned) grid grown for the minimum and the maximum
    of the data, for either value of `includes_right_edge`.  The grid starts at the cell of the minimum
    and ends with the cell of the maximum — or, with `includes_right_edge`, AT the maximum when the
    maximum sits on a grid edge. -/
theorem forceMany_from_empty (fo : FloatOps) (fuel : Nat) (g0 : Grid) (h0 : g0.count = 0)
    (halign : g0.align = true) (hm : EdgeMono fo g0.w g0.shift) (ire : Bool) (vals : List Rat) (lo hi : Rat)
    (hmin : listMin vals = some lo) (hmax : listMax vals = some hi) (hle : lo ≤ hi) (klo khi : Int)
    (hklo : CellOf (fo.edge g0.w g0.shift) lo klo) (hflo : (fo.est g0.w g0.shift lo - klo).natAbs ≤ fuel)
    (hkhi : CellOf (fo.edge g0.w g0.shift) hi khi) (hfhi : (fo.est g0.w g0.shift hi - khi).natAbs ≤ fuel) :
    ∃ n : Nat, (g0.forceMany fo fuel vals ire).1 = { g0 with tmin := klo, count := n } ∧ 0 < n ∧
      (CellOf (fo.edge g0.w g0.shift) hi (klo + n - 1) ∨ (ire = true ∧ fo.edge g0.w g0.shift (klo + n) = hi)) := by
  rw [forceMany_of_min_max fo fuel g0 vals ire lo hi hmin hmax,
    forceSingle_eq fo fuel g0 lo klo g0.ire (fun _ => halign) hm hklo hflo, if_pos h0]
  exact forceSingle_second fo fuel { g0 with tmin := klo, count := 1 } rfl hm ire hi khi hkhi hfhi
    (le_trans hklo.1 hle)

/-- the binning `fixed_width_binning(data, bin_width=w, …)` derives from the data -/
def fixedWidthOf (fo : FloatOps) (fuel : Nat) (g0 : Grid) (ire : Bool) (vs : List (Option Rat)) : Grid :=
  (g0.forceMany fo fuel (vs.filterMap id) ire).1

/-- the first bin starts at or below the least, the last bin ends at or above the greatest value, and both
    ends are tight: the least value lies in the first bin, the greatest in the last one -/
structure TightOn (edge : Int → Rat) (g : Grid) (vals : List Rat) (ire : Bool) : Prop where
  pos : 0 < g.count
  lo : ∃ lo, listMin vals = some lo ∧ CellOf edge lo g.tmin
  hi : ∃ hi, listMax vals = some hi ∧
    (CellOf edge hi (g.tmin + g.count - 1) ∨
      (ire = true ∧ edge (g.tmin + g.count) = hi))

/-- in exact arithmetic the cell search returns the estimate -/
theorem findIndex_exact (fuel : Nat) (g : Grid) (hw : 0 < g.w) (v : Rat) :
    g.findIndex FloatOps.exact fuel v = FloatOps.exact.est g.w g.shift v :=
  locate_spec (g.edgeAt FloatOps.exact) v (C04_exact_mono _ _ hw) _ _ fuel (C04_exact_cell _ _ _ hw) (by simp)

/-- with the origin moved so that cell `k` starts at `lo`, the cell of `lo` is `k` -/
theorem exact_recentred (w lo : Rat) (hw : 0 < w) (k : Int) :
    FloatOps.exact.edge w (lo - (k : Rat) * w) k = lo ∧ FloatOps.exact.est w (lo - (k : Rat) * w) lo = k := by
  have hedge : FloatOps.exact.edge w (lo - (k : Rat) * w) k = lo := by
    simp only [FloatOps.exact]; ring
  have hm := C04_exact_mono w (lo - (k : Rat) * w) hw
  have hlt := hm k (k + 1) (by omega)
  rw [hedge] at hlt
  exact ⟨hedge, cell_unique hm (C04_exact_cell w (lo - (k : Rat) * w) lo hw) ⟨le_of_eq hedge, hlt⟩⟩

/-- the first call on an empty unaligned grid, exact arithmetic: the origin moves onto the value, which
    becomes the first edge; the second search, with the new origin, finds the same cell -/
theorem forceSingle_empty_unaligned_exact (fuel : Nat) (g0 : Grid) (h0 : g0.count = 0) (hal : g0.align = false)
    (hw : 0 < g0.w) (lo : Rat) (ire : Bool) :
    ∃ k : Int, (g0.forceSingle FloatOps.exact fuel lo ire).1
      = { g0 with shift := lo - (k : Rat) * g0.w, tmin := k, count := 1 } := by
  refine ⟨FloatOps.exact.est g0.w g0.shift lo, ?_⟩
  rw [forceSingle_empty FloatOps.exact fuel g0 lo ire h0, if_neg (by rw [hal]; exact Bool.false_ne_true),
    findIndex_exact fuel g0 hw lo]
  congr 1
  exact (findIndex_exact fuel _ (by exact hw) lo).trans (exact_recentred g0.w lo hw _).2

/-- first and last edge of the bins made from an edge list are the first and the last entry of the list -/
theorem edgesToBins_ends (e : List Rat) (h2 : 2 ≤ e.length) (hne : edgesToBins e ≠ []) (he : e ≠ []) :
    ((edgesToBins e).head hne).1 = e.head he ∧ ((edgesToBins e).getLast hne).2 = e.getLast he := by
  have hends := binsToEdges_ends (edgesToBins e)
  rw [C07_edges_pairs e h2, firstEdge?, lastEdge?, List.head?_eq_some_head he, List.head?_eq_some_head hne,
    List.getLast?_eq_some_getLast he, List.getLast?_eq_some_getLast hne] at hends
  exact ⟨(Option.some.inj hends.1).symm, (Option.some.inj hends.2).symm⟩

/-- an integer within 1/2 of the integer `c` is `c` -/
theorem int_half_closed_iff (c m : Int) : ((c : Rat) - 1 / 2 ≤ m ∧ (m : Rat) ≤ c + 1 / 2) ↔ m = c := by
  have half : (1 / 2 : Rat) < 1 := by norm_num
  constructor
  · rintro ⟨h1, h2⟩
    have b1 : (c : Rat) < ((m + 1 : Int) : Rat) := by
      rw [Int.cast_add, Int.cast_one]
      exact lt_of_le_of_lt (sub_le_iff_le_add.mp h1) (add_lt_add_right half _)
    have b2 : (m : Rat) < ((c + 1 : Int) : Rat) := by
      rw [Int.cast_add, Int.cast_one]
      exact lt_of_le_of_lt h2 (add_lt_add_right half _)
    have := Int.cast_lt.mp b1
    have := Int.cast_lt.mp b2
    omega
  · rintro rfl
    exact ⟨sub_le_self _ (by norm_num), le_add_of_nonneg_right (by norm_num)⟩

theorem int_half_open_iff (c m : Int) : ((c : Rat) - 1 / 2 ≤ m ∧ (m : Rat) < c + 1 / 2) ↔ m = c := by
  constructor
  · intro h
    exact (int_half_closed_iff c m).mp ⟨h.1, le_of_lt h.2⟩
  · rintro rfl
    exact ⟨sub_le_self _ (by norm_num), lt_add_of_pos_right _ (by norm_num)⟩

/-- **Integer bins**: in exact arithmetic with width 1 and origin 1/2, bin `i` of the grid is centred on the
    integer `tmin + i + 1` … -/
theorem integer_bin_getElem? (g : Grid) (hw : g.w = 1) (hs : g.shift = 1 / 2) (i : Nat) (hi : i < g.count) :
    (g.bins FloatOps.exact)[i]?
      = some (((g.tmin + i + 1 : Int) : Rat) - 1 / 2, ((g.tmin + i + 1 : Int) : Rat) + 1 / 2) := by
  rw [bins_eq_binsFrom, binsFrom_getElem? _ _ _ _ hi]
  simp only [edgeAt, FloatOps.exact, hw, hs]
  congr 2 <;> (push_cast; ring)

/-- … and an integer value lies in bin `i` exactly when it IS that integer. -/
theorem integer_bin_iff (g : Grid) (hw : g.w = 1) (hs : g.shift = 1 / 2) (i : Nat) (hi : i < g.count) (m : Int) :
    inBin (g.bins FloatOps.exact) true i (m : Rat) = true ↔ m = g.tmin + i + 1 := by
  rw [inBin_eq _ _ _ _ (integer_bin_getElem? g hw hs i hi), Bool.and_eq_true, decide_eq_true_eq]
  split
  · rw [decide_eq_true_eq]
    exact int_half_closed_iff _ m
  · rw [decide_eq_true_eq]
    exact int_half_open_iff _ m

/-- when every value is an integer, the values inside integer bin `i` are the values EQUAL to its centre -/
theorem integer_bin_filter (g : Grid) (hw : g.w = 1) (hs : g.shift = 1 / 2) (pts : List Pt)
    (hint : ∀ p ∈ pts, ∃ m : Int, p.1 = (m : Rat)) (i : Nat) (hi : i < g.count) :
    (pts.filter fun p => inBin (g.bins FloatOps.exact) true i p.1)
      = pts.filter fun p => decide (p.1 = ((g.tmin + i + 1 : Int) : Rat)) := by
  apply List.filter_congr
  intro p hp
  obtain ⟨m, hm⟩ := hint p hp
  rw [hm, Bool.eq_iff_iff, integer_bin_iff g hw hs i hi m, decide_eq_true_eq, Int.cast_inj]

end Physt
