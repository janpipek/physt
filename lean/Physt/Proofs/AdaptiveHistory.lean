import Physt.Theorems.C03
import Physt.Theorems.C04
/-!
# Histories of `fill` / `fill_n` on an adaptive fixed-width histogram

`C04_fill` says what ONE `fill` does to the grid.  Here that is lifted to arbitrary histories of `fill` /
`fill_n`, with the clause "the result equals the fixed-bin histogram of the same data over the final bins".
The invariant is `GridTracks fo h g pts`: the state `h` (adaptive grid `g`) holds exactly
`calc1d (g.bins fo) pts`, underflow / overflow are `0`, and every point of `pts` lies in a cell of the grid.
Growing a grid pads the batch histogram of data inside the old range by zeros (contents stay attached to
their interval), so each call keeps the invariant; the final range is the hull of the initial range and
the cells needed (`SpanHull`).  At the end: non-vacuity examples and the counterexamples for `ire = true`
and `align = false`.
-/
namespace Physt
open Grid H1

/-- every point lies in a cell of the range `[t, t+n)` -/
def Inside (edge : Int → Rat) (t : Int) (n : Nat) (pts : List Pt) : Prop :=
  ∀ p ∈ pts, ∃ k : Int, CellOf edge p.1 k ∧ t ≤ k ∧ k < t + n

theorem cell_unique {edge : Int → Rat} (hm : ∀ a b : Int, a < b → edge a < edge b) {v : Rat} {k k' : Int}
    (hk : CellOf edge v k) (hk' : CellOf edge v k') : k = k' := by
  have h1 := (cell_lt_iff hm hk).mp hk'.2
  have h2 := (cell_lt_iff hm hk').mp hk.2
  omega

/-- the cell is monotone in the value -/
theorem cell_mono {edge : Int → Rat} (hm : ∀ a b : Int, a < b → edge a < edge b) {v v' : Rat} {k k' : Int}
    (hk : CellOf edge v k) (hk' : CellOf edge v' k') (hv : v ≤ v') : k ≤ k' := by
  have := (cell_lt_iff hm hk).mp (lt_of_le_of_lt hv hk'.2)
  omega

theorem Inside.nil (edge : Int → Rat) (t : Int) (n : Nat) : Inside edge t n [] := by
  intro p hp; cases hp

theorem Inside.eq_nil {edge : Int → Rat} {t : Int} {pts : List Pt} (h : Inside edge t 0 pts) : pts = [] := by
  cases pts with
  | nil => rfl
  | cons p ps =>
    obtain ⟨k, _, h1, h2⟩ := h p (List.mem_cons_self ..)
    omega

theorem Inside.mono {edge : Int → Rat} {t t' : Int} {n n' : Nat} {pts : List Pt} (h : Inside edge t n pts)
    (h1 : t' ≤ t) (h2 : t + n ≤ t' + n') : Inside edge t' n' pts := by
  intro p hp
  obtain ⟨k, hk, ha, hb⟩ := h p hp
  exact ⟨k, hk, by omega, by omega⟩

theorem Inside.append {edge : Int → Rat} {t : Int} {n : Nat} {a b : List Pt} (ha : Inside edge t n a)
    (hb : Inside edge t n b) : Inside edge t n (a ++ b) := by
  intro p hp
  rcases List.mem_append.mp hp with h | h
  · exact ha p h
  · exact hb p h

def inCell (edge : Int → Rat) (c : Int) (v : Rat) : Bool := decide (edge c ≤ v) && decide (v < edge (c + 1))

theorem inCell_iff (edge : Int → Rat) (c : Int) (v : Rat) : inCell edge c v = true ↔ CellOf edge v c := by
  simp [inCell, CellOf]

/-- the part of the data that lies in cell `c` -/
def cellSlice (edge : Int → Rat) (pts : List Pt) (c : Int) : List Pt := pts.filter fun p => inCell edge c p.1

theorem cellSlice_outside {edge : Int → Rat} (hm : ∀ a b : Int, a < b → edge a < edge b) {t : Int} {n : Nat}
    {pts : List Pt} (h : Inside edge t n pts) (c : Int) (hc : c < t ∨ t + n ≤ c) : cellSlice edge pts c = [] := by
  unfold cellSlice
  rw [List.filter_eq_nil_iff]
  intro p hp hin
  obtain ⟨k, hk, h1, h2⟩ := h p hp
  have := cell_unique hm hk ((inCell_iff edge c p.1).mp hin)
  omega

/-- for a value that lies in a cell of the range, "in bin `i` of the grid" (right edge of the last bin
    included) is "in cell `t+i`" -/
theorem inBin_binsFrom {edge : Int → Rat} (hm : ∀ a b : Int, a < b → edge a < edge b) (t : Int) (n : Nat)
    (v : Rat) (k : Int) (hk : CellOf edge v k) (h2 : k < t + n) (i : Nat) (hi : i < n) :
    inBin (binsFrom edge t n) true i v = inCell edge (t + i) v := by
  unfold inBin inCell
  rw [binsFrom_getElem? edge t n i hi]
  simp only [binsFrom_length]
  have hne : ¬ (i + 1 = n ∧ v = edge (t + (i : Int) + 1)) := by
    rintro ⟨hin, he⟩
    have := cell_ge_of_le hm hk (le_of_eq he.symm)
    omega
  by_cases hin : i + 1 = n
  · have hv : ¬ v = edge (t + (i : Int) + 1) := fun he => hne ⟨hin, he⟩
    simp [hv]
  · have hb : (i + 1 == n) = false := beq_eq_false_iff_ne.mpr hin
    simp [hb]

/-- **Batch histogram over a grid, by cells.**  When every point lies in a cell of the range, content
    `i` of the batch histogram is the weight in cell `t+i`. -/
theorem calc1d_grid {edge : Int → Rat} (hm : ∀ a b : Int, a < b → edge a < edge b) (t : Int) (n : Nat)
    (pts : List Pt) (h : Inside edge t n pts) :
    (calc1d (binsFrom edge t n) pts).freq = (List.range n).map (fun i : Nat => wsum (cellSlice edge pts (t + i))) ∧
    (calc1d (binsFrom edge t n) pts).err2 = (List.range n).map (fun i : Nat => w2sum (cellSlice edge pts (t + i))) := by
  have hb := binsFrom_rising edge hm t n
  have hfil : ∀ i ∈ List.range n,
      (pts.filter fun p => inBin (binsFrom edge t n) true i p.1) = cellSlice edge pts (t + i) := by
    intro i hi
    apply List.filter_congr
    intro p hp
    obtain ⟨k, hk, _, h2⟩ := h p hp
    exact inBin_binsFrom hm t n p.1 k hk h2 i (List.mem_range.mp hi)
  rw [calc1d_freq_eq _ _ hb, calc1d_err2_eq _ _ hb, binsFrom_length]
  exact ⟨List.map_congr_left fun i hi => congrArg wsum (hfil i hi),
    List.map_congr_left fun i hi => congrArg w2sum (hfil i hi)⟩

/-- a function on `0 … a+n+b-1` that vanishes outside `[a, a+n)`, tabulated -/
theorem map_range_pad (F : Nat → Rat) (a n b : Nat) (hlo : ∀ j, j < a → F j = 0)
    (hhi : ∀ j, a + n ≤ j → F j = 0) :
    (List.range (a + n + b)).map F
      = List.replicate a 0 ++ (List.range n).map (fun i => F (a + i)) ++ List.replicate b 0 := by
  rw [List.range_add, List.range_add, List.map_append, List.map_append, List.map_map, List.map_map]
  congr 1
  · congr 1
    refine List.eq_replicate_iff.mpr ⟨by simp, fun x hx => ?_⟩
    obtain ⟨j, hj, rfl⟩ := List.mem_map.mp hx
    exact hlo j (List.mem_range.mp hj)
  · refine List.eq_replicate_iff.mpr ⟨by simp, fun x hx => ?_⟩
    obtain ⟨j, hj, rfl⟩ := List.mem_map.mp hx
    exact hhi _ (Nat.le_add_right _ _)

/-- **Contents recorded earlier stay attached to the same interval.**  Growing the grid by `a` cells on
    the left and `b` cells on the right pads the batch histogram of data inside the old range with `a`
    zeros on the left and `b` zeros on the right — what `reshape1 old (a+n+b) (.shift a)` does. -/
theorem calc1d_grid_grow {edge : Int → Rat} (hm : ∀ a b : Int, a < b → edge a < edge b) (t : Int) (n a b : Nat)
    (pts : List Pt) (h : Inside edge t n pts) :
    (calc1d (binsFrom edge (t - a) (a + n + b)) pts).freq
      = List.replicate a 0 ++ (calc1d (binsFrom edge t n) pts).freq ++ List.replicate b 0 ∧
    (calc1d (binsFrom edge (t - a) (a + n + b)) pts).err2
      = List.replicate a 0 ++ (calc1d (binsFrom edge t n) pts).err2 ++ List.replicate b 0 := by
  have hbig : Inside edge (t - a) (a + n + b) pts := h.mono (by omega) (by push_cast; omega)
  have e1 := calc1d_grid hm (t - a) (a + n + b) pts hbig
  have e0 := calc1d_grid hm t n pts h
  have hidx : ∀ i : Nat, t - (a : Int) + ((a + i : Nat) : Int) = t + (i : Int) := by intro i; push_cast; omega
  -- the same for weights and squared weights: a sum over a cell, and the cells outside the old range are empty
  have key : ∀ S : List Pt → Rat, S [] = 0 →
      (List.range (a + n + b)).map (fun i : Nat => S (cellSlice edge pts (t - a + i)))
        = List.replicate a 0 ++ (List.range n).map (fun i : Nat => S (cellSlice edge pts (t + i))) ++
          List.replicate b 0 := by
    intro S hS
    rw [map_range_pad (fun i : Nat => S (cellSlice edge pts (t - a + i))) a n b]
    · simp only [hidx]
    · intro j hj; rw [cellSlice_outside hm h _ (Or.inl (by omega)), hS]
    · intro j hj; rw [cellSlice_outside hm h _ (Or.inr (by omega)), hS]
  exact ⟨by rw [e1.1, e0.1]; exact key wsum rfl, by rw [e1.2, e0.2]; exact key w2sum rfl⟩

/-- **The state holds the fixed-bin histogram of the data entered so far.**  `h` is an adaptive
    fixed-width histogram on the grid `g`; contents and squared errors are those of the batch histogram
    of `pts` over the current bins; nothing was ever missed; every point lies in a cell of the grid
    (so for an empty grid `pts = []`, see `GridTracks.nil_of_empty`). -/
structure GridTracks (fo : FloatOps) (h : H1) (g : Grid) (pts : List Pt) : Prop where
  state : GridState h g
  freq : h.freq = (calc1d (g.bins fo) pts).freq
  err2 : h.err2 = (calc1d (g.bins fo) pts).err2
  under : h.under = some 0
  over : h.over = some 0
  inside : Inside (g.edgeAt fo) g.tmin g.count pts

theorem GridTracks.nil_of_empty {fo : FloatOps} {h : H1} {g : Grid} {pts : List Pt}
    (t : GridTracks fo h g pts) (h0 : g.count = 0) : pts = [] := by
  have := t.inside
  rw [h0] at this
  exact this.eq_nil

/-- the empty adaptive histogram (no bins yet) satisfies the invariant with no data -/
theorem gridTracks_empty (fo : FloatOps) (g : Grid) (hc : g.count = 0) (had : g.adaptive = true)
    (hal : g.align = true) (hire : g.ire = false) (dt : Option DType) :
    GridTracks fo (H1.empty fo (.fixed g) true dt) g [] := by
  have hb : g.bins fo = [] := by simp [Grid.bins, hc]
  refine ⟨⟨rfl, had, hal, hire, rfl, ?_, ?_⟩, ?_, ?_, rfl, rfl, Inside.nil _ _ _⟩
  · simp [H1.empty, Binning.bins, hb, hc, zeros]
  · simp [H1.empty, Binning.bins, hb, hc, zeros]
  · simp [H1.empty, Binning.bins, hb, zeros, calc1d, sweepAux]
  · simp [H1.empty, Binning.bins, hb, zeros, calc1d, sweepAux]

/-- the batch histogram of data inside a grid `g`, seen over a grid `g'` with the same edge function
    that contains `g`: the old contents, moved by the cells added on the left -/
theorem calc1d_bins_grow (fo : FloatOps) (g g' : Grid) (hm : EdgeMono fo g.w g.shift) (hw : g'.w = g.w)
    (hs : g'.shift = g.shift) (hlo : g'.tmin ≤ g.tmin) (hhi : g.tmin + g.count ≤ g'.tmin + g'.count)
    (pts : List Pt) (hin : Inside (g.edgeAt fo) g.tmin g.count pts) :
    (calc1d (g'.bins fo) pts).freq
      = List.replicate (g.tmin - g'.tmin).toNat 0 ++ (calc1d (g.bins fo) pts).freq ++
        List.replicate (g'.count - (g.tmin - g'.tmin).toNat - g.count) 0 ∧
    (calc1d (g'.bins fo) pts).err2
      = List.replicate (g.tmin - g'.tmin).toNat 0 ++ (calc1d (g.bins fo) pts).err2 ++
        List.replicate (g'.count - (g.tmin - g'.tmin).toNat - g.count) 0 := by
  have e1 : g'.tmin = g.tmin - ((g.tmin - g'.tmin).toNat : Int) := by omega
  have e2 : g'.count = (g.tmin - g'.tmin).toNat + g.count + (g'.count - (g.tmin - g'.tmin).toNat - g.count) := by
    omega
  have := calc1d_grid_grow (edge := g.edgeAt fo) hm g.tmin g.count (g.tmin - g'.tmin).toNat
    (g'.count - (g.tmin - g'.tmin).toNat - g.count) pts hin
  rw [← e1, ← e2] at this
  rw [bins_eq_binsFrom, bins_eq_binsFrom, edgeAt_congr fo hw hs]
  exact this

/-- **Adding the batch histogram of further data inside the grid** extends the tracked data: what `fill`
    (one value), `fill_n` (a batch) and `+=` (the other operand's contents) all do to the contents. -/
theorem GridTracks.append {fo : FloatOps} {h h' : H1} {g : Grid} {A B : List Pt} (tr : GridTracks fo h g A)
    (hm : EdgeMono fo g.w g.shift) (hin : Inside (g.edgeAt fo) g.tmin g.count B)
    (hb : h'.binning = h.binning) (hk : h'.keep = h.keep)
    (hf : h'.freq = zipAdd h.freq (calc1d (g.bins fo) B).freq)
    (he : h'.err2 = zipAdd h.err2 (calc1d (g.bins fo) B).err2)
    (hu : h'.under = some 0) (ho : h'.over = some 0) : GridTracks fo h' g (A ++ B) := by
  have hrise := bins_rising fo g hm
  have st := tr.state
  have hf' : h'.freq = (calc1d (g.bins fo) (A ++ B)).freq := by rw [hf, tr.freq, calc1d_append_freq _ hrise]
  have he' : h'.err2 = (calc1d (g.bins fo) (A ++ B)).err2 := by rw [he, tr.err2, calc1d_append_err2 _ hrise]
  refine ⟨⟨hb.trans st.binning, st.adaptive, st.align, st.ire, hk.trans st.keep, ?_, ?_⟩, hf', he', hu, ho,
    tr.inside.append hin⟩
  · rw [hf', calc1d_freq_length, bins_length]
  · rw [he', calc1d_err2_length, bins_length]

/-- growing the grid and moving the contents as instructed keeps the invariant (same data) -/
theorem gridTracks_regrid (fo : FloatOps) (h : H1) (g : Grid) (pts : List Pt) (tr : GridTracks fo h g pts)
    (hm : EdgeMono fo g.w g.shift) (g' : Grid) (r : Reshape) (hw : g'.w = g.w) (hs : g'.shift = g.shift)
    (hal : g'.align = g.align) (had : g'.adaptive = g.adaptive) (hire : g'.ire = g.ire)
    (ok : ReshapeOK g g' r) :
    GridTracks fo { h with binning := .fixed g', freq := reshape1 h.freq g'.count r,
                           err2 := reshape1 h.err2 g'.count r } g' pts := by
  have st := tr.state
  have hrise : Rising (g'.bins fo) := bins_rising fo g' (by rw [hw, hs]; exact hm)
  have hlen := bins_length fo g'
  have rf := reshape1_of_ok ok h.freq st.flen
  have re := reshape1_of_ok ok h.err2 st.elen
  have hfe : reshape1 h.freq g'.count r = (calc1d (g'.bins fo) pts).freq ∧
      reshape1 h.err2 g'.count r = (calc1d (g'.bins fo) pts).err2 ∧
      Inside (g'.edgeAt fo) g'.tmin g'.count pts := by
    by_cases h0 : g.count = 0
    · rw [tr.nil_of_empty h0, calc1d_nil_freq _ hrise, calc1d_nil_err2 _ hrise, hlen, rf.1 h0, re.1 h0]
      exact ⟨rfl, rfl, Inside.nil _ _ _⟩
    · have hp : 0 < g.count := Nat.pos_of_ne_zero h0
      have hh := ok.contains hp
      have grow := calc1d_bins_grow fo g g' hm hw hs hh.1 hh.2 pts tr.inside
      rw [rf.2 hp, re.2 hp, tr.freq, tr.err2, edgeAt_congr fo hw hs]
      exact ⟨grow.1.symm, grow.2.symm, tr.inside.mono hh.1 hh.2⟩
  refine ⟨⟨rfl, had.trans st.adaptive, hal.trans st.align, hire.trans st.ire, st.keep, ?_, ?_⟩,
    hfe.1, hfe.2.1, tr.under, tr.over, hfe.2.2⟩
  · show (reshape1 h.freq g'.count r).length = g'.count
    rw [hfe.1, calc1d_freq_length, hlen]
  · show (reshape1 h.err2 g'.count r).length = g'.count
    rw [hfe.2.1, calc1d_err2_length, hlen]

/-- adding a weight at the bin of a value that lies in a cell of the grid extends the tracked data by that
    value (whatever happens to dtype and statistics) -/
theorem gridTracks_addAt (fo : FloatOps) (h : H1) (g : Grid) (pts : List Pt) (tr : GridTracks fo h g pts)
    (hm : EdgeMono fo g.w g.shift) (v w : Rat) (k : Int) (hk : CellOf (g.edgeAt fo) v k) (hlo : g.tmin ≤ k)
    (hhi : k < g.tmin + g.count) (d : DType) (st : Stats) :
    GridTracks fo { h with dtype := d, freq := addAt h.freq (k - g.tmin).toNat w,
                           err2 := addAt h.err2 (k - g.tmin).toNat (w * w), stats := st } g (pts ++ [(v, w)]) := by
  have hidx : (k - g.tmin).toNat < g.count := by omega
  have hinb : inBin (g.bins fo) true (k - g.tmin).toNat v = true := by
    rw [bins_eq_binsFrom, inBin_binsFrom (edge := g.edgeAt fo) hm g.tmin g.count v k hk hhi _ hidx, inCell_iff]
    have : g.tmin + ((k - g.tmin).toNat : Int) = k := by omega
    rw [this]; exact hk
  have hsingle := (calc1d_single (g.bins fo) (bins_rising fo g hm) v w).1 _ hinb
  refine tr.append hm ?_ rfl rfl ?_ ?_ tr.under tr.over
  · intro p hp
    rw [List.mem_singleton.mp hp]
    exact ⟨k, hk, hlo, hhi⟩
  · show addAt h.freq _ w = _
    rw [hsingle.1, addAt_eq_zipAdd, tr.state.flen, bins_length]
  · show addAt h.err2 _ (w * w) = _
    rw [hsingle.2, addAt_eq_zipAdd, tr.state.elen, bins_length]

/-- **One `fill` keeps the invariant.**  For every strictly increasing edge function and every
    estimate within the fuel, `fill(v, w)` on a state that holds the fixed-bin histogram of `pts` gives a
    state that holds the fixed-bin histogram of `pts ++ [(v, w)]` over the grown bins; width and origin
    are unchanged, the new range is the hull of the old range and the cell of `v`, and the bin reported
    is the cell of `v`.  (`fill` = grow the grid, move the contents, add the weight at the bin.) -/
theorem gridTracks_fill (fo : FloatOps) (fuel : Nat) (h : H1) (g : Grid) (pts : List Pt)
    (tr : GridTracks fo h g pts) (v w : Rat) (wk : NumKind) (k : Int) (hm : EdgeMono fo g.w g.shift)
    (hk : CellOf (g.edgeAt fo) v k) (hf : (fo.est g.w g.shift v - k).natAbs ≤ fuel) :
    ∃ g' : Grid, GridTracks fo (h.fill fo fuel (some v) w wk).1 g' (pts ++ [(v, w)]) ∧
      g'.w = g.w ∧ g'.shift = g.shift ∧ g'.span = hull g.span (some (k, k + 1)) ∧
      (h.fill fo fuel (some v) w wk).2 = some (.bin (k - g'.tmin).toNat) := by
  have st := tr.state
  obtain ⟨g', r, e, hw, hs, hal, had, hire, ok, hsp⟩ := forceSingle_spec fo fuel g v k (fun _ => st.align) hm hk hf
  obtain ⟨hlo, hhi, _, _⟩ := span_hull_cell.mp hsp
  have hm' : EdgeMono fo g'.w g'.shift := by rw [hw, hs]; exact hm
  have hk' : CellOf (g'.edgeAt fo) v k := by rw [edgeAt_congr fo hw hs]; exact hk
  rw [fill_eq_of_bin fo fuel h g g' r v w wk _ st.binning st.adaptive (by rw [st.ire]; exact e)
    (findBinIn_bins fo g' hm' hk' hlo hhi)]
  exact ⟨g', gridTracks_addAt fo _ g' pts (gridTracks_regrid fo h g pts tr hm g' r hw hs hal had hire ok) hm'
    v w k hk' hlo hhi _ _, hw, hs, hsp, rfl⟩

theorem edge_le_of_le {edge : Int → Rat} (hm : ∀ a b : Int, a < b → edge a < edge b) {a b : Int} (h : a ≤ b) :
    edge a ≤ edge b :=
  StrictMono.monotone (fun _ _ h => hm _ _ h) h

/-- data inside the grid leaves nothing below the first and nothing above the last edge -/
theorem calc1d_inside_missed {edge : Int → Rat} (hm : ∀ a b : Int, a < b → edge a < edge b) (t : Int) (n : Nat)
    (pts : List Pt) (h : Inside edge t n pts) :
    (calc1d (binsFrom edge t n) pts).under = some 0 ∧ (calc1d (binsFrom edge t n) pts).over = some 0 := by
  cases n with
  | zero =>
    have : pts = [] := h.eq_nil
    subst this
    simp [binsFrom, calc1d, consecutiveB]
  | succ m =>
    have hc := binsFrom_consecutive edge t (m + 1)
    have h0 : (binsFrom edge t (m + 1)).head? = some (edge (t + ((0 : Nat) : Int)), edge (t + ((0 : Nat) : Int) + 1)) := by
      rw [List.head?_eq_getElem?]; exact binsFrom_getElem? edge t (m + 1) 0 (by omega)
    have hl : (binsFrom edge t (m + 1)).getLast? = some (edge (t + (m : Int)), edge (t + (m : Int) + 1)) := by
      rw [List.getLast?_eq_getElem?, binsFrom_length]; exact binsFrom_getElem? edge t (m + 1) m (by omega)
    have e := C01_under_over _ pts hc _ _ h0 hl
    have f1 : (pts.filter fun p => decide (p.1 < edge (t + ((0 : Nat) : Int)))) = [] := by
      rw [List.filter_eq_nil_iff]
      intro p hp hlt
      obtain ⟨k, hk, h1, _⟩ := h p hp
      have := (cell_lt_iff hm hk).mp (of_decide_eq_true hlt)
      omega
    have f2 : (pts.filter fun p => decide (edge (t + (m : Int) + 1) < p.1)) = [] := by
      rw [List.filter_eq_nil_iff]
      intro p hp hlt
      obtain ⟨k, hk, _, h2⟩ := h p hp
      have := (cell_le_iff hm hk).mp (le_of_lt (of_decide_eq_true hlt))
      omega
    rw [e.1, e.2, f1, f2]
    exact ⟨rfl, rfl⟩

/-- **The total is the total weight entered.** -/
theorem GridTracks.total {fo : FloatOps} {h : H1} {g : Grid} {pts : List Pt} (tr : GridTracks fo h g pts)
    (hm : EdgeMono fo g.w g.shift) : h.total = wsum pts := by
  unfold H1.total
  by_cases h0 : g.count = 0
  · have hp := tr.nil_of_empty h0
    have : h.freq = [] := List.length_eq_zero_iff.mp (by rw [tr.state.flen]; exact h0)
    rw [this, hp]; rfl
  · have hne : g.bins fo ≠ [] := fun he => h0 (by rw [← bins_length fo g, he]; rfl)
    have hr := bins_rising fo g hm
    have hc : consecutiveB (g.bins fo) = true := binsFrom_consecutive _ _ _
    obtain ⟨u, o, hu, ho, hsum⟩ := C01_accounting (g.bins fo) pts hne hr hc
    have m := calc1d_inside_missed (edge := g.edgeAt fo) hm g.tmin g.count pts tr.inside
    rw [← bins_eq_binsFrom, hu, ho] at m
    have hu0 : u = 0 := by simpa using m.1
    have ho0 : o = 0 := by simpa using m.2
    rw [tr.freq]
    rw [hu0, ho0] at hsum
    linarith

/-- **The bins stay contiguous on the original grid**: bin `i` is `[edge (tmin+i), edge (tmin+i+1))`
    with `edge k = fo.edge w shift k` (`k*w + shift` in exact arithmetic). -/
theorem grid_bins_on_grid (fo : FloatOps) (g : Grid) (i : Nat) (hi : i < g.count) :
    (g.bins fo)[i]? = some (fo.edge g.w g.shift (g.tmin + i), fo.edge g.w g.shift (g.tmin + i + 1)) ∧
    consecutiveB (g.bins fo) = true ∧ (g.bins fo).length = g.count := by
  refine ⟨?_, binsFrom_consecutive _ _ _, bins_length fo g⟩
  rw [bins_eq_binsFrom, binsFrom_getElem? _ _ _ _ hi]; rfl

theorem GridTracks.bins_eq {fo : FloatOps} {h : H1} {g : Grid} {pts : List Pt} (tr : GridTracks fo h g pts) :
    h.bins fo = g.bins fo := by
  simp [H1.bins, tr.state.binning, Binning.bins]

/-- **What the invariant says about the state, in the user's terms** (grid on the lattice `(w, s)`).
    The state equals the fixed-bin histogram of the same data over the current bins: contents, squared
    errors, underflow and overflow are those `calc1d` computes from all the data at once; the total is the
    total weight entered; nothing was missed; and every value entered lies inside a bin: `find_bin` reports
    the bin of its cell `k`, and that bin is `[origin + k*width, origin + (k+1)*width)`. -/
theorem GridTracks.report {fo : FloatOps} {h : H1} {g : Grid} {pts : List Pt} (tr : GridTracks fo h g pts)
    {w s : Rat} (hw : g.w = w) (hs : g.shift = s) (hm : EdgeMono fo w s) :
    h.freq = (calc1d (h.bins fo) pts).freq ∧ h.err2 = (calc1d (h.bins fo) pts).err2 ∧
    h.under = (calc1d (h.bins fo) pts).under ∧ h.over = (calc1d (h.bins fo) pts).over ∧
    h.total = wsum pts ∧ h.underflow = some 0 ∧ h.overflow = some 0 ∧
    ∀ p ∈ pts, ∃ k : Int, CellOf (fo.edge w s) p.1 k ∧ g.tmin ≤ k ∧ k < g.tmin + g.count ∧
      h.findBin fo p.1 = .bin (k - g.tmin).toNat ∧
      (h.bins fo)[(k - g.tmin).toNat]? = some (fo.edge w s k, fo.edge w s (k + 1)) := by
  subst hw hs
  have m := calc1d_inside_missed (edge := g.edgeAt fo) hm g.tmin g.count pts tr.inside
  rw [← bins_eq_binsFrom] at m
  unfold H1.findBin
  rw [tr.bins_eq]
  refine ⟨tr.freq, tr.err2, by rw [m.1]; exact tr.under, by rw [m.2]; exact tr.over, tr.total hm, ?_, ?_,
    fun p hp => ?_⟩
  · simp [H1.underflow, tr.state.keep, tr.under]
  · simp [H1.overflow, tr.state.keep, tr.over]
  · obtain ⟨k, hk, h1, h2⟩ := tr.inside p hp
    refine ⟨k, hk, h1, h2, findBinIn_bins fo g hm hk h1 h2, ?_⟩
    rw [bins_eq_binsFrom, binsFrom_getElem? _ _ _ _ (by omega)]
    have : g.tmin + ((k - g.tmin).toNat : Int) = k := by omega
    rw [this]; rfl


/-- the value has a cell, and the estimate of the cell is within the search fuel
    (stated for the width and origin, which never change along a history) -/
def Reach (fo : FloatOps) (w s : Rat) (fuel : Nat) (v : Rat) : Prop :=
  ∃ k : Int, CellOf (fo.edge w s) v k ∧ (fo.est w s v - k).natAbs ≤ fuel

/-- in exact arithmetic every value is reachable with any fuel (the estimate is the cell) -/
theorem reach_exact (w s : Rat) (hw : 0 < w) (fuel : Nat) (v : Rat) : Reach FloatOps.exact w s fuel v :=
  ⟨FloatOps.exact.est w s v, C04_exact_cell w s v hw, by simp⟩

/-- **The final range is exactly the hull** of the initial range (if any) and the cells of the values
    entered: same width and origin, the initial range and every cell are contained, and both ends are
    attained — the low end is the initial low end or the cell of a value entered, same for the high end.
    Nothing entered: nothing changes. -/
structure SpanHull (edge : Int → Rat) (g g' : Grid) (vs : List Rat) : Prop where
  w : g'.w = g.w
  shift : g'.shift = g.shift
  keepLo : 0 < g.count → g'.tmin ≤ g.tmin
  keepHi : 0 < g.count → g.tmin + g.count ≤ g'.tmin + g'.count
  covers : ∀ v ∈ vs, ∃ k : Int, CellOf edge v k ∧ g'.tmin ≤ k ∧ k < g'.tmin + g'.count
  pos : 0 < g.count ∨ vs ≠ [] → 0 < g'.count
  loTight : 0 < g'.count → (0 < g.count ∧ g'.tmin = g.tmin) ∨ ∃ v ∈ vs, CellOf edge v g'.tmin
  hiTight : 0 < g'.count → (0 < g.count ∧ g'.tmin + g'.count = g.tmin + g.count) ∨
    ∃ v ∈ vs, CellOf edge v (g'.tmin + g'.count - 1)
  stay : vs = [] → g'.tmin = g.tmin ∧ g'.count = g.count

theorem SpanHull.refl (edge : Int → Rat) (g : Grid) : SpanHull edge g g [] := by
  refine ⟨rfl, rfl, fun _ => le_refl _, fun _ => le_refl _, ?_, ?_, fun h => Or.inl ⟨h, rfl⟩,
    fun h => Or.inl ⟨h, rfl⟩, fun _ => ⟨rfl, rfl⟩⟩
  · intro v hv; cases hv
  · intro h
    rcases h with h | h
    · exact h
    · exact (h rfl).elim

theorem SpanHull.trans {edge : Int → Rat} {g g1 g' : Grid} {vs1 vs2 : List Rat}
    (a : SpanHull edge g g1 vs1) (b : SpanHull edge g1 g' vs2) : SpanHull edge g g' (vs1 ++ vs2) := by
  refine ⟨b.w.trans a.w, b.shift.trans a.shift, ?_, ?_, ?_, ?_, ?_, ?_, ?_⟩
  · intro hp
    have := a.keepLo hp
    have := b.keepLo (a.pos (Or.inl hp))
    omega
  · intro hp
    have := a.keepHi hp
    have := b.keepHi (a.pos (Or.inl hp))
    omega
  · intro v hv
    rcases List.mem_append.mp hv with hv | hv
    · obtain ⟨k, hk, h1, h2⟩ := a.covers v hv
      have hp1 : 0 < g1.count := a.pos (Or.inr (List.ne_nil_of_mem hv))
      have := b.keepLo hp1
      have := b.keepHi hp1
      exact ⟨k, hk, by omega, by omega⟩
    · exact b.covers v hv
  · rintro (hp | hp)
    · exact b.pos (Or.inl (a.pos (Or.inl hp)))
    · cases vs1 with
      | nil => exact b.pos (Or.inr hp)
      | cons x xs => exact b.pos (Or.inl (a.pos (Or.inr (List.cons_ne_nil x xs))))
  · intro hp
    rcases b.loTight hp with ⟨hp1, he⟩ | ⟨v, hv, hc⟩
    · rcases a.loTight hp1 with ⟨hp0, he0⟩ | ⟨v, hv, hc⟩
      · left; exact ⟨hp0, he.trans he0⟩
      · right; exact ⟨v, List.mem_append_left _ hv, by rw [he]; exact hc⟩
    · right; exact ⟨v, List.mem_append_right _ hv, hc⟩
  · intro hp
    rcases b.hiTight hp with ⟨hp1, he⟩ | ⟨v, hv, hc⟩
    · rcases a.hiTight hp1 with ⟨hp0, he0⟩ | ⟨v, hv, hc⟩
      · left; exact ⟨hp0, he.trans he0⟩
      · right; exact ⟨v, List.mem_append_left _ hv, by rw [he]; exact hc⟩
    · right; exact ⟨v, List.mem_append_right _ hv, hc⟩
  · intro he
    obtain ⟨h1, h2⟩ := List.append_eq_nil_iff.mp he
    have := a.stay h1
    have := b.stay h2
    omega

/-- one growth step is the hull of the old range and the cell of the value -/
theorem SpanHull.single {edge : Int → Rat} {g g1 : Grid} {v : Rat} {k : Int}
    (hk : CellOf edge v k) (hw : g1.w = g.w) (hs : g1.shift = g.shift)
    (hpos : 0 < g.count → g1.tmin = min g.tmin k ∧ g1.tmin + g1.count = max (g.tmin + g.count) (k + 1))
    (hzero : g.count = 0 → g1.tmin = k ∧ g1.count = 1) : SpanHull edge g g1 [v] := by
  have hin : g1.tmin ≤ k ∧ k < g1.tmin + g1.count ∧ (g1.tmin = k ∨ 0 < g.count ∧ g1.tmin = g.tmin) ∧
      (g1.tmin + g1.count - 1 = k ∨ 0 < g.count ∧ g1.tmin + g1.count = g.tmin + g.count) ∧
      (0 < g.count → g1.tmin ≤ g.tmin ∧ g.tmin + g.count ≤ g1.tmin + g1.count) := by
    by_cases h0 : g.count = 0
    · have := hzero h0; omega
    · have := hpos (Nat.pos_of_ne_zero h0); omega
  obtain ⟨hlo, hhi, tlo, thi, hkeep⟩ := hin
  refine ⟨hw, hs, fun hp => (hkeep hp).1, fun hp => (hkeep hp).2, ?_, fun _ => by omega,
    fun _ => tlo.elim (fun e => Or.inr ⟨v, List.mem_singleton_self v, e ▸ hk⟩) Or.inl,
    fun _ => thi.elim (fun e => Or.inr ⟨v, List.mem_singleton_self v, e ▸ hk⟩) Or.inl, fun h => by cases h⟩
  intro x hx
  rw [List.mem_singleton.mp hx]
  exact ⟨k, hk, hlo, hhi⟩

/-- one growth step followed by a hull is a hull -/
theorem SpanHull.step {edge : Int → Rat} {g g1 g' : Grid} {v : Rat} {vs : List Rat} {k : Int}
    (hk : CellOf edge v k) (hw : g1.w = g.w) (hs : g1.shift = g.shift)
    (hpos : 0 < g.count → g1.tmin = min g.tmin k ∧ g1.tmin + g1.count = max (g.tmin + g.count) (k + 1))
    (hzero : g.count = 0 → g1.tmin = k ∧ g1.count = 1)
    (sp : SpanHull edge g1 g' vs) : SpanHull edge g g' (v :: vs) :=
  (SpanHull.single hk hw hs hpos hzero).trans sp

/-- the hull depends only on which values need a cell: further values whose cells are covered anyway
    change nothing -/
theorem SpanHull.of_subset {edge : Int → Rat} {g g' : Grid} {vs vs' : List Rat} (sp : SpanHull edge g g' vs)
    (hsub : ∀ v ∈ vs, v ∈ vs')
    (hcov : ∀ v ∈ vs', ∃ k : Int, CellOf edge v k ∧ g'.tmin ≤ k ∧ k < g'.tmin + g'.count) :
    SpanHull edge g g' vs' := by
  refine ⟨sp.w, sp.shift, sp.keepLo, sp.keepHi, hcov, ?_, ?_, ?_, ?_⟩
  · rintro (hp | hne)
    · exact sp.pos (Or.inl hp)
    · obtain ⟨v, hv⟩ := List.exists_mem_of_ne_nil _ hne
      obtain ⟨k, _, h1, h2⟩ := hcov v hv
      omega
  · intro hp
    rcases sp.loTight hp with h | ⟨v, hv, hc⟩
    · exact Or.inl h
    · exact Or.inr ⟨v, hsub v hv, hc⟩
  · intro hp
    rcases sp.hiTight hp with h | ⟨v, hv, hc⟩
    · exact Or.inl h
    · exact Or.inr ⟨v, hsub v hv, hc⟩
  · rintro rfl
    exact sp.stay (List.eq_nil_iff_forall_not_mem.mpr fun v hv => List.not_mem_nil (hsub v hv))

theorem SpanHull.unique {edge : Int → Rat} (hm : ∀ a b : Int, a < b → edge a < edge b) {g g' g'' : Grid}
    {vs : List Rat} (a : SpanHull edge g g' vs) (b : SpanHull edge g g'' vs) :
    g'.w = g''.w ∧ g'.shift = g''.shift ∧ g'.tmin = g''.tmin ∧ g'.count = g''.count := by
  refine ⟨by rw [a.w, b.w], by rw [a.shift, b.shift], ?_⟩
  by_cases hv : vs = []
  · have := a.stay hv; have := b.stay hv; omega
  · have pa : 0 < g'.count := a.pos (Or.inr hv)
    have pb : 0 < g''.count := b.pos (Or.inr hv)
    have lo : ∀ {x y : Grid}, SpanHull edge g x vs → SpanHull edge g y vs → 0 < x.count → y.tmin ≤ x.tmin := by
      intro x y sx sy px
      rcases sx.loTight px with ⟨hp, he⟩ | ⟨v, hv, hc⟩
      · have := sy.keepLo hp; omega
      · obtain ⟨k, hk, h1, _⟩ := sy.covers v hv
        have := cell_unique hm hk hc
        omega
    have hi : ∀ {x y : Grid}, SpanHull edge g x vs → SpanHull edge g y vs → 0 < x.count →
        x.tmin + x.count ≤ y.tmin + y.count := by
      intro x y sx sy px
      rcases sx.hiTight px with ⟨hp, he⟩ | ⟨v, hv, hc⟩
      · have := sy.keepHi hp; omega
      · obtain ⟨k, hk, _, h2⟩ := sy.covers v hv
        have := cell_unique hm hk hc
        omega
    have l1 := lo a b pa
    have l2 := lo b a pb
    have u1 := hi a b pa
    have u2 := hi b a pb
    omega

/-- a history of `fill(value, weight)` calls (each with its own kind of weight) -/
def fillAll (fo : FloatOps) (fuel : Nat) (h : H1) (hist : List (Pt × NumKind)) : H1 :=
  hist.foldl (fun h e => (h.fill fo fuel (some e.1.1) e.1.2 e.2).1) h

theorem forceMany_nil (fo : FloatOps) (fuel : Nat) (g : Grid) (ire : Bool) :
    g.forceMany fo fuel [] ire = (g, .noChange) := rfl

theorem forceMany_of_min_max (fo : FloatOps) (fuel : Nat) (g : Grid) (vs : List Rat) (ire : Bool) (lo hi : Rat)
    (h1 : listMin vs = some lo) (h2 : listMax vs = some hi) :
    g.forceMany fo fuel vs ire
      = (((g.forceSingle fo fuel lo g.ire).1.forceSingle fo fuel hi ire).1,
         if (g.forceSingle fo fuel lo g.ire).2 = .noChange
         then ((g.forceSingle fo fuel lo g.ire).1.forceSingle fo fuel hi ire).2
         else (g.forceSingle fo fuel lo g.ire).2) := by
  unfold forceMany
  rw [h1, h2]

/-- **`_force_bin_existence` for an array.**  It is NOT a fold of the single-value routine over the
    array: it calls the single-value routine twice, for the minimum and for the maximum.  The result is
    nevertheless the hull of the old range and the cells of ALL the values (cells are monotone in the
    value), and the reshape instruction handed to `_reshape_data` is the right one for that growth. -/
theorem forceMany_spec (fo : FloatOps) (fuel : Nat) (g : Grid) (halign : g.align = true) (hire : g.ire = false)
    (hm : EdgeMono fo g.w g.shift) (vals : List Rat) (hreach : ∀ v ∈ vals, Reach fo g.w g.shift fuel v) :
    (g.forceMany fo fuel vals g.ire).1.align = g.align ∧
    (g.forceMany fo fuel vals g.ire).1.adaptive = g.adaptive ∧
    (g.forceMany fo fuel vals g.ire).1.ire = g.ire ∧
    ReshapeOK g (g.forceMany fo fuel vals g.ire).1 (g.forceMany fo fuel vals g.ire).2 ∧
    SpanHull (fo.edge g.w g.shift) g (g.forceMany fo fuel vals g.ire).1 vals := by
  cases vals with
  | nil =>
    rw [forceMany_nil]
    exact ⟨rfl, rfl, rfl, ReshapeOK.refl g, SpanHull.refl _ g⟩
  | cons x xs =>
    obtain ⟨lo, hi, hmin, hmax, hlomem, himem, hbound⟩ := listMin_listMax_spec (x :: xs) (List.cons_ne_nil x xs)
    rw [forceMany_of_min_max fo fuel g (x :: xs) g.ire lo hi hmin hmax, hire]
    obtain ⟨klo, hklo, hflo⟩ := hreach lo hlomem
    obtain ⟨khi, hkhi, hfhi⟩ := hreach hi himem
    have hkk : klo ≤ khi := cell_mono hm hklo hkhi ((hbound lo hlomem).2)
    obtain ⟨g1, r1, e1, hw1, hs1, hal1, had1, hire1, ok1, sp1⟩ :=
      forceSingle_spec fo fuel g lo klo (fun _ => halign) hm hklo hflo
    obtain ⟨g2, r2, e2, hw2, hs2, hal2, had2, hire2, ok2, sp2⟩ :=
      forceSingle_spec fo fuel g1 hi khi (fun _ => hal1.trans halign) (by rw [hw1, hs1]; exact hm)
        (by rw [edgeAt_congr fo hw1 hs1]; exact hkhi) (by rw [hw1, hs1]; exact hfhi)
    simp only [e1, e2]
    obtain ⟨hlo1, hhi1, hzero1, hpos1⟩ := span_hull_cell.mp sp1
    obtain ⟨hlo2, hhi2, hzero2, hpos2⟩ := span_hull_cell.mp sp2
    have h1pos : 0 < g1.count := by omega
    have hh2 := hpos2 h1pos
    refine ⟨hal2.trans hal1, had2.trans had1, hire2.trans (hire1.trans hire), ok1.comp ok2 h1pos (by omega), ?_⟩
    -- the hull of the two extreme values is the hull of all: cells are monotone in the value
    refine ((SpanHull.single hklo hw1 hs1 hpos1 hzero1).trans
      (SpanHull.single hkhi hw2 hs2 hpos2 hzero2)).of_subset ?_ ?_
    · intro v hv
      rcases List.mem_cons.mp hv with rfl | hv
      · exact hlomem
      · rw [List.mem_singleton.mp hv]; exact himem
    · intro v hv
      obtain ⟨k, hk, _⟩ := hreach v hv
      have b := hbound v hv
      have := cell_mono hm hklo hk b.1
      have := cell_mono hm hk hkhi b.2
      exact ⟨k, hk, by omega, by omega⟩

/-- the adaptation step of `fill_n` keeps the invariant; the new range is the hull -/
theorem gridTracks_adapt_many (fo : FloatOps) (fuel : Nat) (h : H1) (g : Grid) (pts : List Pt)
    (tr : GridTracks fo h g pts) (hm : EdgeMono fo g.w g.shift) (vals : List Rat)
    (hreach : ∀ v ∈ vals, Reach fo g.w g.shift fuel v) :
    ∃ g' : Grid, GridTracks fo (h.adapt fo fuel vals false) g' pts ∧ SpanHull (fo.edge g.w g.shift) g g' vals := by
  have st := tr.state
  obtain ⟨hal, had, hire, ok, sp⟩ := forceMany_spec fo fuel g st.align st.ire hm vals hreach
  rw [adapt_fixed fo fuel h g st.binning st.adaptive]
  exact ⟨_, gridTracks_regrid fo h g pts tr hm _ _ sp.w sp.shift hal had hire ok, sp⟩

theorem gridTracks_coerce {fo : FloatOps} {h : H1} {g : Grid} {pts : List Pt} (tr : GridTracks fo h g pts)
    (d : DType) : GridTracks fo (h.coerce d) g pts :=
  ⟨⟨tr.state.binning, tr.state.adaptive, tr.state.align, tr.state.ire, tr.state.keep, tr.state.flen,
    tr.state.elen⟩, tr.freq, tr.err2, tr.under, tr.over, tr.inside⟩

/-- the counting core of `fill_n` on data inside the grid extends the tracked data by the batch -/
theorem gridTracks_fillData (fo : FloatOps) (h : H1) (g : Grid) (pts : List Pt) (tr : GridTracks fo h g pts)
    (hm : EdgeMono fo g.w g.shift) (d : List Pt) (hin : Inside (g.edgeAt fo) g.tmin g.count d) :
    GridTracks fo (h.fillData fo d) g (pts ++ d) := by
  have m := calc1d_inside_missed (edge := g.edgeAt fo) hm g.tmin g.count d hin
  rw [← bins_eq_binsFrom] at m
  refine tr.append hm hin rfl rfl ?_ ?_ ?_ ?_
  · simp only [fillData, tr.bins_eq]
  · simp only [fillData, tr.bins_eq]
  · simp only [fillData, tr.bins_eq, tr.state.keep, if_true]
    rw [m.1, tr.under]; exact nadd_zero _
  · simp only [fillData, tr.bins_eq, tr.state.keep, if_true]
    rw [m.2, tr.over]; exact nadd_zero _

/-- the values of the masked data are the non-NaN values -/
theorem maskPts_values (vs : List (Option Rat)) (ws : Option (List Rat)) (hok : weightsShapeOk vs ws = true) :
    (maskPts vs ws).map (·.1) = vs.filterMap id := by
  cases ws with
  | none => rw [C01_nan_unweighted]; simp [List.map_map, Function.comp_def]
  | some w =>
    have hl : w.length = vs.length := by simpa [weightsShapeOk] using hok
    clear hok
    induction vs generalizing w with
    | nil => simp [maskPts]
    | cons v vs ih =>
      cases w with
      | nil => simp at hl
      | cons x xs =>
        have hl' : xs.length = vs.length := by simpa using hl
        cases v <;> simp [maskPts, ih xs hl']

/-- `fill_n` with weights of the right shape: grow the grid, promote the dtype if weights are given, count -/
theorem fillN_ok_eq (fo : FloatOps) (fuel : Nat) (h : H1) (vs : List (Option Rat)) (ws : Option (List Rat))
    (wkind : DType) (hok : weightsShapeOk vs ws = true) :
    h.fillN fo fuel vs ws wkind =
      .ok ((if ws.isSome then (h.adapt fo fuel (vs.filterMap id) false).coerce wkind
            else h.adapt fo fuel (vs.filterMap id) false).fillData fo (maskPts vs ws)) := by
  simp only [fillN, hok, Bool.not_true, Bool.false_eq_true, if_false]
  rfl

/-- **One `fill_n` batch keeps the invariant.**  With weights of the right shape and reachable
    values, `fill_n(values, weights)` is accepted; the new state holds the fixed-bin histogram of the old
    data followed by the (NaN-masked) batch, over the grown bins; the new range is the hull of the old
    range and the cells of the batch. -/
theorem gridTracks_fillN (fo : FloatOps) (fuel : Nat) (h : H1) (g : Grid) (pts : List Pt)
    (tr : GridTracks fo h g pts) (hm : EdgeMono fo g.w g.shift) (vs : List (Option Rat))
    (ws : Option (List Rat)) (wkind : DType) (hok : weightsShapeOk vs ws = true)
    (hreach : ∀ p ∈ maskPts vs ws, Reach fo g.w g.shift fuel p.1) :
    ∃ (h' : H1) (g' : Grid), h.fillN fo fuel vs ws wkind = .ok h' ∧
      GridTracks fo h' g' (pts ++ maskPts vs ws) ∧
      SpanHull (fo.edge g.w g.shift) g g' ((maskPts vs ws).map (·.1)) := by
  rw [fillN_ok_eq fo fuel h vs ws wkind hok, ← maskPts_values vs ws hok]
  obtain ⟨g', tr1, sp⟩ := gridTracks_adapt_many fo fuel h g pts tr hm _ fun v hv => by
    obtain ⟨p, hp, rfl⟩ := List.mem_map.mp hv
    exact hreach p hp
  have hm' : EdgeMono fo g'.w g'.shift := by rw [sp.w, sp.shift]; exact hm
  have hin : Inside (g'.edgeAt fo) g'.tmin g'.count (maskPts vs ws) := by
    intro p hp
    obtain ⟨k, hk, h1, h2⟩ := sp.covers p.1 (List.mem_map_of_mem hp)
    exact ⟨k, by rw [edgeAt_congr fo sp.w sp.shift]; exact hk, h1, h2⟩
  refine ⟨_, g', rfl, gridTracks_fillData fo _ g' pts ?_ hm' _ hin, sp⟩
  split
  · exact gridTracks_coerce tr1 wkind
  · exact tr1

theorem grid_ext {a b : Grid} (h1 : a.w = b.w) (h2 : a.shift = b.shift) (h3 : a.tmin = b.tmin)
    (h4 : a.count = b.count) (h5 : a.align = b.align) (h6 : a.adaptive = b.adaptive) (h7 : a.ire = b.ire) :
    a = b := by
  cases a; cases b; simp_all

/-- two states that track the same data over hulls of the same values are on the same grid and have the
    same contents -/
theorem gridTracks_agree {fo : FloatOps} {h1 h2 : H1} {g g1 g2 : Grid} {pts : List Pt} {vals : List Rat}
    (hm : EdgeMono fo g.w g.shift) (t1 : GridTracks fo h1 g1 pts) (t2 : GridTracks fo h2 g2 pts)
    (s1 : SpanHull (fo.edge g.w g.shift) g g1 vals) (s2 : SpanHull (fo.edge g.w g.shift) g g2 vals) :
    g1 = g2 ∧ h1.binning = h2.binning ∧ h1.freq = h2.freq ∧ h1.err2 = h2.err2 ∧ h1.under = h2.under ∧
      h1.over = h2.over ∧ h1.keep = h2.keep := by
  obtain ⟨e1, e2, e3, e4⟩ := s1.unique hm s2
  have hg : g1 = g2 := grid_ext e1 e2 e3 e4 (by rw [t1.state.align, t2.state.align])
    (by rw [t1.state.adaptive, t2.state.adaptive]) (by rw [t1.state.ire, t2.state.ire])
  subst hg
  exact ⟨rfl, by rw [t1.state.binning, t2.state.binning], by rw [t1.freq, t2.freq], by rw [t1.err2, t2.err2],
    by rw [t1.under, t2.under], by rw [t1.over, t2.over], by rw [t1.state.keep, t2.state.keep]⟩

/-- one call: `fill(value, weight)` (`value = none` is NaN) or `fill_n(values, weights)` -/
inductive FillOp
  | one (v : Option Rat) (w : Rat) (wk : NumKind)
  | many (vs : List (Option Rat)) (ws : Option (List Rat)) (wkind : DType)

/-- the (value, weight) pairs a call enters (NaN entries are skipped together with their weights) -/
def FillOp.pts : FillOp → List Pt
  | .one none _ _ => []
  | .one (some v) w _ => [(v, w)]
  | .many vs ws _ => maskPts vs ws

/-- the call is well-formed: the weights of a batch have the shape of the values -/
def FillOp.ok : FillOp → Bool
  | .one _ _ _ => true
  | .many vs ws _ => weightsShapeOk vs ws

def FillOp.run (fo : FloatOps) (fuel : Nat) (h : H1) : FillOp → R H1
  | .one v w wk => pure (h.fill fo fuel v w wk).1
  | .many vs ws wkind => h.fillN fo fuel vs ws wkind

def runOps (fo : FloatOps) (fuel : Nat) (h : H1) : List FillOp → R H1
  | [] => pure h
  | op :: ops => do
    let h' ← op.run fo fuel h
    runOps fo fuel h' ops

/-- all the pairs a list of calls enters, in order -/
def opsPts (ops : List FillOp) : List Pt := (ops.map FillOp.pts).flatten

theorem opsPts_cons (op : FillOp) (ops : List FillOp) : opsPts (op :: ops) = op.pts ++ opsPts ops := rfl

theorem gridTracks_op (fo : FloatOps) (fuel : Nat) (h : H1) (g : Grid) (pts : List Pt)
    (tr : GridTracks fo h g pts) (hm : EdgeMono fo g.w g.shift) (op : FillOp) (hok : op.ok = true)
    (hreach : ∀ p ∈ op.pts, Reach fo g.w g.shift fuel p.1) :
    ∃ (h' : H1) (g' : Grid), op.run fo fuel h = .ok h' ∧ GridTracks fo h' g' (pts ++ op.pts) ∧
      SpanHull (fo.edge g.w g.shift) g g' (op.pts.map (·.1)) := by
  cases op with
  | one v w wk =>
    cases v with
    | none => exact ⟨h, g, rfl, by simpa [FillOp.pts] using tr, SpanHull.refl _ g⟩
    | some v =>
      obtain ⟨k, hk, hf⟩ := hreach (v, w) (by simp [FillOp.pts])
      obtain ⟨g1, tr1, hw1, hs1, hsp, _⟩ := gridTracks_fill fo fuel h g pts tr v w wk k hm hk hf
      obtain ⟨_, _, hzero, hpos⟩ := span_hull_cell.mp hsp
      exact ⟨_, g1, rfl, tr1, SpanHull.single hk hw1 hs1 hpos hzero⟩
  | many vs ws wkind => exact gridTracks_fillN fo fuel h g pts tr hm vs ws wkind hok hreach

/-- **ANY sequence of `fill` / `fill_n` calls keeps the invariant.**  Every call is accepted, the final
    state holds the fixed-bin histogram of everything entered over the final bins, and the final range
    is the hull of the initial range and the cells of all values entered. -/
theorem gridTracks_ops (fo : FloatOps) (fuel : Nat) (w s : Rat) (hm : EdgeMono fo w s) (ops : List FillOp)
    (hok : ∀ op ∈ ops, op.ok = true) (hreach : ∀ p ∈ opsPts ops, Reach fo w s fuel p.1)
    (h : H1) (g : Grid) (pts : List Pt) (hw : g.w = w) (hs : g.shift = s) (tr : GridTracks fo h g pts) :
    ∃ (h' : H1) (g' : Grid), runOps fo fuel h ops = .ok h' ∧ GridTracks fo h' g' (pts ++ opsPts ops) ∧
      SpanHull (fo.edge w s) g g' ((opsPts ops).map (·.1)) := by
  induction ops generalizing h g pts with
  | nil => exact ⟨h, g, rfl, by simpa [opsPts] using tr, by simpa [opsPts] using SpanHull.refl _ g⟩
  | cons op ops ih =>
    rw [opsPts_cons] at hreach
    rw [opsPts_cons, List.map_append, ← List.append_assoc]
    have hm' : EdgeMono fo g.w g.shift := by rw [hw, hs]; exact hm
    obtain ⟨h1, g1, e1, tr1, sp1⟩ := gridTracks_op fo fuel h g pts tr hm' op (hok op (List.mem_cons_self ..))
      fun p hp => by rw [hw, hs]; exact hreach p (List.mem_append_left _ hp)
    rw [hw, hs] at sp1
    obtain ⟨h', g', e', tr', sp'⟩ := ih (fun o ho => hok o (List.mem_cons_of_mem _ ho))
      (fun p hp => hreach p (List.mem_append_right _ hp)) h1 g1 (pts ++ op.pts) (sp1.w.trans hw)
      (sp1.shift.trans hs) tr1
    exact ⟨h', g', by simp only [runOps, e1]; exact e', tr', sp1.trans sp'⟩

theorem runOps_ones (fo : FloatOps) (fuel : Nat) (h : H1) (hist : List (Pt × NumKind)) :
    runOps fo fuel h (hist.map fun e => .one (some e.1.1) e.1.2 e.2) = .ok (fillAll fo fuel h hist) := by
  induction hist generalizing h with
  | nil => rfl
  | cons e es ih => exact ih _

theorem opsPts_ones (hist : List (Pt × NumKind)) :
    opsPts (hist.map fun e => .one (some e.1.1) e.1.2 e.2) = hist.map (·.1) := by
  induction hist with
  | nil => rfl
  | cons e es ih =>
    show (e.1.1, e.1.2) :: opsPts (es.map fun e => .one (some e.1.1) e.1.2 e.2) = e.1 :: es.map (·.1)
    rw [ih]

/-- **Any history of fills keeps the invariant.**  From a state that holds the fixed-bin histogram of
    `pts` (in particular the empty adaptive histogram, `gridTracks_empty`), after any list of fills whose
    values are reachable within the fuel, the state holds the fixed-bin histogram of `pts` followed by
    everything entered, over the final bins, and the final range is exactly the hull of the initial range
    and the cells of the values entered. -/
theorem gridTracks_history (fo : FloatOps) (fuel : Nat) (w s : Rat) (hm : EdgeMono fo w s)
    (hist : List (Pt × NumKind)) (hreach : ∀ e ∈ hist, Reach fo w s fuel e.1.1)
    (h : H1) (g : Grid) (pts : List Pt) (hw : g.w = w) (hs : g.shift = s) (tr : GridTracks fo h g pts) :
    ∃ g' : Grid, GridTracks fo (fillAll fo fuel h hist) g' (pts ++ hist.map (·.1)) ∧
      SpanHull (fo.edge w s) g g' (hist.map (·.1.1)) := by
  obtain ⟨h', g', e, tr', sp⟩ := gridTracks_ops fo fuel w s hm (hist.map fun e => .one (some e.1.1) e.1.2 e.2)
    (fun op hop => by obtain ⟨e, _, rfl⟩ := List.mem_map.mp hop; rfl)
    (by
      rw [opsPts_ones]
      intro p hp
      obtain ⟨e, he, rfl⟩ := List.mem_map.mp hp
      exact hreach e he) h g pts hw hs tr
  rw [runOps_ones] at e
  cases e
  rw [opsPts_ones] at tr' sp
  rw [List.map_map] at sp
  exact ⟨g', tr', sp⟩

/-- **C04 for histories of fills.**  After ANY list of `fill` calls (reachable values) on a state that
    tracks `pts`: the state equals the fixed-bin histogram of all the data over the final bins (contents,
    squared errors, underflow, overflow), the total is the initial total plus the weights entered,
    underflow and overflow are zero, every value entered is found in the bin of its cell on the original
    grid (`origin + k*width`), and the final range is the hull (`SpanHull`). -/
theorem C04_history (fo : FloatOps) (fuel : Nat) (w s : Rat) (hm : EdgeMono fo w s)
    (hist : List (Pt × NumKind)) (hreach : ∀ e ∈ hist, Reach fo w s fuel e.1.1)
    (h : H1) (g : Grid) (pts : List Pt) (hw : g.w = w) (hs : g.shift = s) (tr : GridTracks fo h g pts) :
    ∃ g' : Grid, GridTracks fo (fillAll fo fuel h hist) g' (pts ++ hist.map (·.1)) ∧
      SpanHull (fo.edge w s) g g' (hist.map (·.1.1)) ∧
      (fillAll fo fuel h hist).freq = (calc1d (g'.bins fo) (pts ++ hist.map (·.1))).freq ∧
      (fillAll fo fuel h hist).err2 = (calc1d (g'.bins fo) (pts ++ hist.map (·.1))).err2 ∧
      (fillAll fo fuel h hist).under = (calc1d (g'.bins fo) (pts ++ hist.map (·.1))).under ∧
      (fillAll fo fuel h hist).over = (calc1d (g'.bins fo) (pts ++ hist.map (·.1))).over ∧
      (fillAll fo fuel h hist).total = h.total + wsum (hist.map (·.1)) ∧
      (fillAll fo fuel h hist).underflow = some 0 ∧ (fillAll fo fuel h hist).overflow = some 0 ∧
      (∀ p ∈ pts ++ hist.map (·.1), ∃ k : Int, CellOf (fo.edge w s) p.1 k ∧ g'.tmin ≤ k ∧ k < g'.tmin + g'.count ∧
        findBinIn (g'.bins fo) p.1 = .bin (k - g'.tmin).toNat ∧
        (g'.bins fo)[(k - g'.tmin).toNat]? = some (fo.edge w s k, fo.edge w s (k + 1))) := by
  obtain ⟨g', tr', sp⟩ := gridTracks_history fo fuel w s hm hist hreach h g pts hw hs tr
  obtain ⟨e1, e2, e3, e4, e5, e6, e7, e8⟩ := tr'.report (sp.w.trans hw) (sp.shift.trans hs) hm
  simp only [H1.findBin, tr'.bins_eq] at e1 e2 e3 e4 e8
  exact ⟨g', tr', sp, e1, e2, e3, e4, by rw [e5, (tr.report hw hs hm).2.2.2.2.1, wsum_append], e6, e7, e8⟩

/-- The hypotheses are satisfiable for a non-trivial history: exact arithmetic, width 1/10, the values
    17/10 (cell 17), -3/10 (cell -3: growth to the left) and 5 (cell 50: growth to the right). -/
example :
    let g : Grid := { w := 1 / 10, adaptive := true }
    let hist : List (Pt × NumKind) := [((17 / 10, 1), .pyInt), ((-3 / 10, 2), .pyFloat), ((5, 1 / 2), .pyInt)]
    EdgeMono FloatOps.exact g.w g.shift ∧ (∀ e ∈ hist, Reach FloatOps.exact g.w g.shift 4 e.1.1) ∧
    GridTracks FloatOps.exact (H1.empty FloatOps.exact (.fixed g) true none) g [] ∧
    CellOf (FloatOps.exact.edge g.w g.shift) (17 / 10) 17 ∧ CellOf (FloatOps.exact.edge g.w g.shift) (-3 / 10) (-3) ∧
    CellOf (FloatOps.exact.edge g.w g.shift) 5 50 := by
  refine ⟨C04_exact_mono _ _ (by norm_num), fun e _ => reach_exact _ _ (by norm_num) _ _,
    gridTracks_empty _ _ rfl rfl rfl rfl _, ?_, ?_, ?_⟩ <;>
  (simp only [CellOf, FloatOps.exact]; constructor <;> norm_num)

/-- … and the model computes what the theorems say: range `[-3, 51)`, total `7/2`, the weights in the
    bins of cells -3, 17 and 50, nothing missed; the same data as one `fill_n` batch gives the same. -/
example :
    let g : Grid := { w := 1 / 10, adaptive := true }
    let h := fillAll FloatOps.exact 4 (H1.empty FloatOps.exact (.fixed g) true none)
      [((17 / 10, 1), .pyInt), ((-3 / 10, 2), .pyFloat), ((5, 1 / 2), .pyInt)]
    h.binning = .fixed { w := 1 / 10, tmin := -3, count := 54, adaptive := true } ∧ h.total = 7 / 2 ∧
    h.freq[0]? = some 2 ∧ h.freq[20]? = some 1 ∧ h.freq[53]? = some (1 / 2) ∧
    h.under = some 0 ∧ h.over = some 0 ∧
    (H1.fillN FloatOps.exact 4 (H1.empty FloatOps.exact (.fixed g) true none)
      [some (17 / 10), none, some (-3 / 10), some 5] (some [1, 9, 2, 1 / 2]) .f64).map (fun b => (b.binning, b.freq))
      = .ok (h.binning, h.freq) := by
  decide +kernel

/-- **Counterexample for grids with `includes_right_edge` (`ire = true`).**  `GridState` asks for
    `ire = false`, and that is needed: with `ire = true` a value ON an edge beyond the last one is put
    into the (then last, right-closed) bin to its LEFT; when the grid grows further that bin is no longer
    the last one and no longer contains the value.  Width 1, fills 1/2, 2, 7/2: the contents are
    `[1, 1, 0, 1]`, the fixed-bin histogram of the same data over the final bins `[0,1) … [3,4]` is
    `[1, 0, 1, 1]` — and that is also what ONE `fill_n` batch of the same values gives, so with
    `ire = true` neither "equals the fixed-bin histogram over the final bins" nor "batch = singles" holds. -/
example :
    let g : Grid := { w := 1, adaptive := true, ire := true }
    let hist : List (Pt × NumKind) := [((1 / 2, 1), .pyInt), ((2, 1), .pyInt), ((7 / 2, 1), .pyInt)]
    let h := fillAll FloatOps.exact 4 (H1.empty FloatOps.exact (.fixed g) true none) hist
    h.binning = .fixed { w := 1, tmin := 0, count := 4, adaptive := true, ire := true } ∧
    h.freq = [1, 1, 0, 1] ∧ (calc1d (h.bins FloatOps.exact) (hist.map (·.1))).freq = [1, 0, 1, 1] ∧
    (H1.fillN FloatOps.exact 4 (H1.empty FloatOps.exact (.fixed g) true none)
      [some (1 / 2), some 2, some (7 / 2)] none .i64).map (fun b => (b.binning, b.freq))
      = .ok (h.binning, [1, 0, 1, 1]) := by
  decide +kernel

/-- **The alignment flag.**  `GridState` asks for `align = true`; with `align = false` the FIRST value
    entered into an empty grid moves the origin (`shift`) onto that value, so `g'.shift = g.shift` fails for
    the first fill (from then on the grid is non-empty and the flag is never read again). -/
example :
    let g : Grid := { w := 1, adaptive := true, align := false }
    (fillAll FloatOps.exact 4 (H1.empty FloatOps.exact (.fixed g) true none) [((1 / 2, 1), .pyInt)]).binning
      = .fixed { w := 1, shift := 1 / 2, tmin := 0, count := 1, adaptive := true, align := false } := by
  decide +kernel

end Physt
