import Physt.Proofs.Paths
import Physt.Theorems.C02
import Physt.Proofs.MaskedEdges
import Physt.Proofs.OpsND
/-!
# N-d paths: `calcND` is additive in the rows; `fill` / `fill_n` track batch construction

The N-d analogue of `Proofs/Paths.lean`, for every number of axes, every shape, every list of rows:
both arrays of `calcND` are `cellSums`, which is additive in the rows and blind to their order; over
non-adaptive axes one `fill` adds the one-row batch, so a histogram reached by any interleaving of
`fill` and `fill_n` (`OpN`) holds what batch construction from the rows entered gives (`TracksN`).
`ExampleND` is a concrete 2-D history.
-/
namespace Physt

theorem Arr.zipWith_ofFn (f : Rat → Rat → Rat) (shape : List Nat) (g1 g2 : List Nat → Rat) :
    Arr.zipWith f (Arr.ofFn shape g1) (Arr.ofFn shape g2) = Arr.ofFn shape fun i => f (g1 i) (g2 i) := by
  simp only [Arr.zipWith, Arr.ofFn, List.zipWith_map, List.zipWith_self]

theorem Arr.ofFn_congr (shape : List Nat) (g1 g2 : List Nat → Rat) (h : ∀ i, g1 i = g2 i) :
    Arr.ofFn shape g1 = Arr.ofFn shape g2 := congrArg _ (funext h)

theorem Arr.total_zipWith_ofFn (shape : List Nat) (g1 g2 : List Nat → Rat) :
    (Arr.zipWith (· + ·) (Arr.ofFn shape g1) (Arr.ofFn shape g2)).total
      = (Arr.ofFn shape g1).total + (Arr.ofFn shape g2).total := by
  rw [Arr.zipWith_ofFn]
  exact List.sum_map_add

theorem Arr.total_zeros (shape : List Nat) : (Arr.zeros shape).total = 0 := List.sum_map_zero

def Arr.HasShape (a : Arr) (s : List Nat) : Prop := a.shape = s ∧ a.data.length = prodL s

theorem Arr.hasShape_ofFn (shape : List Nat) (g : List Nat → Rat) : (Arr.ofFn shape g).HasShape shape :=
  ⟨rfl, by simp [Arr.ofFn, allIdx_length]⟩

theorem Arr.hasShape_zeros (s : List Nat) : (Arr.zeros s).HasShape s := Arr.hasShape_ofFn _ _

theorem Arr.hasShape_zipWith (f : Rat → Rat → Rat) (a b : Arr) (s : List Nat) (ha : a.HasShape s)
    (hb : b.HasShape s) : (Arr.zipWith f a b).HasShape s :=
  ⟨ha.1, by simp [Arr.zipWith, ha.2, hb.2]⟩

theorem Arr.zipWith_zeros_right (a : Arr) (s : List Nat) (ha : a.HasShape s) :
    Arr.zipWith (· + ·) a (Arr.zeros s) = a := by
  obtain ⟨sh, d⟩ := a
  rw [Arr.zipWith, Arr.zeros, Arr.ofFn, List.map_const', allIdx_length, ← ha.2]
  exact congrArg (Arr.mk sh) (zipAdd_zeros_right d)

/-! ## `calcND` is additive -/

/-- The array of per-cell sums of `g weight` over the rows: `calcND`'s contents for `g w = w`, its
    squared errors for `g w = w * w`. -/
def cellSums (axes : AxesB) (g : Rat → Rat) (rows : List Row) : Arr :=
  Arr.ofFn (axes.map (·.1.length)) fun idx =>
    (((rows.map fun r => (rowCell axes r.1, r.2)).filter fun c => c.1 == some idx).map fun c => g c.2).sum

theorem cellSums_append (axes : AxesB) (g : Rat → Rat) (a b : List Row) :
    cellSums axes g (a ++ b) = Arr.zipWith (· + ·) (cellSums axes g a) (cellSums axes g b) := by
  simp only [cellSums, Arr.zipWith_ofFn, List.map_append, List.filter_append, List.sum_append]

theorem cellSums_perm (axes : AxesB) (g : Rat → Rat) {a b : List Row} (hp : a.Perm b) :
    cellSums axes g a = cellSums axes g b :=
  Arr.ofFn_congr _ _ _ fun _ => (((hp.map _).filter _).map _).sum_eq

theorem calcND_nil (axes : AxesB) :
    (calcND axes []).freq = Arr.zeros (axes.map (·.1.length)) ∧
    (calcND axes []).err2 = Arr.zeros (axes.map (·.1.length)) ∧
    (calcND axes []).missing = 0 := by
  refine ⟨rfl, rfl, ?_⟩
  show ([] : List Rat).sum - (Arr.zeros (axes.map (·.1.length))).total = 0
  rw [Arr.total_zeros]; simp

theorem calcND_freq_hasShape (axes : AxesB) (rows : List Row) :
    (calcND axes rows).freq.HasShape (axes.map (·.1.length)) := Arr.hasShape_ofFn _ _

theorem calcND_err2_hasShape (axes : AxesB) (rows : List Row) :
    (calcND axes rows).err2.HasShape (axes.map (·.1.length)) := Arr.hasShape_ofFn _ _

theorem calcND_append_freq (axes : AxesB) (a b : List Row) :
    (calcND axes (a ++ b)).freq = Arr.zipWith (· + ·) (calcND axes a).freq (calcND axes b).freq :=
  cellSums_append axes (fun w => w) a b

theorem calcND_append_err2 (axes : AxesB) (a b : List Row) :
    (calcND axes (a ++ b)).err2 = Arr.zipWith (· + ·) (calcND axes a).err2 (calcND axes b).err2 :=
  cellSums_append axes (fun w => w * w) a b

theorem calcND_missing (axes : AxesB) (rows : List Row) :
    (calcND axes rows).missing = (rows.map (·.2)).sum - (cellSums axes (fun w => w) rows).total := rfl

theorem calcND_append_missing (axes : AxesB) (a b : List Row) :
    (calcND axes (a ++ b)).missing = (calcND axes a).missing + (calcND axes b).missing := by
  have ht : (cellSums axes (fun w => w) (a ++ b)).total
      = (cellSums axes (fun w => w) a).total + (cellSums axes (fun w => w) b).total := by
    rw [cellSums_append]
    exact Arr.total_zipWith_ofFn _ _ _
  rw [calcND_missing, calcND_missing, calcND_missing, ht, List.map_append, List.sum_append]
  ring

theorem calcND_append (axes : AxesB) (a b : List Row) :
    (calcND axes (a ++ b)).freq = Arr.zipWith (· + ·) (calcND axes a).freq (calcND axes b).freq ∧
    (calcND axes (a ++ b)).err2 = Arr.zipWith (· + ·) (calcND axes a).err2 (calcND axes b).err2 ∧
    (calcND axes (a ++ b)).missing = (calcND axes a).missing + (calcND axes b).missing :=
  ⟨calcND_append_freq axes a b, calcND_append_err2 axes a b, calcND_append_missing axes a b⟩

theorem calcND_perm (axes : AxesB) (a b : List Row) (hp : a.Perm b) : calcND axes a = calcND axes b := by
  have hf : (calcND axes a).freq = (calcND axes b).freq := cellSums_perm axes (fun w => w) hp
  have he : (calcND axes a).err2 = (calcND axes b).err2 := cellSums_perm axes (fun w => w * w) hp
  have hm : (calcND axes a).missing = (calcND axes b).missing := by
    rw [calcND_missing, calcND_missing, cellSums_perm axes _ hp, (hp.map _).sum_eq]
  cases ha : calcND axes a
  cases hb : calcND axes b
  simp only [ha, hb] at hf he hm
  simp [hf, he, hm]

/-! ## positions in the flat list -/

theorem allIdx_unravel (shape : List Nat) (p : Nat) (hp : p < prodL shape) :
    ∃ idx, (allIdx shape)[p]? = some idx ∧ validIdx shape idx = true ∧ ravel shape idx = p := by
  induction shape generalizing p with
  | nil =>
    have : p = 0 := by simpa [prodL] using hp
    subst this; exact ⟨[], rfl, rfl, rfl⟩
  | cons n rest ih =>
    simp only [prodL] at hp
    have hm : 0 < prodL rest := by
      rcases Nat.eq_zero_or_pos (prodL rest) with h | h
      · rw [h] at hp; simp at hp
      · exact h
    have hr : p % prodL rest < prodL rest := Nat.mod_lt _ hm
    have hi : p / prodL rest < n := by
      rw [Nat.div_lt_iff_lt_mul hm]; exact hp
    have hpe : (p / prodL rest) * prodL rest + p % prodL rest = p := by
      rw [Nat.mul_comm]; exact Nat.div_add_mod p (prodL rest)
    generalize p / prodL rest = i at hi hpe
    generalize p % prodL rest = r at hr hpe
    subst hpe
    obtain ⟨is, h1, h2, h3⟩ := ih r hr
    refine ⟨i :: is, ?_, ?_, ?_⟩
    · unfold allIdx
      rw [flatMap_range_getElem? _ (prodL rest) n _ _ (fun j _ => by simp [allIdx_length]) hi hr]
      simp [List.getElem?_map, h1]
    · simp [validIdx, hi, h2]
    · simp only [ravel, h3]

theorem sum_modify_add (l : List Rat) (k : Nat) (x : Rat) (hk : k < l.length) :
    (l.modify k (· + x)).sum = l.sum + x := by
  induction l generalizing k with
  | nil => simp at hk
  | cons y ys ih =>
    cases k with
    | zero => simp only [List.modify_zero_cons, List.sum_cons]; ring
    | succ k =>
      simp only [List.modify_succ_cons, List.sum_cons, ih k (by simpa using hk)]; ring

theorem addAtIdx_eq_zipWith (a : Arr) (s : List Nat) (ha : a.HasShape s) (idx : List Nat)
    (hv : validIdx s idx = true) (x : Rat) (g : List Nat → Rat) (hg : g idx = x)
    (hg0 : ∀ j, j ≠ idx → g j = 0) :
    HN.addAtIdx a idx x = Arr.zipWith (· + ·) a (Arr.ofFn s g) := by
  obtain ⟨sh, d⟩ := a
  obtain ⟨h1, h2⟩ := ha
  simp only at h1 h2
  subst h1
  simp only [HN.addAtIdx, Arr.zipWith, Arr.ofFn, Arr.mk.injEq, true_and]
  apply List.ext_getElem?
  intro p
  rw [List.getElem?_zipWith, List.getElem?_modify, List.getElem?_map]
  by_cases hp : p < d.length
  · obtain ⟨jdx, e1, e2, e3⟩ := allIdx_unravel sh p (by omega)
    rw [List.getElem?_eq_getElem hp, e1]
    by_cases hk : ravel sh idx = p
    · have : jdx = idx := by
        have := allIdx_getElem? sh idx hv
        rw [hk, e1] at this
        exact Option.some.inj this
      subst this
      simp [hk, hg]
    · have : jdx ≠ idx := by
        intro h; subst h; exact hk e3
      simp [hk, hg0 jdx this]
  · simp [List.getElem?_eq_none (Nat.le_of_not_lt hp)]

theorem total_addAtIdx (a : Arr) (s : List Nat) (ha : a.HasShape s) (idx : List Nat)
    (hv : validIdx s idx = true) (x : Rat) : (HN.addAtIdx a idx x).total = a.total + x := by
  simp only [HN.addAtIdx, Arr.total]
  apply sum_modify_add
  rw [ha.1, ha.2]
  exact ravel_lt s idx hv

/-! ## one row -/

theorem cellSums_single_none (axes : AxesB) (g : Rat → Rat) (v : List Rat) (w : Rat)
    (hc : rowCell axes v = none) : cellSums axes g [(v, w)] = Arr.zeros (axes.map (·.1.length)) :=
  Arr.ofFn_congr _ _ _ fun i => by simp [hc]

theorem cellSums_single_some (axes : AxesB) (g : Rat → Rat) (v : List Rat) (w : Rat) (idx : List Nat)
    (hc : rowCell axes v = some idx) (hv : validIdx (axes.map (·.1.length)) idx = true) (a : Arr)
    (ha : a.HasShape (axes.map (·.1.length))) :
    HN.addAtIdx a idx (g w) = Arr.zipWith (· + ·) a (cellSums axes g [(v, w)]) := by
  apply addAtIdx_eq_zipWith a _ ha idx hv
  · simp [hc]
  · intro j hj
    have : ¬ idx = j := fun h => hj h.symm
    simp [hc, this]

theorem calcND_single_none (axes : AxesB) (v : List Rat) (w : Rat) (hc : rowCell axes v = none) :
    (calcND axes [(v, w)]).freq = Arr.zeros (axes.map (·.1.length)) ∧
    (calcND axes [(v, w)]).err2 = Arr.zeros (axes.map (·.1.length)) ∧
    (calcND axes [(v, w)]).missing = w := by
  have hf := cellSums_single_none axes (fun w => w) v w hc
  refine ⟨hf, cellSums_single_none axes (fun w => w * w) v w hc, ?_⟩
  rw [calcND_missing, hf, Arr.total_zeros]
  simp

theorem calcND_single_some (axes : AxesB) (v : List Rat) (w : Rat) (idx : List Nat)
    (hc : rowCell axes v = some idx) (hv : validIdx (axes.map (·.1.length)) idx = true) :
    (∀ a : Arr, a.HasShape (axes.map (·.1.length)) →
      HN.addAtIdx a idx w = Arr.zipWith (· + ·) a (calcND axes [(v, w)]).freq) ∧
    (∀ a : Arr, a.HasShape (axes.map (·.1.length)) →
      HN.addAtIdx a idx (w * w) = Arr.zipWith (· + ·) a (calcND axes [(v, w)]).err2) ∧
    (calcND axes [(v, w)]).missing = 0 := by
  have hf := cellSums_single_some axes (fun w => w) v w idx hc hv
  refine ⟨hf, cellSums_single_some axes (fun w => w * w) v w idx hc hv, ?_⟩
  -- the one-row contents have total `w`: they are what adding `w` at `idx` makes of the zero array
  have ht := total_addAtIdx _ _ (Arr.hasShape_zeros _) idx hv w
  have hadd : (Arr.zipWith (· + ·) (Arr.zeros _) (cellSums axes (fun w => w) [(v, w)])).total
      = (Arr.zeros _).total + (cellSums axes (fun w => w) [(v, w)]).total := Arr.total_zipWith_ofFn _ _ _
  rw [hf _ (Arr.hasShape_zeros _), hadd, Arr.total_zeros, zero_add, zero_add] at ht
  rw [calcND_missing, List.map_singleton, List.sum_singleton, ht, sub_self]

/-! ## the cell search of `fill` -/

/-- the per-axis bridge between `calculate_nd_frequencies` and `find_bin` -/
def CellBridge : Prop :=
  ∀ (bins : Bins) (ire : Bool) (x : Rat), Rising bins → axisCell bins ire x = HN.findBinAxis bins ire x

theorem cellBridge : CellBridge := fun bins ire x hb => axisCell_eq_findBinAxis bins hb ire x

theorem rowCell_eq_findBin (axes : AxesB) (hr : ∀ a ∈ axes, Rising a.1) (v : List Rat) :
    rowCell axes v = (axes.zip v).mapM fun (a, x) => HN.findBinAxis a.1 a.2 x :=
  mapM_option_congr fun p hp => cellBridge p.1.1 p.1.2 p.2 (hr p.1 (List.of_mem_zip hp).1)

/-- the cell of a row, coordinate by coordinate: component `i` is the bin found for coordinate `i` on axis `i` -/
theorem rowCell_eq_some_iff (axes : AxesB) (row : List Rat) (hl : row.length = axes.length) (idx : List Nat) :
    rowCell axes row = some idx ↔ idx.length = axes.length ∧
      ∀ (i : Nat) (p : Bins × Bool) (x : Rat), axes[i]? = some p → row[i]? = some x →
        idx[i]? = axisCell p.1 p.2 x := by
  rw [C02_axes axes row idx hl.symm]
  refine and_congr_right fun h1 => ⟨fun h2 i p x hp hx => ?_, fun h2 a ha hr hi => ?_⟩
  · obtain ⟨hi, rfl⟩ := List.getElem?_eq_some_iff.mp hp
    obtain ⟨hi', rfl⟩ := List.getElem?_eq_some_iff.mp hx
    rw [List.getElem?_eq_getElem (by omega), h2 i hi hi' (by omega)]
  · have := h2 a _ _ (List.getElem?_eq_getElem ha) (List.getElem?_eq_getElem hr)
    rw [List.getElem?_eq_getElem hi] at this
    exact this.symm

theorem findBin_valid (axes : AxesB) (v : List Rat) (idx : List Nat) (hl : v.length = axes.length)
    (h : ((axes.zip v).mapM fun (a, x) => HN.findBinAxis a.1 a.2 x) = some idx) :
    validIdx (axes.map (·.1.length)) idx = true := by
  rw [mapM_eq_some_iff] at h
  induction axes generalizing v idx with
  | nil =>
    cases v with
    | nil => cases h; rfl
    | cons _ _ => simp at hl
  | cons a as ih =>
    cases v with
    | nil => simp at hl
    | cons x xs =>
      obtain ⟨c, cs, hc, hcs, rfl⟩ := List.forall₂_cons_left_iff.mp h
      simp only [List.map_cons, validIdx, Bool.and_eq_true, decide_eq_true_eq]
      exact ⟨(findBinAxis_eq_some hc).2, ih xs cs (by simpa using hl) hcs⟩

/-! ## non-adaptive axes never change -/

def NonAdaptive (axes : List Binning) : Prop := ∀ b ∈ axes, b.isAdaptive = false

theorem adaptAxes_nonadaptive (fo : FloatOps) (fuel : Nat) (h : HN) (cols : List (List Rat)) (single : Bool)
    (hs : NonAdaptive h.axes) : h.adaptAxes fo fuel cols single = h := by
  unfold HN.adaptAxes
  refine List.foldl_fixed' (fun i => ?_) _
  cases ha : h.axes[i]? with
  | none => rfl
  | some b =>
    cases b with
    | static bs ire => rfl
    | fixed g =>
      cases hc : cols[i]? with
      | none => rfl
      | some vs =>
        have : g.adaptive = false := hs _ (List.mem_of_getElem? ha)
        simp [this]

/-! ## one `fill` adds the one-row batch -/

theorem any_isNone_map_some (v : List Rat) : (v.map some).any Option.isNone = false := by
  rw [List.any_map]
  exact List.any_eq_false.mpr fun _ _ => Bool.false_ne_true

theorem all_isSome_map_some (v : List Rat) : (v.map some).all Option.isSome = true := by
  rw [List.all_map]
  exact List.all_eq_true.mpr fun _ _ => rfl

theorem filterMap_id_map_some (v : List Rat) : (v.map some).filterMap id = v := by
  rw [List.filterMap_map]
  exact List.filterMap_some

theorem HN.axesBins_shape (fo : FloatOps) (h : HN) : (h.axesBins fo).map (·.1.length) = h.shape fo := by
  simp [HN.axesBins, HN.shape, List.map_map, Function.comp_def]

theorem HN.findBin_axes (fo : FloatOps) (h h' : HN) (hax : h'.axes = h.axes) (v : List Rat) :
    h'.findBin fo v = h.findBin fo v := by
  simp only [HN.findBin, HN.axesBins, hax]

theorem fill_unfold (fo : FloatOps) (fuel : Nat) (h : HN) (hs : NonAdaptive h.axes) (hk : h.keep = true)
    (v : List Rat) (w : Rat) (wk : H1.NumKind) :
    h.fill fo fuel (v.map some) w wk =
      match h.findBin fo v with
      | none => ({ h.coerce wk.dtype with missed := nadd h.missed (some w) }, some none)
      | some idx => ({ h.coerce wk.dtype with freq := HN.addAtIdx h.freq idx w,
                                               err2 := HN.addAtIdx h.err2 idx (w * w) }, some (some idx)) := by
  unfold HN.fill
  simp only [any_isNone_map_some, filterMap_id_map_some, Bool.false_eq_true, if_false]
  rw [adaptAxes_nonadaptive fo fuel (h.coerce wk.dtype) _ true hs]
  rw [HN.findBin_axes fo h (h.coerce wk.dtype) rfl v]
  cases h.findBin fo v with
  | none => simp [HN.coerce, hk]
  | some idx => simp [HN.coerce]

theorem fill_eq_single (fo : FloatOps) (fuel : Nat) (h : HN) (hs : NonAdaptive h.axes)
    (hr : ∀ b ∈ h.axes, Rising (b.bins fo)) (hk : h.keep = true)
    (hf : h.freq.HasShape (h.shape fo)) (he : h.err2.HasShape (h.shape fo))
    (v : List Rat) (hl : v.length = h.axes.length) (w : Rat) (wk : H1.NumKind) :
    (h.fill fo fuel (v.map some) w wk).1.freq
      = Arr.zipWith (· + ·) h.freq (calcND (h.axesBins fo) [(v, w)]).freq ∧
    (h.fill fo fuel (v.map some) w wk).1.err2
      = Arr.zipWith (· + ·) h.err2 (calcND (h.axesBins fo) [(v, w)]).err2 ∧
    (h.fill fo fuel (v.map some) w wk).1.missed
      = nadd h.missed (some (calcND (h.axesBins fo) [(v, w)]).missing) ∧
    (h.fill fo fuel (v.map some) w wk).2 = some (h.findBin fo v) ∧
    (h.fill fo fuel (v.map some) w wk).1.axes = h.axes ∧
    (h.fill fo fuel (v.map some) w wk).1.keep = true := by
  have hrB : ∀ a ∈ h.axesBins fo, Rising a.1 := List.forall_mem_map.mpr hr
  have hrc : rowCell (h.axesBins fo) v = h.findBin fo v := rowCell_eq_findBin _ hrB v
  have hsh := HN.axesBins_shape fo h
  rw [fill_unfold fo fuel h hs hk v w wk]
  cases hfb : h.findBin fo v with
  | none =>
    rw [hfb] at hrc
    obtain ⟨z1, z2, z3⟩ := calcND_single_none (h.axesBins fo) v w hrc
    rw [z1, z2, z3, hsh, Arr.zipWith_zeros_right _ _ hf, Arr.zipWith_zeros_right _ _ he]
    exact ⟨rfl, rfl, rfl, rfl, rfl, hk⟩
  | some idx =>
    rw [hfb] at hrc
    have hlen : v.length = (h.axesBins fo).length := by simp [HN.axesBins, hl]
    have hv : validIdx ((h.axesBins fo).map (·.1.length)) idx = true :=
      findBin_valid (h.axesBins fo) v idx hlen hfb
    obtain ⟨z1, z2, z3⟩ := calcND_single_some (h.axesBins fo) v w idx hrc hv
    rw [hsh] at z1 z2
    rw [← z1 _ hf, ← z2 _ he, z3, nadd_zero]
    exact ⟨rfl, rfl, rfl, rfl, rfl, hk⟩

/-! ## the invariant -/

theorem axesOf_shape (fo : FloatOps) (axes : List Binning) :
    (axesOf fo axes).map (·.1.length) = axes.map fun b => (b.bins fo).length := by
  simp [axesOf, List.map_map, Function.comp_def]

/-- `h` holds exactly what batch construction from `rows` over the non-adaptive `axes` gives -/
structure TracksN (fo : FloatOps) (axes : List Binning) (h : HN) (rows : List Row) : Prop where
  hax : h.axes = axes
  static : NonAdaptive axes
  keep : h.keep = true
  freq : h.freq = (calcND (axesOf fo axes) rows).freq
  err2 : h.err2 = (calcND (axesOf fo axes) rows).err2
  missed : h.missed = some (calcND (axesOf fo axes) rows).missing

theorem tracksN_empty (fo : FloatOps) (axes : List Binning) (hs : NonAdaptive axes) (dt : Option DType)
    (names : Option (List String)) : TracksN fo axes (HN.empty fo axes true dt names) [] := by
  obtain ⟨z1, z2, z3⟩ := calcND_nil (axesOf fo axes)
  refine ⟨rfl, hs, rfl, ?_, ?_, ?_⟩
  · rw [z1, axesOf_shape]; rfl
  · rw [z2, axesOf_shape]; rfl
  · rw [z3]; rfl

theorem not_any_iff {α} {p : α → Bool} {l : List α} : ¬ l.any p = true ↔ ∀ x ∈ l, p x = false := by
  simp only [Bool.not_eq_true, List.any_eq_false]

theorem construct_ok (fo : FloatOps) (axes : List Binning) (rows : List (List (Option Rat)))
    (ws : Option (List Rat)) (wkind : DType) (dropna : Bool) (names : Option (List String)) (c : HN)
    (hc : HN.construct fo axes rows ws wkind dropna names = .ok c) :
    (∀ b ∈ axes, Rising (b.bins fo)) ∧ c.axes = axes ∧ c.keep = true ∧
    c.freq = (calcND (axesOf fo axes) (maskRows rows ws)).freq ∧
    c.err2 = (calcND (axesOf fo axes) (maskRows rows ws)).err2 ∧
    c.missed = some (calcND (axesOf fo axes) (maskRows rows ws)).missing := by
  obtain ⟨_, _, _, hris, rfl⟩ := (HN.construct_ok_iff fo axes rows ws wkind dropna names c).mp hc
  refine ⟨fun b hb => (risingB_iff _).mp ?_, rfl, rfl, rfl, rfl, rfl⟩
  simpa using List.any_eq_false.mp hris b hb

theorem TracksN.freq_shape {fo : FloatOps} {axes : List Binning} {h : HN} {rows : List Row}
    (t : TracksN fo axes h rows) : h.freq.HasShape (h.shape fo) ∧ h.err2.HasShape (h.shape fo) := by
  obtain ⟨rfl, _, _, hf, he, _⟩ := t
  rw [hf, he, show h.shape fo = _ from (axesOf_shape fo h.axes).symm]
  exact ⟨calcND_freq_hasShape _ _, calcND_err2_hasShape _ _⟩

/-- `fill` of a complete value appends its row to the tracked rows -/
theorem tracksN_fill (fo : FloatOps) (fuel : Nat) (axes : List Binning)
    (hr : ∀ b ∈ axes, Rising (b.bins fo)) (h : HN) (rows : List Row) (t : TracksN fo axes h rows)
    (v : List Rat) (hl : v.length = axes.length) (w : Rat) (wk : H1.NumKind) :
    TracksN fo axes (h.fill fo fuel (v.map some) w wk).1 (rows ++ [(v, w)]) := by
  have hsh := t.freq_shape
  obtain ⟨rfl, hst, hk, hf, he, hm⟩ := t
  obtain ⟨f1, f2, f3, _, f5, f6⟩ := fill_eq_single fo fuel h hst hr hk hsh.1 hsh.2 v hl w wk
  obtain ⟨a1, a2, a3⟩ := calcND_append (axesOf fo h.axes) rows [(v, w)]
  refine ⟨f5, hst, f6, ?_, ?_, ?_⟩
  · rw [f1, a1, hf]; rfl
  · rw [f2, a2, he]; rfl
  · rw [f3, a3, hm]; rfl

theorem map_some_filterMap_id (v : List (Option Rat)) (h : v.all Option.isSome = true) :
    (v.filterMap id).map some = v := by
  induction v with
  | nil => rfl
  | cons x xs ih =>
    cases x with
    | none => simp at h
    | some y =>
      simp only [List.all_cons, Option.isSome_some, Bool.true_and] at h
      simpa using ih h

theorem length_filterMap_id_of_all (r : List (Option Rat)) (h : r.all Option.isSome = true) :
    (r.filterMap id).length = r.length := by
  conv => rhs; rw [← map_some_filterMap_id r h]
  simp

theorem maskRows_mem (rows : List (List (Option Rat))) (ws : Option (List Rat)) :
    ∀ r ∈ maskRows rows ws, ∃ q ∈ rows, q.all Option.isSome = true ∧ r.1 = q.filterMap id := by
  intro r hr
  fun_induction maskRows rows ws with
  | case1 => cases hr
  | case2 q qs hq ih =>
    rcases List.mem_cons.mp hr with rfl | hr
    · exact List.exists_mem_cons_of _ ⟨hq, rfl⟩
    · exact List.exists_mem_cons_of_exists (ih hr)
  | case3 q qs hq ih => exact List.exists_mem_cons_of_exists (ih hr)
  | case4 q qs w ws hq ih =>
    rcases List.mem_cons.mp hr with rfl | hr
    · exact List.exists_mem_cons_of _ ⟨hq, rfl⟩
    · exact List.exists_mem_cons_of_exists (ih hr)
  | case5 q qs w ws hq ih => exact List.exists_mem_cons_of_exists (ih hr)
  | case6 => cases hr

theorem maskRows_length (rows : List (List (Option Rat))) (ws : Option (List Rat)) (n : Nat)
    (h : ∀ q ∈ rows, q.length = n) : ∀ r ∈ maskRows rows ws, r.1.length = n := by
  intro r hr
  obtain ⟨q, hq, hall, e⟩ := maskRows_mem rows ws r hr
  rw [e, length_filterMap_id_of_all q hall, h q hq]

theorem any_isNone_of_not_all (v : List (Option Rat)) (h : ¬ v.all Option.isSome = true) :
    v.any Option.isNone = true := by
  induction v with
  | nil => simp at h
  | cons x xs ih =>
    cases x with
    | none => simp
    | some y =>
      simp only [List.all_cons, Option.isSome_some, Bool.true_and] at h
      simp [ih h]

/-- `fill` of any value (a NaN coordinate makes it a no-op, exactly as the NaN mask of `fill_n`) -/
theorem tracksN_fill_opt (fo : FloatOps) (fuel : Nat) (axes : List Binning)
    (hr : ∀ b ∈ axes, Rising (b.bins fo)) (h : HN) (rows : List Row) (t : TracksN fo axes h rows)
    (value : List (Option Rat)) (hl : value.all Option.isSome = true → value.length = axes.length)
    (w : Rat) (wk : H1.NumKind) :
    TracksN fo axes (h.fill fo fuel value w wk).1 (rows ++ maskRows [value] (some [w])) := by
  by_cases hall : value.all Option.isSome = true
  · have hv := map_some_filterMap_id value hall
    have hlen := (length_filterMap_id_of_all value hall).trans (hl hall)
    have := tracksN_fill fo fuel axes hr h rows t (value.filterMap id) hlen w wk
    rw [hv] at this
    simpa [maskRows, hall] using this
  · have hany := any_isNone_of_not_all value hall
    have e : h.fill fo fuel value w wk = (h, none) := by
      unfold HN.fill; simp [hany]
    rw [e]
    simpa [maskRows, hall] using t

theorem fillN_unfold (fo : FloatOps) (fuel : Nat) (h : HN) (hs : NonAdaptive h.axes)
    (rows : List (List (Option Rat))) (ws : Option (List Rat)) (wkind : DType) (r : HN)
    (hrun : h.fillN fo fuel rows ws wkind = .ok r) :
    (∀ x ∈ rows, x.length = h.axes.length) ∧ (∀ w, ws = some w → w.length = rows.length) ∧
    r.axes = h.axes ∧ r.keep = h.keep ∧
    r.freq = Arr.zipWith (· + ·) h.freq (calcND (h.axesBins fo) (maskRows rows ws)).freq ∧
    r.err2 = Arr.zipWith (· + ·) h.err2 (calcND (h.axesBins fo) (maskRows rows ws)).err2 ∧
    r.missed = if h.keep then nadd h.missed (some (calcND (h.axesBins fo) (maskRows rows ws)).missing)
      else h.missed := by
  rw [HN.fillN_eq, ite_error_eq_ok, ite_error_eq_ok] at hrun
  obtain ⟨hcol, hw, hrun⟩ := hrun
  cases hrun
  have hcol' := fun x hx => by simpa using not_any_iff.mp hcol x hx
  have hw' : ∀ w, ws = some w → w.length = rows.length := fun w e => by subst e; simpa using hw
  have e : ∀ cols, (if ws.isSome then h.coerce wkind else h).adaptAxes fo fuel cols false
      = if ws.isSome then h.coerce wkind else h :=
    fun cols => adaptAxes_nonadaptive fo fuel _ cols false (by cases ws <;> exact hs)
  simp only [e]
  cases ws <;> exact ⟨hcol', hw', rfl, rfl, rfl, rfl, rfl⟩

/-- an accepted `fill_n` batch appends its (NaN-masked) rows to the tracked rows -/
theorem tracksN_fillN (fo : FloatOps) (fuel : Nat) (axes : List Binning) (h : HN) (rows : List Row)
    (t : TracksN fo axes h rows) (batch : List (List (Option Rat))) (ws : Option (List Rat)) (wkind : DType)
    (r : HN) (hrun : h.fillN fo fuel batch ws wkind = .ok r) :
    TracksN fo axes r (rows ++ maskRows batch ws) := by
  obtain ⟨rfl, hst, hk, hf, he, hm⟩ := t
  obtain ⟨_, _, f1, f2, f3, f4, f5⟩ := fillN_unfold fo fuel h hst batch ws wkind r hrun
  obtain ⟨a1, a2, a3⟩ := calcND_append (axesOf fo h.axes) rows (maskRows batch ws)
  refine ⟨f1, hst, f2.trans hk, ?_, ?_, ?_⟩
  · rw [f3, a1, hf]; rfl
  · rw [f4, a2, he]; rfl
  · rw [f5, a3, hm, hk]; rfl

/-- `fill_n` is accepted exactly when every row has one coordinate per axis and there are as many
    weights as rows (non-adaptive axes) -/
theorem fillN_accepted (fo : FloatOps) (fuel : Nat) (h : HN) (batch : List (List (Option Rat)))
    (ws : Option (List Rat)) (wkind : DType) (hcol : ∀ x ∈ batch, x.length = h.axes.length)
    (hw : ∀ w, ws = some w → w.length = batch.length) : ∃ r, h.fillN fo fuel batch ws wkind = .ok r := by
  rw [HN.fillN_eq, if_neg (not_any_iff.mpr fun x hx => by simpa using hcol x hx), if_neg]
  · exact ⟨_, rfl⟩
  · cases ws with
    | none => simp
    | some w => simpa using hw w rfl

/-! ## any interleaving of `fill` and `fill_n` -/

/-- one step of a filling history -/
inductive OpN
  | fill (value : List (Option Rat)) (w : Rat) (wk : H1.NumKind)
  | fillN (batch : List (List (Option Rat))) (ws : Option (List Rat)) (wkind : DType)

namespace OpN

def apply (fo : FloatOps) (fuel : Nat) (h : HN) : OpN → R HN
  | .fill value w wk => .ok (h.fill fo fuel value w wk).1
  | .fillN batch ws wkind => h.fillN fo fuel batch ws wkind

/-- the rows an operation enters (after the NaN mask) -/
def rows : OpN → List Row
  | .fill value w _ => maskRows [value] (some [w])
  | .fillN batch ws _ => maskRows batch ws

/-- a filled value has one coordinate per axis (`fill_n` checks this itself) -/
def Valid (d : Nat) : OpN → Prop
  | .fill value _ _ => value.all Option.isSome = true → value.length = d
  | .fillN _ _ _ => True

/-- the argument checks of `fill_n` pass -/
def Accepted (d : Nat) : OpN → Prop
  | .fill _ _ _ => True
  | .fillN batch ws _ => (∀ x ∈ batch, x.length = d) ∧ ∀ w, ws = some w → w.length = batch.length

end OpN

theorem tracksN_apply (fo : FloatOps) (fuel : Nat) (axes : List Binning)
    (hr : ∀ b ∈ axes, Rising (b.bins fo)) (h : HN) (rows : List Row) (t : TracksN fo axes h rows)
    (op : OpN) (hv : op.Valid axes.length) (r : HN) (hrun : op.apply fo fuel h = .ok r) :
    TracksN fo axes r (rows ++ op.rows) := by
  cases op with
  | fill value w wk =>
    simp only [OpN.apply, Except.ok.injEq] at hrun
    subst hrun
    exact tracksN_fill_opt fo fuel axes hr h rows t value hv w wk
  | fillN batch ws wkind => exact tracksN_fillN fo fuel axes h rows t batch ws wkind r hrun

/-- the accounting identity (C02) holds along every path -/
theorem TracksN.account {fo : FloatOps} {axes : List Binning} {h : HN} {rows : List Row}
    (t : TracksN fo axes h rows) : ∃ m, h.missed = some m ∧ h.freq.total + m = (rows.map (·.2)).sum :=
  ⟨_, t.missed, by rw [t.freq]; exact C02_missed _ _⟩

/-! ## Non-vacuity: a concrete 2-D histogram (a gapped, right-open second axis) -/

namespace ExampleND

def axes : List Binning := [.static [(0, 1), (1, 2)] true, .static [(0, 2), (2, 4), (5, 6)] false]

/-- a history mixing `fill`, `fill_n`, a NaN value, NaN rows, an empty batch and misses -/
def ops : List OpN :=
  [.fill [some (1 / 2), some 1] 2 .pyInt,
   .fillN [[some (3 / 2), some 3], [none, some 1], [some 5, some 1]] (some [1, 7, 3]) .f64,
   .fill [some 2, none] 1 .pyInt,
   .fillN [] none .i64,
   .fill [some 2, some (9 / 2)] 1 .pyFloat,
   .fillN [[some 2, some (11 / 2)], [some 0, some 6]] none .i64]

/-- the same rows in another order, for construction at once -/
def allRows : List (List (Option Rat)) :=
  [[some 0, some 6], [some 5, some 1], [some 2, some (9 / 2)], [some (1 / 2), some 1], [some 2, some (11 / 2)],
   [some 2, none], [some (3 / 2), some 3]]
def allWeights : List Rat := [1, 3, 1, 2, 1, 8, 1]

theorem static : NonAdaptive axes := by
  intro b hb
  simp only [axes, List.mem_cons, List.not_mem_nil, or_false] at hb
  rcases hb with rfl | rfl <;> rfl

theorem rising (fo : FloatOps) : ∀ b ∈ axes, Rising (b.bins fo) := by
  intro b hb
  simp only [axes, List.mem_cons, List.not_mem_nil, or_false] at hb
  rcases hb with rfl | rfl
  · exact (risingB_iff [(0, 1), (1, 2)]).mp (by decide +kernel)
  · exact (risingB_iff [(0, 2), (2, 4), (5, 6)]).mp (by decide +kernel)

theorem valid : ∀ op ∈ ops, op.Valid axes.length := by
  intro op hop
  simp only [ops, List.mem_cons, List.not_mem_nil, or_false] at hop
  rcases hop with rfl | rfl | rfl | rfl | rfl | rfl
  exacts [fun _ => rfl, trivial, fun _ => rfl, trivial, fun _ => rfl, trivial]

theorem accepted : ∀ op ∈ ops, op.Accepted axes.length := by
  intro op hop
  simp only [ops, List.mem_cons, List.not_mem_nil, or_false] at hop
  rcases hop with rfl | rfl | rfl | rfl | rfl | rfl
  exacts [trivial, ⟨by decide, fun w hw => by cases hw; rfl⟩, trivial, ⟨by decide, fun _ hw => nomatch hw⟩,
    trivial, ⟨by decide, fun _ hw => nomatch hw⟩]

/-- computed by the kernel: the path result equals construction from the reordered rows (contents,
    squared errors, missed), and is not trivial -/
example :
    ((ops.foldlM (OpN.apply FloatOps.exact 0) (HN.empty FloatOps.exact axes true none none)).toOption.map
        fun r => (r.freq, r.err2, r.missed, r.keep))
      = ((HN.construct FloatOps.exact axes allRows (some allWeights) .f64 true none).toOption.map
        fun c => (c.freq, c.err2, c.missed, c.keep)) ∧
    ((HN.construct FloatOps.exact axes allRows (some allWeights) .f64 true none).toOption.map
        fun c => (c.freq.data, c.err2.data, c.missed)) = some ([2, 0, 0, 0, 1, 1], [4, 0, 0, 0, 1, 1], some 5) ∧
    (maskRows allRows (some allWeights)).Perm (ops.map OpN.rows).flatten := by
  decide +kernel

/-- two chunk histograms add up to the histogram of all the rows (C05) -/
example :
    let a := HN.construct FloatOps.exact axes (allRows.take 3) (some (allWeights.take 3)) .f64 true none
    let b := HN.construct FloatOps.exact axes (allRows.drop 3) (some (allWeights.drop 3)) .f64 true none
    let c := HN.construct FloatOps.exact axes allRows (some allWeights) .f64 true none
    ((do let x ← a; let y ← b; x.iadd FloatOps.exact y : R HN).toOption.map fun r => (r.freq, r.err2, r.missed))
      = c.toOption.map fun r => (r.freq, r.err2, r.missed) := by decide +kernel

/-- the side condition "one coordinate per axis" of `fill` is needed: a value that is too short is
    put into a cell by `fill` but counted as missed by `calcND` -/
example :
    let h := HN.empty FloatOps.exact axes true none none
    (h.fill FloatOps.exact 0 [some (1 / 2)] 1 .pyInt).1.freq.data = [1, 0, 0, 0, 0, 0] ∧
    (calcND (h.axesBins FloatOps.exact) [([1 / 2], 1)]).freq.data = [0, 0, 0, 0, 0, 0] ∧
    (calcND (h.axesBins FloatOps.exact) [([1 / 2], 1)]).missing = 1 := by decide +kernel

end ExampleND

end Physt
