import Physt.Model.Freq1D
import Mathlib.Algebra.Order.Ring.Rat
import Mathlib.Algebra.BigOperators.Group.List.Basic
import Mathlib.Tactic.Linarith
import Mathlib.Tactic.Ring
/-!
Sorted lists as `searchsorted` sees them: insertion sort is a sorted permutation (so sums over the
sorted data are sums over the data); on a sorted list `takeWhile` of a downward-closed predicate is
`filter`, hence a slice between two `searchsorted` positions is a filter; and the count of keys `≤ x`
splits a sorted list into the entries at or below `x` and those above (`countLe_spec`).
-/
namespace Physt

def SortedV (s : List Pt) : Prop := s.Pairwise fun a b => a.1 ≤ b.1

theorem insertPt_perm (p : Pt) (l : List Pt) : (insertPt p l).Perm (p :: l) := by
  induction l with
  | nil => simp [insertPt]
  | cons q qs ih =>
    unfold insertPt
    split
    · exact List.Perm.refl _
    · exact (List.Perm.cons q ih).trans (List.Perm.swap p q qs)

theorem sortPts_perm (l : List Pt) : (sortPts l).Perm l := by
  induction l with
  | nil => simp [sortPts]
  | cons p ps ih =>
    unfold sortPts
    exact (insertPt_perm p _).trans (List.Perm.cons p ih)

theorem insertPt_sorted (p : Pt) (l : List Pt) (h : SortedV l) : SortedV (insertPt p l) := by
  induction l with
  | nil => simp [insertPt, SortedV]
  | cons q qs ih =>
    unfold insertPt
    unfold SortedV at h ⊢
    rw [List.pairwise_cons] at h
    split
    · rename_i hpq
      rw [List.pairwise_cons]
      refine ⟨?_, List.pairwise_cons.mpr h⟩
      intro b hb
      rcases List.mem_cons.mp hb with rfl | hb
      · exact hpq
      · exact le_trans hpq (h.1 b hb)
    · rename_i hpq
      rw [List.pairwise_cons]
      refine ⟨?_, ih h.2⟩
      intro b hb
      have hb' := (insertPt_perm p qs).subset hb
      rcases List.mem_cons.mp hb' with rfl | hb'
      · exact le_of_lt (not_le.mp hpq)
      · exact h.1 b hb'

theorem sortPts_sorted (l : List Pt) : SortedV (sortPts l) := by
  induction l with
  | nil => simp [sortPts, SortedV]
  | cons p ps ih => unfold sortPts; exact insertPt_sorted p _ ih

/-- A predicate on points that, once true for a point, is true for every point with a smaller
    value (`v < x`, `v ≤ x`). -/
def DownClosed (p : Pt → Bool) : Prop := ∀ a b : Pt, a.1 ≤ b.1 → p b = true → p a = true

theorem downClosed_lt (x : Rat) : DownClosed fun p => decide (p.1 < x) := by
  intro a b hab hb
  simp only [decide_eq_true_eq] at hb ⊢
  exact lt_of_le_of_lt hab hb

theorem downClosed_le (x : Rat) : DownClosed fun p => decide (p.1 ≤ x) := by
  intro a b hab hb
  simp only [decide_eq_true_eq] at hb ⊢
  exact le_trans hab hb

theorem takeWhile_drop_of_downClosed (p : Pt → Bool) (hp : DownClosed p) (s : List Pt)
    (hs : SortedV s) :
    s.takeWhile p = s.filter p ∧ s.drop (s.takeWhile p).length = s.filter fun x => !p x := by
  induction s with
  | nil => simp
  | cons a t ih =>
    unfold SortedV at hs
    rw [List.pairwise_cons] at hs
    have ih' := ih hs.2
    by_cases ha : p a = true
    · simp [ha, ih'.1]
      have := ih'.2
      rw [ih'.1] at this
      exact this
    · have hall : ∀ b ∈ t, p b = false := by
        intro b hb
        by_contra hpb
        have hpb' : p b = true := by simpa using hpb
        exact ha (hp a b (hs.1 b hb) hpb')
      have ha' : p a = false := by simpa using ha
      have hf : t.filter p = [] := by
        rw [List.filter_eq_nil_iff]
        intro b hb; simp [hall b hb]
      have hf2 : (t.filter fun x => !p x) = t := by
        rw [List.filter_eq_self]
        intro b hb; simp [hall b hb]
      simp [ha', hf, hf2]

theorem take_length_takeWhile (p : Pt → Bool) (s : List Pt) :
    s.take (s.takeWhile p).length = s.takeWhile p := by
  conv_lhs => arg 2; rw [← List.takeWhile_append_dropWhile (p := p) (l := s)]
  exact List.take_left' rfl

/-- The slice of a sorted array between the `searchsorted` positions of two nested
    downward-closed predicates is the filter "not the first but the second". -/
theorem pySlice_eq_filter (p1 p2 : Pt → Bool) (hp1 : DownClosed p1) (hp2 : DownClosed p2)
    (h12 : ∀ x, p1 x = true → p2 x = true) (s : List Pt) (hs : SortedV s) :
    pySlice s (s.takeWhile p1).length (s.takeWhile p2).length
      = s.filter fun x => !p1 x && p2 x := by
  unfold pySlice
  have h1 := takeWhile_drop_of_downClosed p1 hp1 s hs
  have h2 := takeWhile_drop_of_downClosed p2 hp2 s hs
  have h3 := takeWhile_drop_of_downClosed p2 hp2 _ (List.Pairwise.filter (fun x => !p1 x) hs)
  -- the entries satisfying `p2` are those satisfying `p1` and those satisfying `p2` but not `p1`
  have hsplit := List.length_eq_length_filter_add (l := s.filter p2) p1
  have h12' : (s.filter fun x => p1 x && p2 x) = s.filter p1 :=
    List.filter_congr fun x _ => by cases h : p1 x <;> simp [h12 x, h]
  rw [List.filter_filter, List.filter_filter, h12'] at hsplit
  have e : (s.filter fun x => !p1 x).takeWhile p2 = s.filter fun x => !p1 x && p2 x := by
    rw [h3.1, List.filter_filter]
    exact List.filter_congr fun x _ => Bool.and_comm _ _
  rw [h1.2, h1.1, h2.1, hsplit, Nat.add_sub_cancel_left, ← e, take_length_takeWhile]

/-- In a list sorted by `key`, the number `k` of entries with `key ≤ x` separates them (positions
    `< k`) from the entries with `key > x`. -/
theorem countLe_spec {α} (key : α → Rat) (l : List α) (h : l.Pairwise fun a b => key a ≤ key b)
    (x : Rat) (t : Nat) (e : α) (he : l[t]? = some e) :
    t < (l.filter fun e => decide (key e ≤ x)).length ↔ key e ≤ x := by
  induction l generalizing t with
  | nil => cases he
  | cons a l ih =>
    rw [List.pairwise_cons] at h
    by_cases ha : key a ≤ x
    · rw [List.filter_cons_of_pos (p := fun e => decide (key e ≤ x)) (decide_eq_true ha), List.length_cons]
      cases t with
      | zero =>
        obtain rfl : a = e := Option.some.inj he
        exact iff_of_true (Nat.succ_pos _) ha
      | succ t => rw [Nat.succ_lt_succ_iff]; exact ih h.2 t he
    · have hall : ∀ b ∈ a :: l, ¬ key b ≤ x := by
        intro b hb hbx
        rcases List.mem_cons.mp hb with rfl | hb
        · exact ha hbx
        · exact ha (le_trans (h.1 b hb) hbx)
      rw [List.filter_eq_nil_iff.mpr fun b hb hd => hall b hb (of_decide_eq_true hd)]
      exact iff_of_false (Nat.not_lt_zero _) (hall e (List.mem_of_getElem? he))

theorem take_append_pySlice {α} (l : List α) {a b : Nat} (hab : a ≤ b) :
    l.take a ++ pySlice l a b = l.take b := by
  rw [pySlice, ← List.take_add, Nat.add_sub_cancel' hab]

theorem wsum_perm {a b : List Pt} (h : a.Perm b) : wsum a = wsum b := by
  unfold wsum; exact (h.map _).sum_eq

theorem w2sum_perm {a b : List Pt} (h : a.Perm b) : w2sum a = w2sum b := by
  unfold w2sum; exact (h.map _).sum_eq

theorem wsum_filter_sort (q : Pt → Bool) (data : List Pt) :
    wsum ((sortPts data).filter q) = wsum (data.filter q) :=
  wsum_perm ((sortPts_perm data).filter q)

end Physt
