import Physt.Proofs.ArrayLaws
import Physt.Theorems.C06
/-!
# C06 beyond one dimension: the lemmas behind `Theorems/C06_ND.lean`

`H1.normalizeBins` (`HistogramCollection.normalize_bins`) divides every member bin-wise by the members' sum
of that bin (`H1.divBins`), so the shares sum to 1 wherever that sum is not zero.  `HN.partialNormalize` divides
each line of a 2-D histogram (a column for `axis = 0`, a row for `axis = 1`) by its sum (`pnDiv`,
`HN.partialNormalize_line`).  `Arr.map` is read entry-wise and in total, for the scalings.

All statements are about the exact rational model; nothing here needs the arrays to hold
non-negative numbers.
-/
namespace Physt
open H1

theorem sum_map_div_fn {α} (l : List α) (f : α → Rat) (c : Rat) :
    (l.map fun x => f x / c).sum = (l.map f).sum / c := by
  rw [← sum_map_div, List.map_map]; rfl

theorem sum_map_mul_fn {α} (l : List α) (f : α → Rat) (c : Rat) :
    (l.map fun x => f x * c).sum = (l.map f).sum * c := by
  rw [← sum_map_mul, List.map_map]; rfl

/-- entry `i` of an element-wise quotient (out-of-range reads are `0`, and `0 / x = x / 0 = 0`) -/
theorem getD_zipWith_div (l s : List Rat) (i : Nat) :
    (List.zipWith (· / ·) l s)[i]?.getD 0 = l[i]?.getD 0 / s[i]?.getD 0 := by
  rw [List.getElem?_zipWith]
  cases l[i]? <;> cases s[i]? <;> simp

theorem getD_zipWith_divsq (l s : List Rat) (i : Nat) :
    (List.zipWith (fun e x => e / (x * x)) l s)[i]?.getD 0 = l[i]?.getD 0 / (s[i]?.getD 0 * s[i]?.getD 0) := by
  rw [List.getElem?_zipWith]
  cases l[i]? <;> cases s[i]? <;> simp

/-! ## `HistogramCollection.normalize_bins` -/

/-- what `normalize_bins` does to one member, given the list `s` of per-bin sums -/
def H1.divBins (s : List Rat) (h : H1) : H1 :=
  { h with dtype := .f64,
           freq := List.zipWith (· / ·) h.freq s,
           err2 := List.zipWith (fun e x => e / (x * x)) h.err2 s }

theorem H1.normalizeBins_eq (hs : List H1) : H1.normalizeBins hs = hs.map (H1.divBins (H1.binSums hs)) := rfl

theorem H1.normalizeBins_length (hs : List H1) : (H1.normalizeBins hs).length = hs.length := by
  simp [H1.normalizeBins_eq]

/-- member `k` of the result is member `k` of the collection, divided bin-wise -/
theorem H1.normalizeBins_getElem? (hs : List H1) (k : Nat) :
    (H1.normalizeBins hs)[k]? = hs[k]?.map (H1.divBins (H1.binSums hs)) := by
  simp [H1.normalizeBins_eq]

theorem H1.binSums_length (h : H1) (t : List H1) : (H1.binSums (h :: t)).length = h.freq.length := by
  simp [H1.binSums]

/-- entry `i` of `binSums` is the sum over the members of their content of bin `i` (for a bin of
    the first member; beyond it the list is over and reads as `0`) -/
theorem H1.binSums_getElem? (h : H1) (t : List H1) (i : Nat) (hi : i < h.freq.length) :
    (H1.binSums (h :: t))[i]? = some (((h :: t).map fun m => m.freq[i]?.getD 0).sum) := by
  simp [H1.binSums, hi]

theorem H1.binSums_getD_of_ne (hs : List H1) (i : Nat) (hne : (H1.binSums hs)[i]?.getD 0 ≠ 0) :
    (H1.binSums hs)[i]?.getD 0 = (hs.map fun m => m.freq[i]?.getD 0).sum := by
  cases hs with
  | nil => simp [H1.binSums] at hne
  | cons h t =>
    by_cases hi : i < h.freq.length
    · rw [H1.binSums_getElem? h t i hi]; rfl
    · exfalso; apply hne
      rw [List.getElem?_eq_none (by rw [H1.binSums_length]; omega)]; rfl

/-- for members of equal length `n`: `binSums` has `n` entries (non-empty collection), entry `i`
    is the members' sum of bin `i` -/
theorem H1.binSums_getD (hs : List H1) (n : Nat) (hf : ∀ m ∈ hs, m.freq.length = n) (i : Nat) :
    (H1.binSums hs)[i]?.getD 0 = (hs.map fun m => m.freq[i]?.getD 0).sum := by
  by_cases hne : (H1.binSums hs)[i]?.getD 0 = 0
  · rw [hne]
    cases hs with
    | nil => rfl
    | cons h t =>
      have hn : h.freq.length = n := hf h (List.mem_cons_self ..)
      by_cases hi : i < n
      · rw [H1.binSums_getElem? h t i (by omega)] at hne; exact hne.symm
      · have : ((h :: t).map fun m => m.freq[i]?.getD 0) = (h :: t).map fun _ => (0 : Rat) := by
          apply List.map_congr_left
          intro m hm
          rw [List.getElem?_eq_none (by rw [hf m hm]; omega)]; rfl
        rw [this, List.sum_map_zero]
  · exact H1.binSums_getD_of_ne hs i hne

/-- **every member's new content of bin `i` is its old content divided by the members' sum `s_i`
    of that bin, its new squared error the old one divided by `s_i²`**; binning, missed slots,
    `keep_missed` and statistics are untouched, the dtype is `float64`.  No hypothesis on the
    lengths is needed (a bin beyond the end of a list reads as `0`, and the model's `x / 0` is `0`:
    for `s_i = 0` the formula says the model stores `0` where numpy stores NaN). -/
theorem H1.divBins_spec (s : List Rat) (m : H1) :
    (∀ i : Nat, (H1.divBins s m).freq[i]?.getD 0 = m.freq[i]?.getD 0 / s[i]?.getD 0) ∧
    (∀ i : Nat, (H1.divBins s m).err2[i]?.getD 0 = m.err2[i]?.getD 0 / (s[i]?.getD 0 * s[i]?.getD 0)) ∧
    (H1.divBins s m).binning = m.binning ∧ (H1.divBins s m).under = m.under ∧
    (H1.divBins s m).over = m.over ∧ (H1.divBins s m).inner = m.inner ∧
    (H1.divBins s m).keep = m.keep ∧ (H1.divBins s m).stats = m.stats ∧
    (H1.divBins s m).dtype = DType.f64 :=
  ⟨fun i => getD_zipWith_div _ _ i, fun i => getD_zipWith_divsq _ _ i, rfl, rfl, rfl, rfl, rfl, rfl, rfl⟩

/-- the members keep their number of bins when all members have `n` bins -/
theorem H1.divBins_length (hs : List H1) (n : Nat) (hne : hs ≠ [])
    (hf : ∀ m ∈ hs, m.freq.length = n) (he : ∀ m ∈ hs, m.err2.length = n) (m : H1) (hm : m ∈ hs) :
    (H1.divBins (H1.binSums hs) m).freq.length = n ∧ (H1.divBins (H1.binSums hs) m).err2.length = n := by
  cases hs with
  | nil => exact absurd rfl hne
  | cons h t =>
    have hl : (H1.binSums (h :: t)).length = n := by
      rw [H1.binSums_length]; exact hf h (List.mem_cons_self ..)
    simp [H1.divBins, hl, hf m hm, he m hm]

/-- **The shares sum to 1.**  In every bin `i` in which the members' sum is not zero, the new
    contents of the members sum to 1.  (No hypothesis on the lengths is needed: `binSums` is read
    with default `0`, so `(binSums hs)[i] ≠ 0` already says that `i` is a bin of the first member.) -/
theorem H1.normalizeBins_sum_one (hs : List H1) (i : Nat) (hne : (H1.binSums hs)[i]?.getD 0 ≠ 0) :
    ((H1.normalizeBins hs).map fun m => m.freq[i]?.getD 0).sum = 1 := by
  rw [H1.normalizeBins_eq, List.map_map]
  have : ((fun m : H1 => m.freq[i]?.getD 0) ∘ H1.divBins (H1.binSums hs))
      = fun m => m.freq[i]?.getD 0 / (H1.binSums hs)[i]?.getD 0 := by
    funext m
    exact getD_zipWith_div _ _ i
  rw [this, sum_map_div_fn, ← H1.binSums_getD_of_ne hs i hne, div_self hne]

/-! ## `partial_normalize` (2-D) -/

/-- the element-wise division `partial_normalize` performs on one of the two arrays: entry `idx`
    is divided by the marginal sum at `idx[1 - axis]` (or `1` where that sum is `0`), squared for
    the squared errors -/
def pnDiv (sums : Arr) (axis : Nat) (a : Arr) (sq : Bool) : Arr :=
  Arr.ofFn a.shape fun idx =>
    let other := idx[1 - axis]?.getD 0
    let s := sums.get [other]
    let s := if s = 0 then 1 else s
    a.get idx / (if sq then s * s else s)

theorem HN.partialNormalize_eq (h : HN) (axis n m : Nat) (hs : h.freq.shape = [n, m]) :
    h.partialNormalize axis =
      { h with dtype := h.dtype.promote .f64,
               freq := pnDiv (h.freq.sumAxis axis) axis h.freq false,
               err2 := pnDiv (h.freq.sumAxis axis) axis h.err2 true } := by
  unfold HN.partialNormalize
  dsimp only
  split
  · rfl
  · rename_i hno
    exact absurd hs (hno n m)

def Arr.colSum (a : Arr) (n j : Nat) : Rat := ((List.range n).map fun i => a.get [i, j]).sum
def Arr.rowSum (a : Arr) (m i : Nat) : Rat := ((List.range m).map fun j => a.get [i, j]).sum

/-- `a.sum(axis=0)[j]` is the sum of column `j` -/
theorem Arr.get_sumAxis0 (a : Arr) (n m j : Nat) (hs : a.shape = [n, m]) :
    (a.sumAxis 0).get [j] = a.colSum n j := by
  rw [Arr.get_sumAxis_insAt a 0 [j] (by rw [hs]; simp)]
  simp [hs, Arr.colSum]

/-- `a.sum(axis=1)[i]` is the sum of row `i` -/
theorem Arr.get_sumAxis1 (a : Arr) (n m i : Nat) (hs : a.shape = [n, m]) :
    (a.sumAxis 1).get [i] = a.rowSum m i := by
  rw [Arr.get_sumAxis_insAt a 1 [i] (by rw [hs]; simp)]
  simp [hs, Arr.rowSum, insAt]

/-- reading an entry of `pnDiv` — at every index tuple: outside the shape both sides are `0` -/
theorem pnDiv_get (sums : Arr) (axis : Nat) (a : Arr) (sq : Bool) (idx : List Nat) :
    (pnDiv sums axis a sq).get idx
      = a.get idx / (if sq then (if sums.get [idx[1 - axis]?.getD 0] = 0 then 1 else sums.get [idx[1 - axis]?.getD 0])
                                  * (if sums.get [idx[1 - axis]?.getD 0] = 0 then 1 else sums.get [idx[1 - axis]?.getD 0])
                        else (if sums.get [idx[1 - axis]?.getD 0] = 0 then 1 else sums.get [idx[1 - axis]?.getD 0])) := by
  cases hv : validIdx a.shape idx with
  | true =>
    unfold pnDiv
    rw [Arr.get_ofFn _ _ _ hv]
  | false =>
    have h1 : (pnDiv sums axis a sq).get idx = 0 := Arr.get_invalid _ _ hv
    rw [h1, Arr.get_invalid a idx hv, zero_div]

/-- **One line of a 2-D `partial_normalize`.**  `mk t` are the index tuples of a line (a column for
    `axis = 0`, a row for `axis = 1`) whose marginal sum `S` the model reads at `[o]`: if `S ≠ 0` the
    line of the result sums to 1, contents are `old / S`, squared errors `old / S²`; if `S = 0` the
    line is unchanged (the divisor is replaced by 1).  Needs only the shape of the content array. -/
theorem HN.partialNormalize_line (h : HN) (axis n m : Nat) (hs : h.freq.shape = [n, m]) (mk : Nat → List Nat)
    (o len : Nat) (S : Rat) (ho : ∀ t, (mk t)[1 - axis]?.getD 0 = o) (hS : (h.freq.sumAxis axis).get [o] = S)
    (hsum : S = ((List.range len).map fun t => h.freq.get (mk t)).sum) :
    (S ≠ 0 →
      ((List.range len).map fun t => (h.partialNormalize axis).freq.get (mk t)).sum = 1 ∧
      ∀ t, (h.partialNormalize axis).freq.get (mk t) = h.freq.get (mk t) / S ∧
        (h.partialNormalize axis).err2.get (mk t) = h.err2.get (mk t) / (S * S)) ∧
    (S = 0 → ∀ t, (h.partialNormalize axis).freq.get (mk t) = h.freq.get (mk t) ∧
        (h.partialNormalize axis).err2.get (mk t) = h.err2.get (mk t)) := by
  rw [HN.partialNormalize_eq h axis n m hs]
  dsimp only
  have hf : ∀ t, (pnDiv (h.freq.sumAxis axis) axis h.freq false).get (mk t)
      = h.freq.get (mk t) / (if S = 0 then 1 else S) := by
    intro t
    rw [pnDiv_get, ho t, hS]
    rfl
  have hE : ∀ t, (pnDiv (h.freq.sumAxis axis) axis h.err2 true).get (mk t)
      = h.err2.get (mk t) / ((if S = 0 then 1 else S) * (if S = 0 then 1 else S)) := by
    intro t
    rw [pnDiv_get, ho t, hS]
    rfl
  constructor
  · intro hne
    refine ⟨?_, fun t => ⟨by rw [hf t, if_neg hne], by rw [hE t, if_neg hne]⟩⟩
    simp only [hf, if_neg hne]
    rw [sum_map_div_fn, ← hsum]
    exact div_self hne
  · intro hz t
    rw [hf t, hE t, if_pos hz]
    simp

/-- **`axis ≥ 2` (outside the claim).**  The model is total: `1 - axis` is `0` in `Nat`, and
    `sumAxis` of a 2-D array over a non-existent axis is a 2-D array, whose entry at the 1-tuple
    `[idx[0]]` reads as `0`, so every divisor is replaced by 1: the contents are returned unchanged
    (physt raises for such an axis).  This is why `C06_partial_axis0` and `C06_partial_axis1`
    (`Theorems/C06_ND.lean`) are stated for `axis = 0` and `axis = 1` only. -/
theorem HN.partialNormalize_axis_ge2 (h : HN) (axis n m i j : Nat) (hax : 2 ≤ axis)
    (hs : h.freq.shape = [n, m]) :
    (h.partialNormalize axis).freq.get [i, j] = h.freq.get [i, j] ∧
    (h.partialNormalize axis).err2.get [i, j] = h.err2.get [i, j] := by
  rw [HN.partialNormalize_eq h axis n m hs]
  simp only
  have h0 : ∀ x, (h.freq.sumAxis axis).get [x] = 0 := by
    intro x
    apply Arr.get_invalid
    rw [Arr.shape_sumAxis, hs]
    have : Arr.removeAt [n, m] axis = [n, m] := by
      unfold Arr.removeAt
      exact List.eraseIdx_of_length_le (by simpa using hax)
    rw [this]; simp [validIdx]
  rw [pnDiv_get, pnDiv_get]
  simp [h0]

/-! ## scaling an N-d histogram -/

/-- reading an entry of a mapped array, for a map that fixes `0` (all scalings do); holds for
    every index tuple, valid or not, and every array, well-shaped or not -/
theorem Arr.get_map (a : Arr) (f : Rat → Rat) (hf : f 0 = 0) (idx : List Nat) :
    (a.map f).get idx = f (a.get idx) := by
  unfold Arr.get Arr.map
  simp only
  by_cases hv : validIdx a.shape idx = true
  · simp only [hv, if_true, List.getElem?_map]
    cases a.data[ravel a.shape idx]? <;> simp [hf]
  · simp [hv, hf]

theorem Arr.shape_map (a : Arr) (f : Rat → Rat) : (a.map f).shape = a.shape := rfl

theorem Arr.wellShaped_map (a : Arr) (f : Rat → Rat) (hw : a.WellShaped) : (a.map f).WellShaped := by
  unfold Arr.WellShaped at hw ⊢
  simpa [Arr.map] using hw

theorem Arr.total_map_mul (a : Arr) (c : Rat) : (a.map (· * c)).total = a.total * c := by
  unfold Arr.total Arr.map
  exact sum_map_mul a.data c

theorem Arr.total_map_div (a : Arr) (c : Rat) : (a.map (· / c)).total = a.total / c := by
  unfold Arr.total Arr.map
  exact sum_map_div a.data c

theorem Arr.map_map (a : Arr) (f g : Rat → Rat) : (a.map f).map g = a.map (g ∘ f) := by
  simp [Arr.map]

theorem Arr.map_id' (a : Arr) (f : Rat → Rat) (hf : ∀ x, f x = x) : a.map f = a := by
  obtain ⟨sh, d⟩ := a
  simp only [Arr.map, Arr.mk.injEq, true_and]
  conv_rhs => rw [← List.map_id d]
  exact List.map_congr_left fun x _ => hf x

theorem Arr.any_neg_of_get (a : Arr) (idx : List Nat) (h : a.get idx < 0) : a.data.any (· < 0) = true := by
  unfold Arr.get at h
  split at h
  · cases hd : a.data[ravel a.shape idx]? with
    | none => simp [hd] at h
    | some x =>
      simp only [hd, Option.getD_some] at h
      rw [List.any_eq_true]
      exact ⟨x, List.mem_of_getElem? hd, by simpa using h⟩
  · simp at h

/-- scaling keeps arrays well-shaped -/
theorem C06_ND_wellShaped (h r : HN) (c : Rat) (k : H1.NumKind) (hf : h.freq.WellShaped) (he : h.err2.WellShaped) :
    (h.imul c k = .ok r → r.freq.WellShaped ∧ r.err2.WellShaped) ∧
    (h.idiv c = .ok r → r.freq.WellShaped ∧ r.err2.WellShaped) := by
  constructor
  · intro hr
    obtain ⟨_, rfl⟩ := (HN.imul_iff h r c k).mp hr
    exact ⟨Arr.wellShaped_map _ _ hf, Arr.wellShaped_map _ _ he⟩
  · intro hr
    obtain ⟨_, _, rfl⟩ := (HN.idiv_iff h r c).mp hr
    exact ⟨Arr.wellShaped_map _ _ hf, Arr.wellShaped_map _ _ he⟩

/-! ## Non-vacuity: concrete instances checked by the kernel -/
namespace ScaleNDExamples

/-- a 2 × 3 histogram: rows `[1 2 3]` and `[4 5 6]` -/
def h23 : HN :=
  { axes := [.static [(0, 1), (1, 2)] true, .static [(0, 1), (1, 2), (2, 3)] true],
    freq := { shape := [2, 3], data := [1, 2, 3, 4, 5, 6] },
    err2 := { shape := [2, 3], data := [1, 2, 3, 4, 5, 6] }, names := ["x", "y"] }

/-- `axis = 0`: every column is divided by its sum (5, 7, 9) … -/
example : (h23.partialNormalize 0).freq.data = [1 / 5, 2 / 7, 1 / 3, 4 / 5, 5 / 7, 2 / 3] ∧
    (h23.partialNormalize 0).err2.data = [1 / 25, 2 / 49, 1 / 27, 4 / 25, 5 / 49, 2 / 27] := by decide +kernel
/-- … so that every column sums to 1 (and the rows do not) -/
example : ((List.range 3).map fun j => (h23.partialNormalize 0).freq.colSum 2 j) = [1, 1, 1] ∧
    ((List.range 2).map fun i => (h23.partialNormalize 0).freq.rowSum 3 i) = [86 / 105, 229 / 105] := by
  decide +kernel
/-- `axis = 1`: every row is divided by its sum (6, 15) … -/
example : (h23.partialNormalize 1).freq.data = [1 / 6, 1 / 3, 1 / 2, 4 / 15, 1 / 3, 2 / 5] ∧
    (h23.partialNormalize 1).err2.data = [1 / 36, 1 / 18, 1 / 12, 4 / 225, 1 / 45, 2 / 75] := by decide +kernel
/-- … so that every row sums to 1 -/
example : ((List.range 2).map fun i => (h23.partialNormalize 1).freq.rowSum 3 i) = [1, 1] := by decide +kernel
/-- bins, names, missed are untouched, the dtype becomes float64 -/
example : (h23.partialNormalize 0).axes = h23.axes ∧ (h23.partialNormalize 1).names = ["x", "y"] ∧
    (h23.partialNormalize 0).missed = some 0 ∧ (h23.partialNormalize 1).dtype = .f64 := by decide +kernel

/-- columns with sum zero (column 1: all empty; column 2: `3 + (-3)`) are returned unchanged -/
example : (({ h23 with freq := { shape := [2, 3], data := [1, 0, 3, 4, 0, -3] } } : HN).partialNormalize 0).freq.data
    = [1 / 5, 0, 3, 4 / 5, 0, -3] := by decide +kernel

/-- **outside the claim**: for `axis = 2` the model (Nat subtraction `1 - 2 = 0`, sum over a
    non-existent axis) returns the contents unchanged, so no row or column sums to 1 -/
example : (h23.partialNormalize 2).freq = h23.freq ∧ (h23.partialNormalize 2).freq.colSum 2 0 = 5 := by
  decide +kernel

def b3 : Binning := .static [(0, 1), (1, 2), (2, 3)] true

/-- a collection of three members over the same three bins; the last bin is empty in all of them -/
def coll : List H1 :=
  [{ binning := b3, freq := [1, 2, 0], err2 := [1, 2, 0] },
   { binning := b3, freq := [3, 2, 0], err2 := [3, 2, 0], under := some 5 },
   { binning := b3, freq := [0, 4, 0], err2 := [0, 4, 0] }]

example : H1.binSums coll = [4, 8, 0] := by decide +kernel
example : (H1.normalizeBins coll).map (·.freq) = [[1 / 4, 1 / 4, 0], [3 / 4, 1 / 4, 0], [0, 1 / 2, 0]] ∧
    (H1.normalizeBins coll).map (·.err2) = [[1 / 16, 1 / 32, 0], [3 / 16, 1 / 32, 0], [0, 1 / 16, 0]] := by
  decide +kernel
/-- the shares sum to 1 in the two bins with a non-zero sum; in the all-empty bin the model stores
    `0 / 0 = 0` (numpy: NaN), the sum there is 0 — which is why `s_i ≠ 0` is a hypothesis -/
example : ((List.range 3).map fun i => ((H1.normalizeBins coll).map fun m => m.freq[i]?.getD 0).sum) = [1, 1, 0] := by
  decide +kernel
example : (H1.normalizeBins coll).map (·.dtype) = [.f64, .f64, .f64] ∧
    (H1.normalizeBins coll).map (·.under) = [some 0, some 5, some 0] ∧
    (H1.normalizeBins coll).map (·.binning) = [b3, b3, b3] := by decide +kernel

/-- why equal lengths are assumed for "the members keep their bins": `binSums` has as many entries
    as the *first* member, and `zipWith` truncates a longer member -/
example : (H1.normalizeBins [{ binning := b3, freq := [1], err2 := [1] },
    { binning := b3, freq := [1, 2], err2 := [1, 2] }]).map (·.freq) = [[1 / 2], [1 / 2]] := by decide +kernel

/-- why `(h * c) / c = h` assumes that *both* calls are accepted: the model does not require stored
    contents to be non-negative, and `[-1] * (-1) = [1]` is accepted while `[1] / (-1)` is refused -/
example : ((({ h23 with freq := { shape := [1], data := [-1] } } : HN).imul (-1) .pyInt).toOption.map
    fun m => (m.freq.data, (m.idiv (-1)).toOption.isSome)) = some ([1], false) := by decide +kernel

/-- ND scaling and normalisation on the 2 × 3 histogram -/
example : ((h23.imul (1 / 2) .pyFloat).toOption.map fun r => (r.freq.data, r.err2.data, r.dtype))
    = some ([1 / 2, 1, 3 / 2, 2, 5 / 2, 3], [1 / 4, 1 / 2, 3 / 4, 1, 5 / 4, 3 / 2], .f64) := by decide +kernel
example : ((h23.normalize false true).toOption.map fun r => (r.freq.total, r.freq.get [1, 2]))
    = some (100, 600 / 21) := by decide +kernel
example : (h23.imul (-1) .pyInt).toOption = none ∧ (h23.idiv 0).toOption = none := by decide +kernel

end ScaleNDExamples

end Physt
