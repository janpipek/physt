import Physt.Proofs.History1D
import Physt.Proofs.ScaleND
import Physt.Proofs.OpsND
import Physt.Theorems.C11
/-!
# Well-formedness over arbitrary histories of an N-dimensional histogram (C18, ND part)

The N-dimensional analogue of `Physt/Proofs/History1D.lean`: the invariant `WFN`, the operation
language `OpN'`, one call `stepN'`, what the caller keeps after a refusal `keptN` (mirroring
`Physt/DriverND.lean`) and a history `runN`.  The invariant holds after every call and every
history, for every kind of axis (static bins of any shape; fixed-width grids, adaptive or not,
**growth included** in `fill`, `fill_n` and `+=` / `-=`), every `FloatOps`, every fuel.  A refused
call leaves axes, contents, squared errors, missed, `keep_missed` and names exactly as they were; the
dtype is the old one or a lossless promotion.  Unlike in one dimension this has no exception:
`HN.fillN` validates its arguments *before* it grows adaptive axes (`fillN_refused_reason`; the 1-D
`fill_n` adapts first), and `merge_bins(axis=None)` (`HN.mergeAll`, a `foldlM`) is all-or-nothing.

Deviations / side conditions (each with a kernel-checked example in `DemoND`):

* `T`: `HN.transpose` reverses the axes of any histogram but transposes the arrays of 2-D ones only,
  so it breaks the shape equation for ≥ 3 axes of different lengths.  physt has `T` on
  `Histogram2D` only; `stepN'` refuses it unless there are exactly two axes, `wfn_transpose` needs
  `h.axes.length ≤ 2`.
* axes are referred to as in physt (position or name) and resolved by `HN.getAxis`; an unknown axis
  is a refusal.  (The bare model functions are total on a non-existent axis: `selectSlice` returns
  its argument, `accumulate` / `partialNormalize` leave the contents — `WFN` is kept anyway, the
  per-operation lemmas `wfn_selectSlice`, `wfn_accumulate`, … have no range hypothesis.)
* `fill` of a value with the wrong number of coordinates is refused (`Physt/DriverND.lean`); the
  kept state is `h.coerce wk.dtype` (the driver's `fill_wrong_dim`: `h.coerce .i64`).  `wfn_fill`
  itself has no hypothesis on the number of coordinates.
* the missed count is *not* part of `WFN`: `-=`, `*= -1`, `/= -1` can make it negative by accepted
  calls (the guards look at the bin contents only), exactly as in one dimension.
* `accumulate`, `partial_normalize`, `-=` cannot produce a negative content from a well-formed
  histogram (running sums / quotients by sums of non-negative contents; `-=` is guarded).
-/
namespace Physt
open H1

/-- shapes of contents, squared errors and bins match (one array axis per binning, as many stored
    numbers as cells), axis names match the axes, no squared error and no content is negative -/
structure WFN (fo : FloatOps) (h : HN) : Prop where
  fshape : h.freq.shape = h.shape fo
  eshape : h.err2.shape = h.shape fo
  fws : h.freq.WellShaped
  ews : h.err2.WellShaped
  epos : ∀ x ∈ h.err2.data, 0 ≤ x
  fpos : ∀ x ∈ h.freq.data, 0 ≤ x
  nlen : h.names.length = h.axes.length

def Arr.NonNeg (a : Arr) : Prop := ∀ x ∈ a.data, 0 ≤ x

theorem Arr.get_nonneg (a : Arr) (h : a.NonNeg) (idx : List Nat) : 0 ≤ a.get idx := by
  unfold Arr.get
  split
  · cases hd : a.data[ravel a.shape idx]? with
    | none => simp
    | some x => simpa using h x (List.mem_of_getElem? hd)
  · exact le_refl _

theorem Arr.nonneg_ofFn (shape : List Nat) (g : List Nat → Rat) (hg : ∀ idx, 0 ≤ g idx) :
    (Arr.ofFn shape g).NonNeg := by
  intro x hx
  simp only [Arr.ofFn, List.mem_map] at hx
  obtain ⟨idx, _, rfl⟩ := hx
  exact hg idx

theorem Arr.nonneg_gather (a : Arr) (h : a.NonNeg) (axis newN : Nat) (src : Nat → List Nat) :
    (a.gather axis newN src).NonNeg := by
  apply Arr.nonneg_ofFn
  intro idx
  apply List.sum_nonneg
  intro y hy
  obtain ⟨k, _, rfl⟩ := List.mem_map.mp hy
  exact Arr.get_nonneg a h _

theorem Arr.nonneg_squeeze (a : Arr) (h : a.NonNeg) (axis : Nat) : (a.squeeze axis).NonNeg :=
  Arr.nonneg_ofFn _ _ fun _ => Arr.get_nonneg a h _

theorem Arr.nonneg_sumAxis (a : Arr) (h : a.NonNeg) (axis : Nat) : (a.sumAxis axis).NonNeg :=
  Arr.nonneg_squeeze _ (Arr.nonneg_gather a h _ _ _) _

theorem Arr.nonneg_sumAxes (a : Arr) (h : a.NonNeg) (l : List Nat) : (a.sumAxes l).NonNeg := by
  unfold Arr.sumAxes
  induction l generalizing a with
  | nil => exact h
  | cons x xs ih => exact ih _ (Arr.nonneg_sumAxis a h x)

theorem Arr.wellShaped_zeros (shape : List Nat) : (Arr.zeros shape).WellShaped := Arr.wellShaped_ofFn _ _

theorem Arr.wellShaped_zipWith (f : Rat → Rat → Rat) (a b : Arr) (ha : a.WellShaped) (hb : b.WellShaped)
    (hs : b.shape = a.shape) : (Arr.zipWith f a b).WellShaped := by
  unfold Arr.WellShaped at *
  simp [Arr.zipWith, ha, hb, hs]

theorem Arr.shape_zipWith (f : Rat → Rat → Rat) (a b : Arr) : (Arr.zipWith f a b).shape = a.shape := rfl

/-! ## One notion for contents and squared errors -/

/-- shape `s`, as many stored numbers as cells, none negative: what `WFN` asks of the contents and of the squared
    errors alike -/
def Arr.Good (s : List Nat) (a : Arr) : Prop := a.shape = s ∧ a.WellShaped ∧ a.NonNeg

theorem WFN.freq {fo : FloatOps} {h : HN} (w : WFN fo h) : h.freq.Good (h.shape fo) := ⟨w.fshape, w.fws, w.fpos⟩

theorem WFN.err2 {fo : FloatOps} {h : HN} (w : WFN fo h) : h.err2.Good (h.shape fo) := ⟨w.eshape, w.ews, w.epos⟩

theorem WFN.of_good {fo : FloatOps} {h : HN} {s : List Nat} (hs : h.shape fo = s) (f : h.freq.Good s)
    (e : h.err2.Good s) (n : h.names.length = h.axes.length) : WFN fo h :=
  ⟨f.1.trans hs.symm, e.1.trans hs.symm, f.2.1, e.2.1, e.2.2, f.2.2, n⟩

theorem Arr.Good.ofFn (s : List Nat) (g : List Nat → Rat) (hg : ∀ idx, 0 ≤ g idx) : (Arr.ofFn s g).Good s :=
  ⟨rfl, Arr.wellShaped_ofFn _ _, Arr.nonneg_ofFn _ _ hg⟩

theorem Arr.Good.zeros (s : List Nat) : (Arr.zeros s).Good s := .ofFn _ _ fun _ => le_refl _

theorem Arr.Good.gather {s : List Nat} {a : Arr} (g : a.Good s) (axis n : Nat) (src : Nat → List Nat) :
    (a.gather axis n src).Good (Arr.setAt s axis n) :=
  ⟨g.1 ▸ rfl, Arr.wellShaped_gather _ _ _ _, Arr.nonneg_gather a g.2.2 _ _ _⟩

theorem Arr.Good.zipAdd {s : List Nat} {a b : Arr} (ga : a.Good s) (gb : b.Good s) :
    (Arr.zipWith (· + ·) a b).Good s :=
  ⟨ga.1, Arr.wellShaped_zipWith _ _ _ ga.2.1 gb.2.1 (gb.1.trans ga.1.symm), zipAdd_nonneg a.data b.data ga.2.2 gb.2.2⟩

/-! ## `WFN` from its parts; fields that do not matter -/

theorem shape_eq_of_axes (fo : FloatOps) {h h' : HN} (ha : h'.axes = h.axes) : h'.shape fo = h.shape fo := by
  simp only [HN.shape, ha]

theorem wfn_of_eq (fo : FloatOps) {h h' : HN} (ha : h'.axes = h.axes) (hf : h'.freq = h.freq)
    (he : h'.err2 = h.err2) (hn : h'.names = h.names) (w : WFN fo h) : WFN fo h' :=
  .of_good (shape_eq_of_axes fo ha) (hf ▸ w.freq) (he ▸ w.err2) (hn ▸ ha ▸ w.nlen)

theorem wfn_coerce (fo : FloatOps) (h : HN) (d : DType) (w : WFN fo h) : WFN fo (h.coerce d) :=
  wfn_of_eq fo (h := h) (h' := h.coerce d) rfl rfl rfl rfl w

theorem HN.shape_set (fo : FloatOps) (axes : List Binning) (i : Nat) (b : Binning) :
    (axes.set i b).map (fun b => (b.bins fo).length) = Arr.setAt (axes.map fun b => (b.bins fo).length) i (b.bins fo).length := by
  simp [Arr.setAt, List.map_set]

theorem HN.shape_of_set (fo : FloatOps) {h x : HN} {i : Nat} {b : Binning} (hx : x.axes = h.axes.set i b) :
    x.shape fo = Arr.setAt (h.shape fo) i (b.bins fo).length := by
  rw [HN.shape, hx]; exact HN.shape_set fo h.axes i b

/-! ## Growing adaptive axes (`_reshape_data` along one axis) -/

theorem setAt_of_getElem? {α} (l : List α) (i : Nat) (x : α) (h : l[i]? = some x) : Arr.setAt l i x = l := by
  obtain ⟨hi, rfl⟩ := List.getElem?_eq_some_iff.mp h
  exact List.set_getElem_self hi

/-- `_reshape_data` along one axis; "no change" is sound when the axis keeps its length -/
theorem Arr.Good.reshapeAxis {s : List Nat} {a : Arr} (g : a.Good s) (axis n : Nat) (r : Grid.Reshape)
    (hn : r = .noChange → Arr.setAt s axis n = s) : (HN.reshapeAxis a axis n r).Good (Arr.setAt s axis n) := by
  cases r with
  | noChange => exact (hn rfl).symm ▸ g
  | fresh => exact g.1 ▸ .zeros _
  | shift k => exact g.gather axis n _

theorem Binning.adaptive_cases (b : Binning) : b.isAdaptive = false ∨ ∃ g, b = .fixed g ∧ g.adaptive = true := by
  cases b with
  | static _ _ => exact .inl rfl
  | fixed g => exact (Bool.eq_false_or_eq_true g.adaptive).symm.imp_right fun h => ⟨g, rfl, h⟩

/-- one round of the loop of `HN.adaptAxes` -/
def adaptStep (fo : FloatOps) (fuel : Nat) (cols : List (List Rat)) (single : Bool) (h : HN) (i : Nat) : HN :=
  match h.axes[i]?, cols[i]? with
  | some (Binning.fixed g), some vs =>
    if g.adaptive then
      { h with axes := h.axes.set i (.fixed (adaptGrid fo fuel g vs single).1),
               freq := HN.reshapeAxis h.freq i (adaptGrid fo fuel g vs single).1.count (adaptGrid fo fuel g vs single).2,
               err2 := HN.reshapeAxis h.err2 i (adaptGrid fo fuel g vs single).1.count (adaptGrid fo fuel g vs single).2 }
    else h
  | _, _ => h

theorem adaptAxes_eq (fo : FloatOps) (fuel : Nat) (h : HN) (cols : List (List Rat)) (single : Bool) :
    h.adaptAxes fo fuel cols single = (List.range h.axes.length).foldl (adaptStep fo fuel cols single) h := rfl

theorem adaptStep_axes_ne (fo : FloatOps) (fuel : Nat) (cols : List (List Rat)) (single : Bool) (a : HN) {i j : Nat}
    (hij : i ≠ j) : (adaptStep fo fuel cols single a i).axes[j]? = a.axes[j]? := by
  unfold adaptStep
  split
  · split
    · exact List.getElem?_set_ne hij
    · rfl
  · rfl

/-- **Induction over the growth loop of `fill` / `fill_n`.**  Round `n` looks at axis `n` only, and no earlier
    round has touched that axis: a property of (rounds done, state) that holds at the start and is kept
    by round `n` on every state whose axis `n` is still the original one holds of the result. -/
theorem adaptAxes_induct (fo : FloatOps) (fuel : Nat) (cols : List (List Rat)) (single : Bool) (h : HN)
    (P : Nat → HN → Prop) (h0 : P 0 h)
    (step : ∀ n a, n < h.axes.length → a.axes[n]? = h.axes[n]? → P n a →
      P (n + 1) (adaptStep fo fuel cols single a n)) :
    P h.axes.length (h.adaptAxes fo fuel cols single) := by
  rw [adaptAxes_eq]
  suffices key : ∀ n, n ≤ h.axes.length → P n ((List.range n).foldl (adaptStep fo fuel cols single) h) ∧
      ∀ j, n ≤ j → ((List.range n).foldl (adaptStep fo fuel cols single) h).axes[j]? = h.axes[j]? from
    (key _ (le_refl _)).1
  intro n
  induction n with
  | zero => exact fun _ => ⟨h0, fun _ _ => rfl⟩
  | succ n ih =>
    intro hn
    obtain ⟨p, q⟩ := ih (by omega)
    rw [List.range_succ, List.foldl_append]
    exact ⟨step n _ hn (q n (le_refl n)) p,
      fun j hj => (adaptStep_axes_ne fo fuel cols single _ (by omega)).trans (q j (by omega))⟩

theorem HN.shape_getElem? (fo : FloatOps) (h : HN) (i : Nat) (b : Binning) (hb : h.axes[i]? = some b) :
    (h.shape fo)[i]? = some (b.bins fo).length := by
  simp [HN.shape, hb]

theorem wfn_adaptStep (fo : FloatOps) (fuel : Nat) (cols : List (List Rat)) (single : Bool) (h : HN) (i : Nat)
    (w : WFN fo h) : WFN fo (adaptStep fo fuel cols single h i) := by
  unfold adaptStep
  split
  · rename_i g vs hg hc
    split
    · have hn : (adaptGrid fo fuel g vs single).2 = .noChange →
          Arr.setAt (h.shape fo) i (adaptGrid fo fuel g vs single).1.count = h.shape fo := fun hh => by
        rw [adaptGrid_noChange _ _ _ _ _ hh]
        exact setAt_of_getElem? _ _ _ (by rw [HN.shape_getElem? fo h i _ hg]; simp [Binning.bins, Grid.bins_length])
      exact .of_good ((HN.shape_of_set fo (b := .fixed (adaptGrid fo fuel g vs single).1) rfl).trans
          (congrArg (Arr.setAt _ i) (Grid.bins_length fo _)))
        (w.freq.reshapeAxis i _ _ hn) (w.err2.reshapeAxis i _ _ hn) (by simpa using w.nlen)
    · exact w
  · exact w

theorem wfn_adaptAxes (fo : FloatOps) (fuel : Nat) (h : HN) (cols : List (List Rat)) (single : Bool)
    (w : WFN fo h) : WFN fo (h.adaptAxes fo fuel cols single) :=
  adaptAxes_induct fo fuel cols single h (fun _ a => WFN fo a) w fun n a _ _ wa => wfn_adaptStep fo fuel cols single a n wa

theorem adaptAxes_fields (fo : FloatOps) (fuel : Nat) (h : HN) (cols : List (List Rat)) (single : Bool) :
    (h.adaptAxes fo fuel cols single).names = h.names ∧ (h.adaptAxes fo fuel cols single).missed = h.missed ∧
    (h.adaptAxes fo fuel cols single).keep = h.keep ∧ (h.adaptAxes fo fuel cols single).dtype = h.dtype := by
  refine adaptAxes_induct fo fuel cols single h
    (fun _ x => x.names = h.names ∧ x.missed = h.missed ∧ x.keep = h.keep ∧ x.dtype = h.dtype) ⟨rfl, rfl, rfl, rfl⟩
    fun n a _ _ ha => ?_
  unfold adaptStep
  split
  · split
    · exact ha
    · exact ha
  · exact ha

theorem Arr.Good.addAtIdx {s : List Nat} {a : Arr} (g : a.Good s) (idx : List Nat) {x : Rat} (hx : 0 ≤ x) :
    (HN.addAtIdx a idx x).Good s :=
  ⟨g.1, (List.length_modify ..).trans g.2.1, (Physt.Good.addAt ⟨rfl, g.2.2⟩ _ hx).2⟩

/-- a single `fill` with a non-negative weight, on any axes (adaptive growth included; the value
    may even have the wrong number of coordinates) -/
theorem wfn_fill (fo : FloatOps) (fuel : Nat) (h : HN) (value : List (Option Rat)) (x : Rat) (wk : NumKind)
    (hx : 0 ≤ x) (w : WFN fo h) : WFN fo (h.fill fo fuel value x wk).1 := by
  unfold HN.fill
  split
  · exact w
  · have w2 := wfn_adaptAxes fo fuel _ ((value.filterMap id).map fun x => [x]) true (wfn_coerce fo h wk.dtype w)
    simp only []
    generalize (h.coerce wk.dtype).adaptAxes fo fuel ((value.filterMap id).map fun x => [x]) true = h2 at w2
    split
    · split
      · exact wfn_of_eq fo (h := h2) rfl rfl rfl rfl w2
      · exact w2
    · rename_i idx _
      exact .of_good rfl (w2.freq.addAtIdx idx hx) (w2.err2.addAtIdx idx (mul_self_nonneg x)) w2.nlen

theorem calcND_freq_nonneg (axes : AxesB) (rows : List Row) (hw : ∀ r ∈ rows, 0 ≤ r.2) :
    (calcND axes rows).freq.NonNeg := by
  apply Arr.nonneg_ofFn
  intro idx
  apply List.sum_nonneg
  intro y hy
  obtain ⟨c, hc, rfl⟩ := List.mem_map.mp hy
  obtain ⟨r, hr, rfl⟩ := List.mem_map.mp (List.mem_filter.mp hc).1
  exact hw r hr

theorem calcND_err2_nonneg (axes : AxesB) (rows : List Row) : (calcND axes rows).err2.NonNeg := by
  apply Arr.nonneg_ofFn
  intro idx
  apply List.sum_nonneg
  intro y hy
  obtain ⟨c, _, rfl⟩ := List.mem_map.mp hy
  exact mul_self_nonneg _

theorem maskRows_nonneg (rows : List (List (Option Rat))) (ws : Option (List Rat))
    (hw : ∀ l, ws = some l → ∀ x ∈ l, 0 ≤ x) : ∀ r ∈ maskRows rows ws, 0 ≤ r.2 := by
  fun_induction maskRows rows ws with
  | case1 => nofun
  | case2 r rs h ih => exact List.forall_mem_cons.mpr ⟨zero_le_one, ih hw⟩
  | case3 r rs h ih => exact ih hw
  | case4 r rs w ws h ih =>
    exact List.forall_mem_cons.mpr ⟨hw _ rfl w (List.mem_cons_self ..),
      ih fun l hl x hx => hw _ rfl x (by cases hl; exact List.mem_cons_of_mem _ hx)⟩
  | case5 r rs w ws h ih => exact ih fun l hl x hx => hw _ rfl x (by cases hl; exact List.mem_cons_of_mem _ hx)
  | case6 => nofun

theorem wfn_fillData (fo : FloatOps) (h2 : HN) (w2 : WFN fo h2) (data : List Row) (hd : ∀ r ∈ data, 0 ≤ r.2) :
    WFN fo (h2.fillData fo data) := by
  have cf := calcND_freq_hasShape (h2.axesBins fo) data
  have ce := calcND_err2_hasShape (h2.axesBins fo) data
  rw [HN.axesBins_shape] at cf ce
  exact .of_good rfl (w2.freq.zipAdd ⟨cf.1, cf.wellShaped, calcND_freq_nonneg _ _ hd⟩)
    (w2.err2.zipAdd ⟨ce.1, ce.wellShaped, calcND_err2_nonneg _ _⟩) w2.nlen

theorem wfn_fillN (fo : FloatOps) (fuel : Nat) (h r : HN) (rows : List (List (Option Rat))) (ws : Option (List Rat))
    (wk : DType) (hw : ∀ l, ws = some l → ∀ x ∈ l, 0 ≤ x) (w : WFN fo h)
    (hr : h.fillN fo fuel rows ws wk = .ok r) : WFN fo r := by
  rw [HN.fillN_eq] at hr
  obtain ⟨_, hr⟩ := guard_ok hr
  have hd := maskRows_nonneg rows ws hw
  cases ws with
  | none => cases hr; exact wfn_fillData fo _ (wfn_adaptAxes fo fuel _ _ false w) _ hd
  | some l =>
    obtain ⟨_, hr⟩ := guard_ok hr
    cases hr
    exact wfn_fillData fo _ (wfn_adaptAxes fo fuel _ _ false (wfn_coerce fo h wk w)) _ hd

/-! ## `+=` and `-=` with another histogram, adaptive growth included -/

theorem mapM_ok_forall₂ {α β} (f : α → R β) (l : List α) (out : List β) (h : l.mapM f = .ok out) :
    List.Forall₂ (fun x y => f x = .ok y) l out := by
  induction l generalizing out with
  | nil => cases h; exact .nil
  | cons a l ih =>
    rw [List.mapM_cons] at h
    obtain ⟨b, hb, h⟩ := bind_ok _ _ _ h
    obtain ⟨bs, hbs, h⟩ := bind_ok _ _ _ h
    cases h
    exact .cons hb (ih bs hbs)

theorem planOf_counts (fo : FloatOps) (a b : Binning) (p : Plan) (h : planOf fo (a, b) = .ok p) :
    (p.2.1 = .noChange → (a.bins fo).length = p.1.count) ∧ (p.2.2 = .noChange → (b.bins fo).length = p.1.count) := by
  cases a with
  | static _ _ => cases h
  | fixed g =>
    cases b with
    | static _ _ => cases h
    | fixed og =>
      simp only [planOf, pure, Except.pure] at h
      split at h
      · rename_i hb
        cases h
        exact ⟨fun _ => Grid.bins_length fo g,
          fun _ => (congrArg List.length (eq_of_beq hb).symm).trans (Grid.bins_length fo g)⟩
      · obtain ⟨c1, c2⟩ := adaptGrids_counts g og p.1 p.2.1 p.2.2 h
        exact ⟨fun hh => (Grid.bins_length fo g).trans (c1 hh), fun hh => (Grid.bins_length fo og).trans (c2 hh)⟩

theorem plans_counts (fo : FloatOps) (A B : List Binning) (plans : List Plan) (hl : A.length = B.length)
    (h : List.Forall₂ (fun x y => planOf fo x = .ok y) (A.zip B) plans) :
    List.Forall₂ (fun (a : Binning) (p : Plan) => p.2.1 = .noChange → (a.bins fo).length = p.1.count) A plans ∧
    List.Forall₂ (fun (b : Binning) (p : Plan) => p.2.2 = .noChange → (b.bins fo).length = p.1.count) B plans := by
  constructor
  · rw [← List.map_fst_zip (l₁ := A) (l₂ := B) hl.le]
    exact List.forall₂_map_left_iff.mpr (h.imp fun _ _ h1 => (planOf_counts fo _ _ _ h1).1)
  · rw [← List.map_snd_zip (l₁ := A) (l₂ := B) hl.ge]
    exact List.forall₂_map_left_iff.mpr (h.imp fun _ _ h1 => (planOf_counts fo _ _ _ h1).2)

/-- the reshaping loop of an adaptive `+=`: afterwards the array has the counts of the common grids -/
theorem planFold_spec (which : Bool) (ps : List Plan) (rest : List Nat)
    (hn : List.Forall₂ (fun (c : Nat) (p : Plan) => (if which then p.2.1 else p.2.2) = .noChange → c = p.1.count) rest ps) :
    ∀ (pre : List Nat) (f e : Arr), f.Good (pre ++ rest) → e.Good (pre ++ rest) →
      (ps.foldl (planStep which) (f, e, pre.length)).1.Good (pre ++ ps.map (·.1.count)) ∧
      (ps.foldl (planStep which) (f, e, pre.length)).2.1.Good (pre ++ ps.map (·.1.count)) := by
  induction hn with
  | nil => intro pre f e gf ge; exact ⟨gf, ge⟩
  | @cons c p rest ps hcp _ ih =>
    intro pre f e gf ge
    have hset : Arr.setAt (pre ++ c :: rest) pre.length p.1.count = pre ++ p.1.count :: rest := by
      simp [Arr.setAt]
    have hno : (if which then p.2.1 else p.2.2) = .noChange →
        Arr.setAt (pre ++ c :: rest) pre.length p.1.count = pre ++ c :: rest := fun hh => by rw [hset, hcp hh]
    have := ih (pre ++ [p.1.count]) _ _
      (by rw [List.append_assoc]; exact hset ▸ gf.reshapeAxis pre.length p.1.count _ hno)
      (by rw [List.append_assoc]; exact hset ▸ ge.reshapeAxis pre.length p.1.count _ hno)
    simp only [List.length_append, List.length_cons, List.length_nil, Nat.zero_add] at this
    simpa [List.foldl_cons, planStep] using this

/-- `+=` with a well-formed histogram: same bins, or adaptive axes that grow to the common grids -/
theorem wfn_iadd (fo : FloatOps) (h o r : HN) (wh : WFN fo h) (wo : WFN fo o) (hr : h.iadd fo o = .ok r) :
    WFN fo r := by
  by_cases hs : h.sameBins fo o = true
  · obtain ⟨_, ra, rn, rf, re⟩ := iaddN_same_ok fo h o r hs hr
    have hshape : o.shape fo = h.shape fo := by
      simpa [HN.shape, Function.comp_def] using congrArg (List.map List.length) (eq_of_beq hs).symm
    exact .of_good (shape_eq_of_axes fo ra) (rf ▸ wh.freq.zipAdd (hshape ▸ wo.freq))
      (re ▸ wh.err2.zipAdd (hshape ▸ wo.err2)) (by rw [rn, ra]; exact wh.nlen)
  · obtain ⟨hl, plans, hm, ra, rn, rf, re⟩ := iaddN_adaptive_ok fo h o r (Bool.eq_false_iff.mpr hs) hr
    obtain ⟨c1, c2⟩ := plans_counts fo _ _ _ hl (mapM_ok_forall₂ _ _ _ hm)
    obtain ⟨a1, a2⟩ := planFold_spec true plans (h.shape fo) (List.forall₂_map_left_iff.mpr c1) [] h.freq h.err2
      wh.freq wh.err2
    obtain ⟨b1, b2⟩ := planFold_spec false plans (o.shape fo) (List.forall₂_map_left_iff.mpr c2) [] o.freq o.err2
      wo.freq wo.err2
    have rs : r.shape fo = plans.map (·.1.count) := by
      simp only [HN.shape, ra, List.map_map]
      exact List.map_congr_left fun p _ => Grid.bins_length fo p.1
    refine .of_good rs (rf ▸ a1.zipAdd b1) (re ▸ a2.zipAdd b2) ?_
    rw [rn, ra, List.length_map, ← (mapM_ok_forall₂ _ _ _ hm).length_eq, List.length_zip, ← hl, Nat.min_self]
    exact wh.nlen

theorem iaddN_axes_congr (fo : FloatOps) {h o r h' o' r' : HN} (hr : h.iadd fo o = .ok r)
    (hr' : h'.iadd fo o' = .ok r') (ha : h'.axes = h.axes) (oa : o'.axes = o.axes) : r'.axes = r.axes := by
  have hsame : h'.sameBins fo o' = h.sameBins fo o := by simp [HN.sameBins, ha, oa]
  by_cases hs : h.sameBins fo o = true
  · rw [(iaddN_same_ok fo h o r hs hr).2.1, (iaddN_same_ok fo h' o' r' (hsame.trans hs) hr').2.1, ha]
  · have hs1 : h.sameBins fo o = false := by simpa using hs
    obtain ⟨_, plans, hm, ra, _⟩ := iaddN_adaptive_ok fo h o r hs1 hr
    obtain ⟨_, plans', hm', ra', _⟩ := iaddN_adaptive_ok fo h' o' r' (hsame.trans hs1) hr'
    rw [ha, oa, hm] at hm'
    cases hm'
    rw [ra, ra']

theorem Arr.Good.map {s : List Nat} {a : Arr} (g : a.Good s) (f : Rat → Rat) (hf : ∀ x, 0 ≤ x → 0 ≤ f x) :
    (a.map f).Good s := by
  refine ⟨g.1, Arr.wellShaped_map _ _ g.2.1, fun y hy => ?_⟩
  obtain ⟨x, hx, rfl⟩ := List.mem_map.mp hy
  exact hf x (g.2.2 x hx)

/-- scaling keeps a histogram well-formed (a factor that would make a content negative is refused) -/
theorem WFN.scaled {fo : FloatOps} {h : HN} (w : WFN fo h) (p : Rat) (d : DType)
    (hn : (h.freq.map (· * p)).data.any (· < 0) = false) : WFN fo (h.scaled p d) :=
  .of_good rfl ⟨w.fshape, Arr.wellShaped_map _ _ w.fws, any_lt_false hn⟩
    (w.err2.map _ fun x hx => mul_nonneg hx (mul_self_nonneg p)) w.nlen

theorem wfn_imul (fo : FloatOps) (h r : HN) (c : Rat) (k : NumKind) (w : WFN fo h) (hr : h.imul c k = .ok r) :
    WFN fo r := by
  obtain ⟨hn, rfl⟩ := (HN.imul_iff h r c k).mp hr
  exact w.scaled c _ hn

theorem wfn_idiv (fo : FloatOps) (h r : HN) (c : Rat) (w : WFN fo h) (hr : h.idiv c = .ok r) : WFN fo r := by
  obtain ⟨_, hn, rfl⟩ := (HN.idiv_iff h r c).mp hr
  exact w.scaled _ _ hn

theorem wfn_normalize (fo : FloatOps) (h r : HN) (inplace percent : Bool) (w : WFN fo h)
    (hr : h.normalize inplace percent = .ok r) : WFN fo r := by
  cases inplace with
  | true => exact wfn_idiv fo h r _ w hr
  | false =>
    obtain ⟨d, hd, hm⟩ := (HN.normalize_false_iff h r percent).mp hr
    exact wfn_imul fo d r _ _ (wfn_idiv fo h d _ w hd) hm

/-- `-=` with a well-formed histogram (free arithmetics off) -/
theorem wfn_isub (fo : FloatOps) (h o r : HN) (wh : WFN fo h) (wo : WFN fo o) (hr : h.isub fo o = .ok r) :
    WFN fo r := by
  obtain ⟨o0, h0, aS, aO, e1, e2, e3, e4, hsh, hn, rfl⟩ := isubN_parts fo h o r hr
  obtain ⟨n1, rfl⟩ := (HN.imul_iff o o0 0 .pyInt).mp e1
  obtain ⟨n2, rfl⟩ := (HN.imul_iff h h0 0 .pyInt).mp e2
  have wS := wfn_iadd fo h _ aS wh (wo.scaled 0 _ n1) e3
  have wO := wfn_iadd fo _ o aO (wh.scaled 0 _ n2) wo e4
  have haa : aO.axes = aS.axes := iaddN_axes_congr fo e3 e4 rfl rfl
  have hOS : aO.shape fo = aS.shape fo := shape_eq_of_axes fo haa
  have hS : aS.shape fo = h.shape fo := by rw [← wS.fshape, hsh, wh.fshape]
  exact .of_good rfl
    ⟨hsh.trans wh.fshape, Arr.wellShaped_zipWith _ _ _ wS.fws wO.fws (by rw [wO.fshape, wS.fshape, hOS]), any_lt_false hn⟩
    ((hS ▸ wS.err2).zipAdd (hS ▸ hOS ▸ wO.err2)) wh.nlen

theorem wfn_projection (fo : FloatOps) (h r : HN) (axes : List (Sum Int String)) (w : WFN fo h)
    (hr : h.projection axes = .ok r) : WFN fo r := by
  obtain ⟨ax, _, rfl⟩ := HN.projection_eq h r axes hr
  have hlen : (h.shape fo).length = h.axes.length := by simp [HN.shape]
  have hsh : ∀ a : Arr, a.shape = h.shape fo →
      (a.sumAxes (dropList h.axes.length fun i => ax.contains i)).shape
        = (keptOf h.axes (fun i => ax.contains i) h.axes.length).map fun b => (b.bins fo).length := by
    intro a ha
    rw [Arr.shape_sumAxes_dropList a _ _ (by rw [ha, hlen]), ← keptOf_map, ha]
    rw [List.drop_of_length_le (by rw [hlen]), List.append_nil]
    rfl
  refine ⟨hsh _ w.fshape, hsh _ w.eshape, Arr.wellShaped_sumAxes _ w.fws _, Arr.wellShaped_sumAxes _ w.ews _,
    Arr.nonneg_sumAxes _ w.epos _, Arr.nonneg_sumAxes _ w.fpos _, ?_⟩
  show (keptOf h.names _ _).length = (keptOf h.axes _ _).length
  rw [keptOf_length _ _ _ (by rw [w.nlen]), keptOf_length _ _ _ (Nat.le_refl _)]

theorem selectInt_ok (h r : HN) (axis : Nat) (i : Int) (hr : h.selectInt axis i = .ok r) :
    ∃ k : Nat, r = { axes := h.axes.eraseIdx axis, names := h.names.eraseIdx axis, freq := h.freq.selectInt axis k,
                     err2 := h.err2.selectInt axis k, missed := some 0, keep := true, dtype := h.dtype } := by
  obtain ⟨_, hr⟩ := guard_ok (c := _ ∨ _) hr
  cases hr
  exact ⟨_, rfl⟩

theorem wfn_selectInt (fo : FloatOps) (h r : HN) (axis : Nat) (i : Int) (w : WFN fo h)
    (hr : h.selectInt axis i = .ok r) : WFN fo r := by
  obtain ⟨k, rfl⟩ := selectInt_ok h r axis i hr
  have g : ∀ a : Arr, a.Good (h.shape fo) → (a.selectInt axis k).Good (Arr.removeAt (h.shape fo) axis) := fun a g =>
    ⟨by rw [Arr.shape_selectInt, g.1], Arr.wellShaped_ofFn _ _, Arr.nonneg_squeeze _ (Arr.nonneg_gather a g.2.2 _ _ _) _⟩
  exact .of_good (by show (h.axes.eraseIdx axis).map _ = _; exact (List.eraseIdx_map ..).symm) (g _ w.freq) (g _ w.err2)
    (by show (h.names.eraseIdx axis).length = (h.axes.eraseIdx axis).length; simp [List.length_eraseIdx, w.nlen])

theorem wfn_selectSlice (fo : FloatOps) (h : HN) (axis : Nat) (start stop : Option Int) (w : WFN fo h) :
    WFN fo (h.selectSlice fo axis start stop) := by
  unfold HN.selectSlice
  simp only []
  split
  · exact w
  · rename_i bn hbn
    have hn : h.freq.shape[axis]?.getD 0 = (bn.bins fo).length := by
      rw [w.fshape, HN.shape_getElem? fo h axis bn hbn]; rfl
    rw [hn]
    obtain ⟨la, lb⟩ := sliceBounds_le (bn.bins fo).length start stop
    generalize (sliceBounds (bn.bins fo).length start stop).1 = a at la
    generalize (sliceBounds (bn.bins fo).length start stop).2 = b at lb
    have hlen : (pySlice (bn.bins fo) a (if b < a then a else b)).length = (if b < a then a else b) - a := by
      simp only [pySlice, List.length_take, List.length_drop]
      split <;> omega
    exact .of_good ((HN.shape_of_set fo (b := .static _ bn.ire) rfl).trans (congrArg (Arr.setAt _ axis) hlen))
      (w.freq.gather axis _ _)
      (w.err2.gather axis _ _) (by simpa using w.nlen)

theorem Arr.Good.transpose {s : List Nat} {a : Arr} (g : a.Good s) (h2 : s.length ≤ 2) : a.transpose.Good s.reverse := by
  obtain ⟨rfl, ws, pos⟩ := g
  unfold Arr.transpose
  split
  · rename_i n m hs
    rw [hs]
    refine .ofFn _ _ fun idx => ?_
    split
    · exact Arr.get_nonneg a pos _
    · exact le_refl _
  · rename_i hno
    -- not of the form `[n, m]`: at most one axis, and reversing the shape changes nothing
    have : a.shape.reverse = a.shape := by
      match hs : a.shape with
      | [] | [_] => rfl
      | [n, m] => exact absurd hs (hno n m)
      | _ :: _ :: _ :: _ => rw [hs] at h2; simp at h2
    exact this.symm ▸ ⟨rfl, ws, pos⟩

/-- `Histogram2D.T` (also harmless with fewer than two axes) -/
theorem wfn_transpose (fo : FloatOps) (h : HN) (h2 : h.axes.length ≤ 2) (w : WFN fo h) : WFN fo h.transpose :=
  have hl : (h.shape fo).length ≤ 2 := by rwa [HN.shape, List.length_map]
  .of_good (List.map_reverse ..) (w.freq.transpose hl) (w.err2.transpose hl)
    (by show h.names.reverse.length = h.axes.reverse.length; rw [List.length_reverse, List.length_reverse, w.nlen])

/-- `accumulate(axis)`: running sums of non-negative contents are non-negative -/
theorem wfn_accumulate (fo : FloatOps) (h : HN) (axis : Nat) (w : WFN fo h) : WFN fo (h.accumulate axis) :=
  ⟨by show (h.freq.cumsum axis).shape = _; rw [Arr.shape_cumsum]; exact w.fshape, w.eshape,
    Arr.wellShaped_gather _ _ _ _, w.ews, w.epos, Arr.nonneg_gather _ w.fpos _ _ _, w.nlen⟩

theorem wfn_mergeAxisWithMap (fo : FloatOps) (h r : HN) (axis : Nat) (map : List Nat) (w : WFN fo h)
    (hr : h.mergeAxisWithMap fo axis map = .ok r) : WFN fo r := by
  obtain ⟨_, hr⟩ := guard_ok (c := map.isEmpty = true) hr
  split at hr
  · cases hr
  · obtain ⟨newBins, _, hr⟩ := bind_ok _ _ _ hr
    cases hr
    exact .of_good (HN.shape_of_set fo rfl) (w.freq.gather axis _ _) (w.err2.gather axis _ _) (by simpa using w.nlen)

theorem wfn_mergeAxis (fo : FloatOps) (h r : HN) (axis : Nat) (amount : Option Nat) (thr : Option Rat)
    (w : WFN fo h) (hr : h.mergeAxis fo axis amount thr = .ok r) : WFN fo r := by
  unfold HN.mergeAxis at hr
  split at hr
  · exact wfn_mergeAxisWithMap fo h r axis _ w (guard_ok (c := _ = 0) hr).2
  · exact wfn_mergeAxisWithMap fo h r axis _ w hr
  · cases hr

theorem wfn_mergeAll (fo : FloatOps) (h r : HN) (amount : Option Nat) (thr : Option Rat)
    (w : WFN fo h) (hr : h.mergeAll fo amount thr = .ok r) : WFN fo r :=
  -- an invariant of the state alone: nothing to track, so the rows are empty lists of `Unit`
  foldlM_tracks _ (fun _ => ([] : List Unit)) (fun a _ => WFN fo a) _
    (fun i _ a _ a' wa ha => wfn_mergeAxis fo a a' i amount thr wa ha) h [] w r hr

theorem pnDiv_nonneg (sums : Arr) (axis : Nat) (a : Arr) (sq : Bool) (hs : sums.NonNeg) (ha : a.NonNeg) :
    (pnDiv sums axis a sq).NonNeg := by
  apply Arr.nonneg_ofFn
  intro idx
  apply div_nonneg (Arr.get_nonneg a ha idx)
  have h1 : 0 ≤ (if sums.get [idx[1 - axis]?.getD 0] = 0 then 1 else sums.get [idx[1 - axis]?.getD 0]) := by
    split
    · norm_num
    · exact Arr.get_nonneg sums hs _
  cases sq with
  | true => exact mul_self_nonneg _
  | false => exact h1

/-- `partial_normalize(axis)`: the divisors are sums of non-negative contents -/
theorem wfn_partialNormalize (fo : FloatOps) (h : HN) (axis : Nat) (w : WFN fo h) : WFN fo (h.partialNormalize axis) := by
  unfold HN.partialNormalize
  dsimp only
  split
  · have hsum := Arr.nonneg_sumAxis h.freq w.fpos axis
    exact ⟨w.fshape, w.eshape, Arr.wellShaped_ofFn _ _, Arr.wellShaped_ofFn _ _,
      pnDiv_nonneg _ _ _ _ hsum w.epos, pnDiv_nonneg _ _ _ _ hsum w.fpos, w.nlen⟩
  · exact wfn_coerce fo h _ w

theorem setDTypeN_ok (h r : HN) (d : DType) (hr : h.setDType d = .ok r) :
    r.axes = h.axes ∧ r.freq = h.freq ∧ r.err2 = h.err2 ∧ r.names = h.names ∧ r.missed = h.missed ∧ r.keep = h.keep := by
  obtain ⟨_, _, hr⟩ := bind_ok _ _ _ hr
  cases hr
  exact ⟨rfl, rfl, rfl, rfl, rfl, rfl⟩

theorem wfn_setDType (fo : FloatOps) (h r : HN) (d : DType) (w : WFN fo h) (hr : h.setDType d = .ok r) : WFN fo r := by
  obtain ⟨a, f, e, n, _⟩ := setDTypeN_ok h r d hr
  exact wfn_of_eq fo a f e n w

theorem wfn_copy (fo : FloatOps) (h : HN) (b : Bool) (w : WFN fo h) : WFN fo (h.copy b) := by
  cases b with
  | true => exact w
  | false =>
    exact .of_good rfl (w.fshape ▸ .zeros _) (w.eshape ▸ .zeros _) w.nlen

/-- the public mutating / deriving operations of `HistogramND` / `Histogram2D` (free arithmetics
    off).  Axes are referred to as in physt: by position or by name. -/
inductive OpN'
  | fill (v : List (Option Rat)) (w : Rat) (wk : H1.NumKind)
  | fillN (rows : List (List (Option Rat))) (ws : Option (List Rat)) (wk : DType)
  | iadd (o : HN)
  | isub (o : HN)
  | imul (c : Rat) (k : H1.NumKind)
  | idiv (c : Rat)
  | normalize (inplace percent : Bool)
  | projection (axes : List (Sum Int String))
  | selectInt (ax : Sum Int String) (i : Int)
  | selectSlice (ax : Sum Int String) (start stop : Option Int)
  | transpose
  | accumulate (ax : Sum Int String)
  | mergeAxis (ax : Sum Int String) (amount : Option Nat) (thr : Option Rat)
  | mergeAll (amount : Option Nat) (thr : Option Rat)
  | partialNormalize (ax : Sum Int String)
  | setDType (d : DType)
  | copy (withFreq : Bool)

/-- one public call: the new state, or the refusal.  As in `Physt/DriverND.lean` (`stepN`): a
    `fill` whose value has the wrong number of coordinates is refused; an axis reference is resolved
    by `_get_axis` first (an unknown axis is a refusal).  `T` exists for `Histogram2D` only. -/
def stepN' (fo : FloatOps) (fuel : Nat) (h : HN) : OpN' → Except String HN
  | .fill v w wk => if v.length != h.axes.length then .error "wrong dimension" else .ok (h.fill fo fuel v w wk).1
  | .fillN rows ws wk => h.fillN fo fuel rows ws wk
  | .iadd o => h.iadd fo o
  | .isub o => h.isub fo o
  | .imul c k => h.imul c k
  | .idiv c => h.idiv c
  | .normalize i p => h.normalize i p
  | .projection axes => h.projection axes
  | .selectInt ax i => (h.getAxis ax).bind fun axis => h.selectInt axis i
  | .selectSlice ax a b => (h.getAxis ax).bind fun axis => .ok (h.selectSlice fo axis a b)
  | .transpose => if h.axes.length = 2 then .ok h.transpose else .error "T is defined for Histogram2D only"
  | .accumulate ax => (h.getAxis ax).bind fun axis => .ok (h.accumulate axis)
  | .mergeAxis ax amount thr => (h.getAxis ax).bind fun axis => h.mergeAxis fo axis amount thr
  | .mergeAll amount thr => h.mergeAll fo amount thr
  | .partialNormalize ax => (h.getAxis ax).bind fun axis => .ok (h.partialNormalize axis)
  | .setDType d => h.setDType d
  | .copy b => .ok (h.copy b)

/-- What the caller holds after the call was refused with message `e` — what `Physt/DriverND.lean`
    (`stepN`) keeps in the register: the state as it was, except for the dtype promotion the
    implementation performs before it validates (`fill` of a value with the wrong number of
    coordinates — the driver's `fill_wrong_dim`, where the weight is the default python int and the
    kept state is `h.coerce .i64` —, `*=`, `/=`, in-place `normalize`, `-=`, adaptive `+=`).
    `fill_n` validates before it adapts, `merge_bins(axis=None)` is all-or-nothing. -/
def keptN (h : HN) (op : OpN') (e : String) : HN :=
  match op with
  | .fill _ _ wk => h.coerce wk.dtype
  | .iadd o => if e == "different widths" || e == "different shifts" then h.coerce o.dtype else h
  | .isub o => if e == "negative frequencies" || e == "shape changed" then h.coerce o.dtype else h
  | .imul _ k => h.coerce k.dtype
  | .idiv c => if c != 0 then h.coerce .f64 else h
  | .normalize inplace _ => if inplace && h.total != 0 then h.coerce .f64 else h
  | _ => h

def nextN (fo : FloatOps) (fuel : Nat) (h : HN) (op : OpN') : HN :=
  match stepN' fo fuel h op with
  | .ok h' => h'
  | .error e => keptN h op e

/-- a history: a refused call is caught by the caller and the object is used further -/
def runN (fo : FloatOps) (fuel : Nat) (h : HN) : List OpN' → HN
  | [] => h
  | op :: ops => runN fo fuel (nextN fo fuel h op) ops

/-- The premises of the property, per operation: weights are non-negative, the other operand of
    `+=` / `-=` is itself a well-formed histogram.  (Free arithmetics off: `isub` / `imul` are the
    guarded versions.)  Nothing is asked of the bins and nothing depends on the current state. -/
def OpOKN (fo : FloatOps) : OpN' → Prop
  | .fill _ w _ => 0 ≤ w
  | .fillN _ ws _ => ∀ l, ws = some l → ∀ x ∈ l, 0 ≤ x
  | .iadd o => WFN fo o
  | .isub o => WFN fo o
  | _ => True

/-- **One public call keeps a well-formed N-d histogram well-formed**, for every operation of
    `OpN'`, every kind of axis (static bins of any shape; fixed-width grids, adaptive or not, growth
    included), every `FloatOps` and every fuel. -/
theorem wfn_step (fo : FloatOps) (fuel : Nat) (h h' : HN) (op : OpN') (w : WFN fo h) (ok : OpOKN fo op)
    (hs : stepN' fo fuel h op = .ok h') : WFN fo h' := by
  cases op with
  | fill v x wk =>
    cases (guard_ok hs).2
    exact wfn_fill fo fuel h v x wk ok w
  | fillN rows ws wk => exact wfn_fillN fo fuel h h' rows ws wk ok w hs
  | iadd o => exact wfn_iadd fo h o h' w ok hs
  | isub o => exact wfn_isub fo h o h' w ok hs
  | imul c k => exact wfn_imul fo h h' c k w hs
  | idiv c => exact wfn_idiv fo h h' c w hs
  | normalize i p => exact wfn_normalize fo h h' i p w hs
  | projection axes => exact wfn_projection fo h h' axes w hs
  | selectInt ax i =>
    obtain ⟨axis, _, h2⟩ := bind_ok _ _ _ hs
    exact wfn_selectInt fo h h' axis i w h2
  | selectSlice ax a b =>
    obtain ⟨axis, _, h2⟩ := bind_ok _ _ _ hs
    cases h2; exact wfn_selectSlice fo h axis a b w
  | transpose =>
    simp only [stepN'] at hs
    split at hs
    · rename_i h2
      cases hs; exact wfn_transpose fo h (by omega) w
    · cases hs
  | accumulate ax =>
    obtain ⟨axis, _, h2⟩ := bind_ok _ _ _ hs
    cases h2; exact wfn_accumulate fo h axis w
  | mergeAxis ax amount thr =>
    obtain ⟨axis, _, h2⟩ := bind_ok _ _ _ hs
    exact wfn_mergeAxis fo h h' axis amount thr w h2
  | mergeAll amount thr => exact wfn_mergeAll fo h h' amount thr w hs
  | partialNormalize ax =>
    obtain ⟨axis, _, h2⟩ := bind_ok _ _ _ hs
    cases h2; exact wfn_partialNormalize fo h axis w
  | setDType d => exact wfn_setDType fo h h' d w hs
  | copy b => cases hs; exact wfn_copy fo h b w

theorem HN.coerce_self (h : HN) : h.coerce h.dtype = h := by
  rw [HN.coerce, DType.promote_idem]

theorem keptN_eq_coerce (h : HN) (op : OpN') (e : String) : ∃ d, keptN h op e = h.coerce d := by
  have ite : ∀ (c : Bool) (d : DType), ∃ d', (if c = true then h.coerce d else h) = h.coerce d' := fun c d => by
    cases c
    · exact ⟨_, h.coerce_self.symm⟩
    · exact ⟨d, rfl⟩
  cases op with
  | fill v w wk => exact ⟨_, rfl⟩
  | iadd o => exact ite _ _
  | isub o => exact ite _ _
  | imul c k => exact ⟨_, rfl⟩
  | idiv c => exact ite _ _
  | normalize i p => exact ite _ _
  | _ => exact ⟨_, h.coerce_self.symm⟩

theorem wfn_kept (fo : FloatOps) (h : HN) (op : OpN') (e : String) (w : WFN fo h) : WFN fo (keptN h op e) := by
  obtain ⟨d, hd⟩ := keptN_eq_coerce h op e
  rw [hd]; exact wfn_coerce fo h d w

theorem wfn_next (fo : FloatOps) (fuel : Nat) (h : HN) (op : OpN') (w : WFN fo h) (ok : OpOKN fo op) :
    WFN fo (nextN fo fuel h op) := by
  unfold nextN
  cases hs : stepN' fo fuel h op with
  | ok h' => exact wfn_step fo fuel h h' op w ok hs
  | error e => exact wfn_kept fo h op e w

/-- **C18 in N dimensions, the invariant over arbitrary histories.**  Start from a well-formed
    histogram and apply any sequence of public operations whose premises hold (non-negative weights,
    well-formed operands); calls that are refused are caught and the object is used further.  The
    result is well-formed. -/
theorem wfn_history (fo : FloatOps) (fuel : Nat) (h : HN) (ops : List OpN') (w : WFN fo h)
    (ok : ∀ op ∈ ops, OpOKN fo op) : WFN fo (runN fo fuel h ops) := by
  induction ops generalizing h with
  | nil => exact w
  | cons op ops ih =>
    exact ih _ (wfn_next fo fuel h op w (ok op (List.mem_cons_self ..))) fun q hq => ok q (List.mem_cons_of_mem _ hq)

/-! ## A refused call changes nothing -/

/-- everything an N-d histogram records, the dtype aside -/
def SameRecordN (k h : HN) : Prop :=
  k.axes = h.axes ∧ k.freq = h.freq ∧ k.err2 = h.err2 ∧ k.missed = h.missed ∧ k.keep = h.keep ∧ k.names = h.names

/-- the dtype is what it was or a lossless promotion of it -/
def DTypeKeptN (k h : HN) : Prop :=
  (k.dtype = h.dtype ∨ ∃ d, k.dtype = h.dtype.promote d) ∧ DType.canCast h.dtype k.dtype = true

theorem sameN_coerce (h : HN) (d : DType) : SameRecordN (h.coerce d) h ∧ DTypeKeptN (h.coerce d) h :=
  ⟨⟨rfl, rfl, rfl, rfl, rfl, rfl⟩, Or.inr ⟨d, rfl⟩, DType.canCast_promote_left h.dtype d⟩

theorem nextN_of_error (fo : FloatOps) (fuel : Nat) (h : HN) (op : OpN') (e : String)
    (hs : stepN' fo fuel h op = .error e) : nextN fo fuel h op = keptN h op e := by
  simp only [nextN, hs]

/-- **An operation that raises leaves every recorded content, squared error and the missed count
    at exactly the value it had** — also the bins of every axis, the `keep_missed` flag and the axis
    names; at most the dtype has been promoted, losslessly.  For every operation of `OpN'`, every
    kind of axis, with no exception: the N-d `fill_n` validates its arguments before it grows
    adaptive axes, and `merge_bins(axis=None)` is all-or-nothing. -/
theorem refused_changes_nothing_nd (fo : FloatOps) (fuel : Nat) (h : HN) (op : OpN') (e : String)
    (hs : stepN' fo fuel h op = .error e) :
    SameRecordN (nextN fo fuel h op) h ∧ DTypeKeptN (nextN fo fuel h op) h := by
  obtain ⟨d, hd⟩ := keptN_eq_coerce h op e
  rw [nextN_of_error fo fuel h op e hs, hd]
  exact sameN_coerce h d

theorem runN_cons (fo : FloatOps) (fuel : Nat) (h : HN) (op : OpN') (ops : List OpN') :
    runN fo fuel h (op :: ops) = runN fo fuel (nextN fo fuel h op) ops := rfl

/-- in a history, a refused call is skipped: the history goes on from what the caller kept -/
theorem runN_refused (fo : FloatOps) (fuel : Nat) (h : HN) (op : OpN') (ops : List OpN') (e : String)
    (hs : stepN' fo fuel h op = .error e) :
    runN fo fuel h (op :: ops) = runN fo fuel (keptN h op e) ops := by
  rw [runN_cons, nextN_of_error fo fuel h op e hs]

/-! ## Refusals that do happen; constructors -/

/-- **Subtracting more than is there is refused** (same bins, free arithmetics off): if some cell of
    `o` holds more than the same cell of `h`, `h -= o` raises. -/
theorem isubN_refused_of_larger (fo : FloatOps) (h o : HN) (hs : h.sameBins fo o = true) (i : Nat)
    (hi : i < h.freq.data.length) (hi' : i < o.freq.data.length) (hlt : h.freq.data[i] < o.freq.data[i]) :
    ∃ e, h.isub fo o = .error e :=
  Except.error_of_not_ok fun r hr => by
    obtain ⟨o0, h0, aS, aO, e1, e2, e3, e4, _, hn, rfl⟩ := isubN_parts fo h o r hr
    obtain ⟨_, rfl⟩ := (HN.imul_iff o o0 0 .pyInt).mp e1
    obtain ⟨_, rfl⟩ := (HN.imul_iff h h0 0 .pyInt).mp e2
    have := any_lt_false hn _ (by
      rw [(iaddN_same_ok fo _ (o.scaled 0 _) aS hs e3).2.2.2.1, (iaddN_same_ok fo (h.scaled 0 _) _ aO hs e4).2.2.2.1]
      exact sub_mem h.freq.data o.freq.data i hi hi')
    linarith

/-- **A negative factor is refused** as soon as one content is positive -/
theorem imulN_refused_of_negative (h : HN) (c : Rat) (k : NumKind) (x : Rat) (hx : x ∈ h.freq.data) (hneg : x * c < 0) :
    ∃ e, h.imul c k = .error e :=
  Except.error_of_not_ok fun r hr => by
    have := any_lt_false ((HN.imul_iff h r c k).mp hr).1 (x * c) (List.mem_map.mpr ⟨x, hx, rfl⟩)
    linarith

/-- `fill_n` validates before it adapts: a refusal is decided by the arguments and the number of
    axes alone (so nothing — in particular no adaptive axis — has been touched) -/
theorem fillN_refused_reason (fo : FloatOps) (fuel : Nat) (h : HN) (rows : List (List (Option Rat)))
    (ws : Option (List Rat)) (wk : DType) (e : String) (hr : h.fillN fo fuel rows ws wk = .error e) :
    ((rows.any fun r => r.length != h.axes.length) = true ∧ e = "wrong number of columns") ∨
    (∃ w, ws = some w ∧ w.length ≠ rows.length ∧ e = "weights shape") := by
  rw [HN.fillN_eq] at hr
  by_cases hc : (rows.any fun r => r.length != h.axes.length) = true
  · rw [if_pos hc] at hr; cases hr
    exact .inl ⟨hc, rfl⟩
  rw [if_neg hc] at hr
  by_cases hw : (ws.any fun w => w.length != rows.length) = true
  · rw [if_pos hw] at hr; cases hr
    cases ws with
    | none => cases hw
    | some w => exact .inr ⟨w, rfl, by simpa using hw, rfl⟩
  · rw [if_neg hw] at hr; cases hr

theorem wfn_empty_names (fo : FloatOps) (axes : List Binning) (keep : Bool) (dt : Option DType)
    (names : Option (List String)) (hn : ∀ ns, names = some ns → ns.length = axes.length) :
    WFN fo (HN.empty fo axes keep dt names) := by
  refine .of_good rfl (.zeros _) (.zeros _) ?_
  cases names with
  | none => simp [HN.empty, HN.defaultNames]
  | some ns => simpa [HN.empty] using hn ns rfl

theorem wfn_empty (fo : FloatOps) (axes : List Binning) (keep : Bool) (dt : Option DType) :
    WFN fo (HN.empty fo axes keep dt none) :=
  wfn_empty_names fo axes keep dt none nofun

/-- construction from data with non-negative weights gives a well-formed histogram -/
theorem wfn_construct (fo : FloatOps) (axes : List Binning) (rows : List (List (Option Rat)))
    (ws : Option (List Rat)) (wkind : DType) (dropna : Bool) (names : Option (List String)) (c : HN)
    (hw : ∀ l, ws = some l → ∀ x ∈ l, 0 ≤ x) (hn : ∀ ns, names = some ns → ns.length = axes.length)
    (hc : HN.construct fo axes rows ws wkind dropna names = .ok c) : WFN fo c := by
  obtain ⟨_, _, _, _, rfl⟩ := (HN.construct_ok_iff fo axes rows ws wkind dropna names c).mp hc
  have sf := calcND_freq_hasShape (axesOf fo axes) (maskRows rows ws)
  have se := calcND_err2_hasShape (axesOf fo axes) (maskRows rows ws)
  rw [axesOf_shape] at sf se
  refine ⟨sf.1, se.1, sf.wellShaped, se.wellShaped, calcND_err2_nonneg _ _,
    calcND_freq_nonneg _ _ (maskRows_nonneg rows ws hw), ?_⟩
  cases names with
  | none => simp [HN.defaultNames]
  | some ns => simpa using hn ns rfl

/-! ## Checking the premises by evaluation -/

def wfnB (fo : FloatOps) (h : HN) : Bool :=
  decide (h.freq.shape = h.shape fo) && decide (h.err2.shape = h.shape fo) &&
  decide h.freq.WellShaped && decide h.err2.WellShaped &&
  h.err2.data.all (fun x => decide (0 ≤ x)) && h.freq.data.all (fun x => decide (0 ≤ x)) &&
  decide (h.names.length = h.axes.length)

theorem wfn_of_wfnB (fo : FloatOps) (h : HN) (c : wfnB fo h = true) : WFN fo h := by
  simp only [wfnB, Bool.and_eq_true, decide_eq_true_eq, List.all_eq_true] at c
  exact ⟨c.1.1.1.1.1.1, c.1.1.1.1.1.2, c.1.1.1.1.2, c.1.1.1.2, c.1.1.2, c.1.2, c.2⟩

def opOKNB (fo : FloatOps) : OpN' → Bool
  | .fill _ w _ => decide (0 ≤ w)
  | .fillN _ ws _ => match ws with
    | none => true
    | some l => l.all fun x => decide (0 ≤ x)
  | .iadd o => wfnB fo o
  | .isub o => wfnB fo o
  | _ => true

theorem opOKN_of_opOKNB (fo : FloatOps) (op : OpN') (c : opOKNB fo op = true) : OpOKN fo op := by
  cases op with
  | fill v w k => simpa [opOKNB, OpOKN] using c
  | fillN vs ws k =>
    intro l hl x hx
    subst hl
    exact of_decide_eq_true (List.all_eq_true.mp c x hx)
  | iadd o => exact wfn_of_wfnB fo o c
  | isub o => exact wfn_of_wfnB fo o c
  | _ => trivial

theorem allOKN_of_check (fo : FloatOps) (ops : List OpN') (c : ops.all (opOKNB fo) = true) :
    ∀ op ∈ ops, OpOKN fo op :=
  fun op hop => opOKN_of_opOKNB fo op (List.all_eq_true.mp c op hop)

namespace DemoND

def refusalN (r : Except String HN) : Option String :=
  match r with
  | .ok _ => none
  | .error e => some e

/-- two bins on the first axis; three bins with a gap between the second and the third on the
    second axis (right-open) -/
def axes : List Binning := [.static [(0, 1), (1, 2)] true, .static [(0, 2), (2, 4), (5, 6)] false]
def start : HN := HN.empty FloatOps.exact axes true none (some ["x", "y"])

def ops : List OpN' :=
  [ .fill [some (1/2), some 1] 2 .pyInt,
    .fillN [[some (3/2), some 3], [none, some 1], [some 5, some 1], [some (1/2), some (11/2)]] (some [1, 7, 3, 4]) .f64,
    .imul (-1) .pyInt,                 -- refused: contents would become negative
    .mergeAll (some 3) none,           -- refused: axis 0 merges, axis 1 would merge across the gap (4, 5)
    .fill [some 1] 1 .pyInt,           -- refused: one coordinate for two axes
    .fill [some (3/2), some (11/2)] (1/2) .pyFloat,
    .projection [.inl 1] ]

/-- the start is well-formed, the premises of `wfn_history` hold for this history … -/
theorem start_wf : WFN FloatOps.exact start := wfn_of_wfnB _ _ (by decide +kernel)

theorem ops_ok : ∀ op ∈ ops, OpOKN FloatOps.exact op := allOKN_of_check _ _ (by decide +kernel)

/-- … so the result is well-formed … -/
theorem result_wf : WFN FloatOps.exact (runN FloatOps.exact 8 start ops) :=
  wfn_history _ _ _ _ start_wf ops_ok

/-- … and this is what it is (the projection onto the gapped axis `y`) -/
example : (runN FloatOps.exact 8 start ops).freq = { shape := [3], data := [2, 1, 9/2] } ∧
    (runN FloatOps.exact 8 start ops).err2 = { shape := [3], data := [4, 1, 65/4] } ∧
    (runN FloatOps.exact 8 start ops).axes = [.static [(0, 2), (2, 4), (5, 6)] false] ∧
    (runN FloatOps.exact 8 start ops).names = ["y"] ∧
    (runN FloatOps.exact 8 start ops).dtype = .f64 := by decide +kernel

/-- the state after the two fills: a 2 × 3 array; the row `(5, 1)` fell outside (missed = 3) -/
example : (runN FloatOps.exact 8 start (ops.take 2)).freq = { shape := [2, 3], data := [2, 0, 4, 0, 1, 0] } ∧
    (runN FloatOps.exact 8 start (ops.take 2)).err2 = { shape := [2, 3], data := [4, 0, 16, 0, 1, 0] } ∧
    (runN FloatOps.exact 8 start (ops.take 2)).missed = some 3 := by decide +kernel

/-- `*= -1` really is refused there … -/
example : refusalN (stepN' FloatOps.exact 8 (runN FloatOps.exact 8 start (ops.take 2)) (.imul (-1) .pyInt))
    = some "negative frequencies" := by decide +kernel

/-- … and so is `merge_bins(3)` over all axes: on the first axis alone it is accepted, on the second
    it would merge `(2, 4)` with `(5, 6)` across the gap — the whole call is refused … -/
example : refusalN (stepN' FloatOps.exact 8 (runN FloatOps.exact 8 start (ops.take 3)) (.mergeAll (some 3) none))
      = some "merging non-consecutive bins" ∧
    refusalN (stepN' FloatOps.exact 8 (runN FloatOps.exact 8 start (ops.take 3)) (.mergeAxis (.inl 0) (some 3) none))
      = none ∧
    refusalN (stepN' FloatOps.exact 8 (runN FloatOps.exact 8 start (ops.take 3)) (.mergeAxis (.inr "y") (some 3) none))
      = some "merging non-consecutive bins" := by decide +kernel

/-- … and the `fill` of a value with one coordinate -/
example : refusalN (stepN' FloatOps.exact 8 (runN FloatOps.exact 8 start (ops.take 4)) (.fill [some 1] 1 .pyInt))
    = some "wrong dimension" := by decide +kernel

/-- the three refused calls left the object exactly as it was — bins (the first axis is *not*
    merged), contents, squared errors, missed, names, and here even the dtype -/
example : runN FloatOps.exact 8 start (ops.take 5) = runN FloatOps.exact 8 start (ops.take 2) := by
  decide +kernel

/-- `refused_changes_nothing_nd` instantiated at the refused `merge_bins` -/
example : SameRecordN (nextN FloatOps.exact 8 (runN FloatOps.exact 8 start (ops.take 3)) (.mergeAll (some 3) none))
    (runN FloatOps.exact 8 start (ops.take 3)) :=
  (refused_changes_nothing_nd _ _ _ _ "merging non-consecutive bins" (by decide +kernel)).1

/-! An adaptive 2-D histogram: both axes grow in `fill`, in `+=` of a histogram on another part of
    the grid, and in `fill_n`; a refused `fill_n` does **not** grow them. -/

def aStart : HN := HN.empty FloatOps.exact [.fixed { w := 1, adaptive := true }, .fixed { w := 2, adaptive := true }] true none
  (some ["x", "y"])
def aOther : HN :=
  { axes := [.fixed { w := 1, tmin := -2, count := 2, adaptive := true }, .fixed { w := 2, tmin := 0, count := 1, adaptive := true }],
    freq := { shape := [2, 1], data := [1, 2] }, err2 := { shape := [2, 1], data := [1, 2] }, names := ["x", "y"] }

def aOps : List OpN' :=
  [ .fill [some (5/2), some 1] 1 .pyInt,
    .fill [some (1/2), some 5] 2 .pyInt,
    .iadd aOther,
    .fillN [[some 7, some (-4)]] (some [1, 2]) .i64,   -- weights of the wrong shape: refused
    .imul (-2) .pyInt,                                  -- refused
    .isub aOther,                                       -- accepted
    .isub aOther,                                       -- refused: nothing left to subtract
    .fillN [[some 4, some (-3)]] none .i64 ]

theorem aOps_ok : ∀ op ∈ aOps, OpOKN FloatOps.exact op := allOKN_of_check _ _ (by decide +kernel)

theorem aResult_wf : WFN FloatOps.exact (runN FloatOps.exact 8 aStart aOps) :=
  wfn_history _ _ _ _ (wfn_of_wfnB _ _ (by decide +kernel)) aOps_ok

/-- two fills grow both axes; `+=` of a histogram on another part of the grid grows the first -/
example : (runN FloatOps.exact 8 aStart (aOps.take 2)).freq = { shape := [3, 3], data := [0, 0, 2, 0, 0, 0, 1, 0, 0] } ∧
    (runN FloatOps.exact 8 aStart (aOps.take 3)).freq
      = { shape := [5, 3], data := [1, 0, 0, 2, 0, 0, 0, 0, 2, 0, 0, 0, 1, 0, 0] } ∧
    (runN FloatOps.exact 8 aStart (aOps.take 3)).axes
      = [.fixed { w := 1, tmin := -2, count := 5, adaptive := true },
         .fixed { w := 2, tmin := 0, count := 3, adaptive := true }] := by
  decide +kernel

/-- **Unlike the 1-D `fill_n`**, the N-d `fill_n` validates its arguments before it grows the axes:
    the refused call leaves the adaptive bins where they were (the whole object is unchanged) -/
example : refusalN (stepN' FloatOps.exact 8 (runN FloatOps.exact 8 aStart (aOps.take 3))
      (.fillN [[some 7, some (-4)]] (some [1, 2]) .i64)) = some "weights shape" ∧
    runN FloatOps.exact 8 aStart (aOps.take 4) = runN FloatOps.exact 8 aStart (aOps.take 3) := by decide +kernel

example : refusalN (stepN' FloatOps.exact 8 (runN FloatOps.exact 8 aStart (aOps.take 4)) (.imul (-2) .pyInt))
      = some "negative frequencies" ∧
    refusalN (stepN' FloatOps.exact 8 (runN FloatOps.exact 8 aStart (aOps.take 5)) (.isub aOther)) = none ∧
    refusalN (stepN' FloatOps.exact 8 (runN FloatOps.exact 8 aStart (aOps.take 6)) (.isub aOther))
      = some "negative frequencies" := by decide +kernel

/-- after the accepted `-=`, the refused one, and a `fill_n` that grows both axes downwards -/
example : (runN FloatOps.exact 8 aStart (aOps.take 7)).freq
      = { shape := [5, 3], data := [0, 0, 0, 0, 0, 0, 0, 0, 2, 0, 0, 0, 1, 0, 0] } ∧
    (runN FloatOps.exact 8 aStart aOps).freq.shape = [7, 5] ∧
    (runN FloatOps.exact 8 aStart aOps).freq.get [6, 0] = 1 ∧ (runN FloatOps.exact 8 aStart aOps).freq.get [2, 4] = 2 ∧
    (runN FloatOps.exact 8 aStart aOps).freq.total = 4 ∧ (runN FloatOps.exact 8 aStart aOps).err2.total = 12 := by
  decide +kernel

/-! ### Side conditions that are needed, and what is *not* an invariant -/

def b2 : Binning := .static [(0, 1), (1, 2)] true
def b1 : Binning := .static [(0, 1)] true

/-- a well-formed 1 × 1 × 2 histogram -/
def h3 : HN :=
  { axes := [b1, b1, b2], freq := { shape := [1, 1, 2], data := [1, 2] }, err2 := { shape := [1, 1, 2], data := [1, 2] },
    names := ["a", "b", "c"] }

/-- **`T` needs two axes.**  The model's `HN.transpose` reverses the axes of any histogram but
    transposes the arrays of 2-D ones only: on a 1 × 1 × 2 histogram the bins then say `[2, 1, 1]`
    and the arrays `[1, 1, 2]`.  (physt has `T` on `Histogram2D` only; `stepN'` refuses it elsewhere
    and `wfn_transpose` asks for at most two axes.) -/
example : wfnB FloatOps.exact h3 = true ∧ wfnB FloatOps.exact h3.transpose = false ∧
    h3.transpose.freq.shape = [1, 1, 2] ∧ h3.transpose.shape FloatOps.exact = [2, 1, 1] ∧
    refusalN (stepN' FloatOps.exact 8 h3 .transpose) = some "T is defined for Histogram2D only" := by decide +kernel

def mH : HN :=
  { axes := [b2, b2], freq := { shape := [2, 2], data := [1, 1, 1, 1] }, err2 := { shape := [2, 2], data := [1, 1, 1, 1] },
    names := ["x", "y"] }
def mO : HN :=
  { axes := [b2, b2], freq := { shape := [2, 2], data := [0, 0, 0, 0] }, err2 := { shape := [2, 2], data := [0, 0, 0, 0] },
    missed := some 5, names := ["x", "y"] }

/-- **The missed count is not covered by the guards** (as in one dimension): `h -= o` is accepted
    when `o` has more missed weight than `h`, `h *= -1` and `h /= -1` when every bin is empty — the
    missed count becomes `-5`.  `WFN` speaks about contents and squared errors only. -/
example : ((stepN' FloatOps.exact 8 mH (.isub mO)).toOption.map (·.missed)) = some (some (-5)) ∧
    ((stepN' FloatOps.exact 8 mO (.imul (-1) .pyInt)).toOption.map (·.missed)) = some (some (-5)) ∧
    ((stepN' FloatOps.exact 8 mO (.idiv (-1))).toOption.map (·.missed)) = some (some (-5)) ∧
    wfnB FloatOps.exact mH = true ∧ wfnB FloatOps.exact mO = true := by decide +kernel

/-- **The operand of `+=` must itself be well-formed** (the premise `OpOKN`): an operand over the
    same bins whose arrays are too short is accepted, and `zipWith` truncates -/
example : ((stepN' FloatOps.exact 8 mH (.iadd { mO with freq := { shape := [2, 2], data := [0] } })).toOption.map
    fun r => (r.freq.data, wfnB FloatOps.exact r)) = some ([1], false) := by decide +kernel

/-- an axis that does not exist: the public call is refused by `_get_axis`; the bare model function
    `HN.selectSlice` returns its argument, `HN.accumulate` and `HN.partialNormalize` (axis ≥ 2)
    leave the contents as they are -/
example : refusalN (stepN' FloatOps.exact 8 mH (.selectSlice (.inl 2) (some 0) (some 1))) = some "no such axis" ∧
    refusalN (stepN' FloatOps.exact 8 mH (.accumulate (.inr "z"))) = some "no such axis name" ∧
    mH.selectSlice FloatOps.exact 2 (some 0) (some 1) = mH ∧ (mH.accumulate 2).freq = mH.freq ∧
    (mH.partialNormalize 2).freq = mH.freq := by decide +kernel

/-- `accumulate` gives running sums (never negative); the squared errors are left as they are -/
example : ((stepN' FloatOps.exact 8 mH (.accumulate (.inl 1))).toOption.map fun r => (r.freq.data, r.err2.data))
    = some ([1, 2, 1, 2], [1, 1, 1, 1]) := by decide +kernel

/-- `set_dtype(int)` of the N-d model changes the dtype only: a fractional missed count is kept
    (the 1-D model truncates it, `truncN`).  An accepted call, so no violation of C18. -/
example : ((stepN' FloatOps.exact 8 { mH with missed := some (1/2), dtype := .f64 } (.setDType .i64)).toOption.map
    fun r => (r.missed, r.dtype)) = some (some (1/2), .i64) := by decide +kernel

/-- a refused `fill` (wrong number of coordinates) has promoted the dtype — losslessly — and nothing
    else; a refused `*=` likewise -/
example : nextN FloatOps.exact 8 { mH with dtype := .i32 } (.fill [some 1] 1 .pyInt) = { mH with dtype := .i64 } ∧
    nextN FloatOps.exact 8 mH (.imul (-1) .pyFloat) = { mH with dtype := .f64 } ∧
    DType.canCast .i32 .i64 = true ∧ DType.canCast .i64 .f64 = true := by decide +kernel

end DemoND
end Physt
