import Physt.Model.Hist1D
import Mathlib.Algebra.Order.Ring.Rat
/-!
What each operation of the 1-D model returns: the definitions are `do` blocks over `Except`; here each is
written once as its chain of guards (`*_eq`, by `rfl`), and an accepted call is taken apart with `guard_ok`
and `bind_ok` instead of unfolding the monad.
-/
namespace Physt
open H1

theorem ite_error_eq_ok {ε α} {c : Prop} [Decidable c] {e : ε} {x : Except ε α} {a : α} :
    (if c then .error e else x) = .ok a ↔ ¬ c ∧ x = .ok a := by
  by_cases h : c
  · rw [if_pos h]
    exact ⟨fun h' => (nomatch h'), fun h' => absurd h h'.1⟩
  · rw [if_neg h]
    exact ⟨fun h' => ⟨h, h'⟩, fun h' => h'.2⟩

theorem bind_eq_ok {ε α β} (x : Except ε α) (f : α → Except ε β) (r : β) :
    x.bind f = .ok r ↔ ∃ a, x = .ok a ∧ f a = .ok r := by
  cases x with
  | error e => exact ⟨fun h => (nomatch h), fun ⟨_, h, _⟩ => (nomatch h)⟩
  | ok a => exact ⟨fun h => ⟨a, rfl, h⟩, fun ⟨_, h, hf⟩ => Except.ok.inj h ▸ hf⟩

theorem ok_eq_ok {ε α} (x r : α) : (Except.ok x : Except ε α) = .ok r ↔ r = x :=
  ⟨fun h => (Except.ok.inj h).symm, fun h => h ▸ rfl⟩

theorem guard_ok {α} {c : Prop} [Decidable c] {e : String} {x : Except String α} {r : α}
    (h : (if c then .error e else x) = .ok r) : ¬ c ∧ x = .ok r :=
  ite_error_eq_ok.mp h

theorem bind_ok {α β} (x : Except String α) (f : α → Except String β) (r : β) (h : x.bind f = .ok r) :
    ∃ a, x = .ok a ∧ f a = .ok r :=
  (bind_eq_ok x f r).mp h

/-- `h1` for an explicit binning: the five validations in the order of the code, then the record -/
theorem construct_eq (fo : FloatOps) (b : Binning) (vs : List (Option Rat)) (ws : Option (List Rat))
    (wkind : DType) (dtype : Option DType) (keep dropna : Bool) :
    H1.construct fo b vs ws wkind dtype keep dropna =
      if (!dropna && vs.any Option.isNone) = true then .error "NaN with dropna=False"
      else if (!weightsShapeOk vs ws) = true then .error "weights shape"
      else if (b.bins fo).isEmpty = true then .error "0 bins"
      else if (!risingB (b.bins fo)) = true then .error "bins not rising"
      else if ((dtype.getD (if ws.isSome then wkind else .i64)).isInt &&
          !(if ws.isSome then wkind else DType.i64).isInt) = true then
        .error "integer histogram with float weights"
      else .ok
        { binning := b, freq := (calc1d (b.bins fo) (maskPts vs ws)).freq,
          err2 := (calc1d (b.bins fo) (maskPts vs ws)).err2,
          under := if keep then (calc1d (b.bins fo) (maskPts vs ws)).under else some 0,
          over := if keep then (calc1d (b.bins fo) (maskPts vs ws)).over else some 0,
          inner := some 0, keep := keep, dtype := dtype.getD (if ws.isSome then wkind else .i64),
          stats := statsOf (maskPts vs ws) (allEqual ((maskPts vs ws).map (·.2)))
            (medianOf ((maskPts vs ws).map (·.1))) } :=
  rfl

theorem Except.error_of_not_ok {ε α} {x : Except ε α} (h : ∀ r, x ≠ .ok r) : ∃ e, x = .error e := by
  cases x with
  | error e => exact ⟨e, rfl⟩
  | ok r => exact absurd rfl (h r)

theorem Except.eq_ok_of_toOption {ε α} (e : Except ε α) (x : α) (h : e.toOption = some x) : e = .ok x := by
  cases e with
  | error _ => cases h
  | ok y => cases h; rfl

/-- an accepted result is the one a `match` on the call extracts; evaluates the call once -/
theorem Except.eq_ok_getD {ε α} [Inhabited α] (e : Except ε α) (h : e.toOption.isSome = true) :
    e = .ok (match e with | .ok x => x | .error _ => default) := by
  cases e with
  | error _ => cases h
  | ok y => rfl

def H1.scaled (h : H1) (p : Rat) (d : DType) : H1 :=
  { h with
    dtype := d
    freq := h.freq.map (· * p)
    err2 := h.err2.map (· * (p * p))
    under := nscale h.under p
    over := nscale h.over p
    inner := nscale h.inner p
    stats := h.stats.scale p }

/-- `/ c` is the scaling by `1 / c` that `Statistics` and the missed slots see -/
theorem mul_one_div_eq (c : Rat) : (· * (1 / c)) = fun x : Rat => x / c :=
  funext fun x => (div_eq_mul_one_div x c).symm

theorem mul_one_div_sq_eq (c : Rat) : (· * (1 / c * (1 / c))) = fun x : Rat => x / (c * c) := by
  rw [one_div_mul_one_div]
  exact mul_one_div_eq (c * c)

theorem imul_iff (h r : H1) (c : Rat) (k : NumKind) :
    h.imul c k = .ok r ↔
      (h.freq.map (· * c)).any (· < 0) = false ∧ r = h.scaled c (h.dtype.promote k.dtype) :=
  (ite_error_eq_ok (c := (h.freq.map (· * c)).any (· < 0) = true)).trans
    (and_congr Bool.eq_false_iff.symm (ok_eq_ok _ r))

theorem idiv_iff (h r : H1) (c : Rat) :
    h.idiv c = .ok r ↔
      c ≠ 0 ∧ (h.freq.map (· * (1 / c))).any (· < 0) = false ∧ r = h.scaled (1 / c) (h.dtype.promote .f64) := by
  rw [H1.scaled, mul_one_div_sq_eq, mul_one_div_eq]
  exact (ite_error_eq_ok (c := c = 0)).trans (and_congr Iff.rfl
    ((ite_error_eq_ok (c := (h.freq.map (· / c)).any (· < 0) = true)).trans
      (and_congr Bool.eq_false_iff.symm (ok_eq_ok _ r))))

theorem imul_ok (h r : H1) (c : Rat) (k : NumKind) (hr : h.imul c k = .ok r) :
    r.dtype = h.dtype.promote k.dtype ∧ r.freq = h.freq.map (· * c) ∧ r.err2 = h.err2.map (· * (c * c)) ∧
    r.under = nscale h.under c ∧ r.over = nscale h.over c ∧ r.inner = nscale h.inner c ∧
    r.stats = h.stats.scale c ∧ r.binning = h.binning ∧ r.keep = h.keep ∧
    ((h.freq.map (· * c)).any (· < 0)) = false := by
  obtain ⟨hn, rfl⟩ := (imul_iff h r c k).mp hr
  exact ⟨rfl, rfl, rfl, rfl, rfl, rfl, rfl, rfl, rfl, hn⟩

theorem imul_refused (h : H1) (c : Rat) (k : NumKind) (hneg : ((h.freq.map (· * c)).any (· < 0)) = true) :
    ∃ e, h.imul c k = .error e :=
  ⟨_, if_pos hneg⟩

/-- `normalize()` out of place: a division by the total, then a multiplication -/
theorem normalize_false_iff (h r : H1) (percent : Bool) :
    h.normalize false percent = .ok r ↔
      ∃ d, h.idiv h.total = .ok d ∧ d.imul (if percent then 100 else 1) .pyInt = .ok r :=
  bind_eq_ok _ _ _

/-- `FixedWidthBinning._adapt`: the two refusals, the two cases with an empty operand, and the union grid
    with the two cell offsets -/
theorem adaptGrids_eq (g o : Grid) :
    adaptGrids g o =
      if (g.w != o.w) = true then .error "different widths"
      else if (g.shift != o.shift) = true then .error "different shifts"
      else if o.count = 0 then .ok (g, .noChange, .fresh)
      else if g.count = 0 then .ok ({ g with tmin := o.tmin, count := o.count }, .fresh, .noChange)
      else .ok
        ({ g with tmin := min g.tmin o.tmin,
                  count := (max (g.tmin + g.count) (o.tmin + o.count) - min g.tmin o.tmin).toNat },
         if min g.tmin o.tmin < g.tmin ∨ g.tmin + g.count < max (g.tmin + g.count) (o.tmin + o.count)
           then .shift (g.tmin - min g.tmin o.tmin).toNat else .noChange,
         if min g.tmin o.tmin < o.tmin ∨ o.tmin + o.count < max (g.tmin + g.count) (o.tmin + o.count)
           then .shift (o.tmin - min g.tmin o.tmin).toNat else .noChange) :=
  rfl

/-- the growing branch of `__iadd__`, once the missed counts of `o` have been looked at: the other binning as a
    grid, the common grid, both arrays moved onto it -/
def iaddGrow (fo : FloatOps) (h o : H1) : R H1 :=
  (asFixedWidth fo o.binning).bind fun og =>
    match h.binning with
    | .fixed g =>
      (adaptGrids g og).bind fun p =>
        .ok { h with dtype := h.dtype.promote o.dtype, binning := .fixed p.1,
                     freq := zipAdd (reshape1 h.freq p.1.count p.2.1) (reshape1 o.freq p.1.count p.2.2),
                     err2 := zipAdd (reshape1 h.err2 p.1.count p.2.1) (reshape1 o.err2 p.1.count p.2.2),
                     stats := h.stats.add o.stats }
    | _ => .error "unreachable"

theorem iadd_eq (fo : FloatOps) (h o : H1) :
    h.iadd fo o =
      if h.sameBins fo o = true then
        .ok { h with dtype := h.dtype.promote o.dtype, freq := zipAdd h.freq o.freq, err2 := zipAdd h.err2 o.err2,
                     under := nadd h.under o.under, over := nadd h.over o.over, inner := nadd h.inner o.inner,
                     stats := h.stats.add o.stats }
      else if h.binning.isAdaptive = true then
        match o.missed with
        | some m => if 0 < m then .error "other has missed values" else iaddGrow fo h o
        | none => iaddGrow fo h o
      else .error "incompatible binning" :=
  rfl

theorem iadd_same_eq (fo : FloatOps) (h o : H1) (hs : h.sameBins fo o = true) :
    h.iadd fo o = .ok { h with dtype := h.dtype.promote o.dtype, freq := zipAdd h.freq o.freq,
                               err2 := zipAdd h.err2 o.err2, under := nadd h.under o.under,
                               over := nadd h.over o.over, inner := nadd h.inner o.inner,
                               stats := h.stats.add o.stats } :=
  if_pos hs

theorem iadd_same_ok (fo : FloatOps) (h o r : H1) (hs : h.sameBins fo o = true) (hr : h.iadd fo o = .ok r) :
    r.dtype = h.dtype.promote o.dtype ∧ r.freq = zipAdd h.freq o.freq ∧ r.err2 = zipAdd h.err2 o.err2 ∧
    r.under = nadd h.under o.under ∧ r.over = nadd h.over o.over ∧ r.inner = nadd h.inner o.inner ∧
    r.stats = h.stats.add o.stats ∧ r.binning = h.binning ∧ r.keep = h.keep := by
  cases (iadd_same_eq fo h o hs).symm.trans hr
  exact ⟨rfl, rfl, rfl, rfl, rfl, rfl, rfl, rfl, rfl⟩

theorem iadd_refused (fo : FloatOps) (h o : H1) (hs : h.sameBins fo o = false) (ha : h.binning.isAdaptive = false) :
    ∃ e, h.iadd fo o = .error e := by
  rw [iadd_eq, hs, ha]
  exact ⟨_, rfl⟩

theorem iadd_adaptive_ok (fo : FloatOps) (h o r : H1) (hs : h.sameBins fo o = false) (hr : h.iadd fo o = .ok r) :
    ∃ g og g' r1 r2, h.binning = .fixed g ∧ o.binning = .fixed og ∧ adaptGrids g og = .ok (g', r1, r2) ∧
      r.binning = .fixed g' ∧
      r.freq = zipAdd (reshape1 h.freq g'.count r1) (reshape1 o.freq g'.count r2) ∧
      r.err2 = zipAdd (reshape1 h.err2 g'.count r1) (reshape1 o.err2 g'.count r2) := by
  rw [iadd_eq, hs, if_neg Bool.false_ne_true] at hr
  cases ha : h.binning.isAdaptive with
  | false => rw [ha, if_neg Bool.false_ne_true] at hr; cases hr
  | true =>
    rw [ha, if_pos rfl] at hr
    have hg : iaddGrow fo h o = .ok r := by
      cases hm : o.missed with
      | none => simp only [hm] at hr; exact hr
      | some m => simp only [hm] at hr; exact (guard_ok hr).2
    obtain ⟨og, ho, hg⟩ := bind_ok _ _ _ hg
    cases hob : o.binning with
    | static b i => rw [hob] at ho; cases ho
    | fixed og' =>
      rw [hob] at ho; cases ho
      cases hb : h.binning with
      | static b i => simp only [hb] at hg; cases hg
      | fixed g =>
        simp only [hb] at hg
        obtain ⟨⟨g', r1, r2⟩, hp, hg⟩ := bind_ok _ _ _ hg
        cases hg
        exact ⟨g, og, g', r1, r2, rfl, rfl, hp, rfl, rfl, rfl⟩

theorem iadd_adapt_eq (fo : FloatOps) (h o : H1) (g og g' : Grid) (r1 r2 : Grid.Reshape)
    (hs : h.sameBins fo o = false) (hb : h.binning = .fixed g) (ha : g.adaptive = true)
    (hob : o.binning = .fixed og) (hmiss : ∀ m, o.missed = some m → ¬ 0 < m)
    (hag : adaptGrids g og = .ok (g', r1, r2)) :
    h.iadd fo o = .ok { h with dtype := h.dtype.promote o.dtype, binning := .fixed g',
                               freq := zipAdd (reshape1 h.freq g'.count r1) (reshape1 o.freq g'.count r2),
                               err2 := zipAdd (reshape1 h.err2 g'.count r1) (reshape1 o.err2 g'.count r2),
                               stats := h.stats.add o.stats } := by
  rw [iadd_eq, hs, if_neg Bool.false_ne_true, if_pos (by rw [hb]; exact ha)]
  refine Eq.trans (b := iaddGrow fo h o) ?_ ?_
  · cases hm : o.missed with
    | none => rfl
    | some m => exact if_neg (hmiss m hm)
  · rw [iaddGrow, hob, hb]
    show (adaptGrids g og).bind _ = _
    rw [hag]
    rfl

theorem isub_parts (fo : FloatOps) (h o r : H1) (hr : h.isub fo o = .ok r) :
    ∃ o0 h0 aS aO, o.imul 0 .pyInt = .ok o0 ∧ h.imul 0 .pyInt = .ok h0 ∧ h.iadd fo o0 = .ok aS ∧
      h0.iadd fo o = .ok aO ∧ aS.freq.length = h.freq.length ∧
      ((List.zipWith (· - ·) aS.freq aO.freq).any (· < 0)) = false ∧
      r = { h with dtype := h.dtype.promote o.dtype, freq := List.zipWith (· - ·) aS.freq aO.freq,
                   err2 := zipAdd aS.err2 aO.err2, under := nsub h.under o.under, over := nsub h.over o.over,
                   inner := nsub h.inner o.inner, stats := Stats.invalid } := by
  obtain ⟨o0, e1, hr⟩ := bind_ok _ _ _ hr
  obtain ⟨h0, e2, hr⟩ := bind_ok _ _ _ hr
  obtain ⟨aS, e3, hr⟩ := bind_ok _ _ _ hr
  obtain ⟨aO, e4, hr⟩ := bind_ok _ _ _ hr
  obtain ⟨hlen, hr⟩ := guard_ok (c := (aS.freq.length != h.freq.length) = true) hr
  obtain ⟨hneg, hr⟩ := guard_ok (c := ((List.zipWith (· - ·) aS.freq aO.freq).any (· < 0)) = true) hr
  cases hr
  exact ⟨o0, h0, aS, aO, e1, e2, e3, e4, by simpa using hlen, Bool.eq_false_iff.mpr hneg, rfl⟩

theorem isub_ok (fo : FloatOps) (h o r : H1) (hr : h.isub fo o = .ok r) :
    r.dtype = h.dtype.promote o.dtype ∧ r.stats = Stats.invalid ∧ r.binning = h.binning ∧ r.keep = h.keep ∧
    (r.freq.any (· < 0)) = false := by
  obtain ⟨_, _, _, _, _, _, _, _, _, hn, rfl⟩ := isub_parts fo h o r hr
  exact ⟨rfl, rfl, rfl, rfl, hn⟩

/-- the grid part of `H1.adapt` -/
def adaptGrid (fo : FloatOps) (fuel : Nat) (g : Grid) (vs : List Rat) (single : Bool) : Grid × Grid.Reshape :=
  if single then
    match vs with
    | [v] => g.forceSingle fo fuel v g.ire
    | _ => (g, .noChange)
  else g.forceMany fo fuel vs g.ire

theorem adapt_fixed (fo : FloatOps) (fuel : Nat) (h : H1) (g : Grid) (hb : h.binning = .fixed g)
    (ha : g.adaptive = true) (vs : List Rat) (single : Bool) :
    h.adapt fo fuel vs single =
      { h with binning := .fixed (adaptGrid fo fuel g vs single).1,
               freq := reshape1 h.freq (adaptGrid fo fuel g vs single).1.count (adaptGrid fo fuel g vs single).2,
               err2 := reshape1 h.err2 (adaptGrid fo fuel g vs single).1.count (adaptGrid fo fuel g vs single).2 } := by
  unfold H1.adapt adaptGrid
  simp only [hb, ha, if_true]
  rfl

theorem adapt_other (fo : FloatOps) (fuel : Nat) (h : H1) (vs : List Rat) (single : Bool)
    (ha : h.binning.isAdaptive = false) : h.adapt fo fuel vs single = h := by
  unfold H1.adapt
  cases hb : h.binning with
  | static b i => rfl
  | fixed g =>
    rw [hb] at ha
    simp only [show g.adaptive = false from ha, Bool.false_eq_true, if_false]

theorem adapt_cases (fo : FloatOps) (fuel : Nat) (h : H1) (vs : List Rat) (single : Bool) :
    h.adapt fo fuel vs single = h ∨ ∃ g, h.binning = .fixed g ∧ h.adapt fo fuel vs single =
      { h with binning := .fixed (adaptGrid fo fuel g vs single).1,
               freq := reshape1 h.freq (adaptGrid fo fuel g vs single).1.count (adaptGrid fo fuel g vs single).2,
               err2 := reshape1 h.err2 (adaptGrid fo fuel g vs single).1.count (adaptGrid fo fuel g vs single).2 } := by
  cases ha : h.binning.isAdaptive with
  | false => exact .inl (adapt_other _ _ _ _ _ ha)
  | true =>
    cases hb : h.binning with
    | static b i => rw [hb] at ha; cases ha
    | fixed g => rw [hb] at ha; exact .inr ⟨g, rfl, adapt_fixed fo fuel h g hb ha vs single⟩

theorem adapt_fields (fo : FloatOps) (fuel : Nat) (h : H1) (vs : List Rat) (single : Bool) :
    (h.adapt fo fuel vs single).under = h.under ∧ (h.adapt fo fuel vs single).over = h.over ∧
    (h.adapt fo fuel vs single).inner = h.inner ∧ (h.adapt fo fuel vs single).keep = h.keep ∧
    (h.adapt fo fuel vs single).stats = h.stats ∧ (h.adapt fo fuel vs single).dtype = h.dtype ∧
    ∃ n r, (h.adapt fo fuel vs single).freq = reshape1 h.freq n r ∧
           (h.adapt fo fuel vs single).err2 = reshape1 h.err2 n r := by
  rcases adapt_cases fo fuel h vs single with e | ⟨g, _, e⟩
  · rw [e]; exact ⟨rfl, rfl, rfl, rfl, rfl, rfl, 0, .noChange, rfl, rfl⟩
  · rw [e]; exact ⟨rfl, rfl, rfl, rfl, rfl, rfl, _, _, rfl, rfl⟩

theorem fill_snd (fo : FloatOps) (fuel : Nat) (h : H1) (v w : Rat) (k : NumKind) :
    (h.fill fo fuel (some v) w k).2 = some (((h.coerce k.dtype).adapt fo fuel [v] true).findBin fo v) := by
  simp only [H1.fill]
  cases ((h.coerce k.dtype).adapt fo fuel [v] true).findBin fo v <;> rfl

theorem fill_bin (fo : FloatOps) (fuel : Nat) (h : H1) (v w : Rat) (k : NumKind) (i : Nat)
    (hi : ((h.coerce k.dtype).adapt fo fuel [v] true).findBin fo v = .bin i) :
    (h.fill fo fuel (some v) w k).1 =
      { (h.coerce k.dtype).adapt fo fuel [v] true with
        freq := addAt ((h.coerce k.dtype).adapt fo fuel [v] true).freq i w,
        err2 := addAt ((h.coerce k.dtype).adapt fo fuel [v] true).err2 i (w * w),
        stats := ((h.coerce k.dtype).adapt fo fuel [v] true).stats.addPoint v w } := by
  simp only [H1.fill, hi]

theorem fill_miss (fo : FloatOps) (fuel : Nat) (h : H1) (v w : Rat) (k : NumKind)
    (hno : ∀ i, ((h.coerce k.dtype).adapt fo fuel [v] true).findBin fo v ≠ .bin i) :
    ∃ u o, (h.fill fo fuel (some v) w k).1 = { (h.coerce k.dtype).adapt fo fuel [v] true with under := u, over := o } ∧
      (((h.coerce k.dtype).adapt fo fuel [v] true).keep = false →
        u = ((h.coerce k.dtype).adapt fo fuel [v] true).under ∧ o = ((h.coerce k.dtype).adapt fo fuel [v] true).over) := by
  simp only [H1.fill]
  generalize (h.coerce k.dtype).adapt fo fuel [v] true = h2 at hno ⊢
  cases hf : h2.findBin fo v with
  | bin i => exact absurd hf (hno i)
  | _ =>
    dsimp only
    by_cases hk : h2.keep = true
    · rw [if_pos hk]; exact ⟨_, _, rfl, fun hf => absurd hk (hf ▸ Bool.false_ne_true)⟩
    · rw [if_neg hk]; exact ⟨h2.under, h2.over, rfl, fun _ => ⟨rfl, rfl⟩⟩

theorem fillN_ok (fo : FloatOps) (fuel : Nat) (h r : H1) (vs : List (Option Rat)) (ws : Option (List Rat)) (wk : DType)
    (hr : h.fillN fo fuel vs ws wk = .ok r) :
    r = (if ws.isSome then (h.adapt fo fuel (vs.filterMap id) false).coerce wk
         else h.adapt fo fuel (vs.filterMap id) false).fillData fo (maskPts vs ws) := by
  obtain ⟨_, hr⟩ := guard_ok (c := (!weightsShapeOk vs ws) = true) hr
  cases hr; rfl

theorem mergeWithMap_inv (fo : FloatOps) (h r : H1) (map : List Nat) (hr : h.mergeWithMap fo map = .ok r) :
    ∃ nb ire, r = { h with binning := .static nb ire, freq := mergeVals h.freq map nb.length,
                           err2 := mergeVals h.err2 map nb.length } := by
  obtain ⟨_, hr⟩ := guard_ok (c := map.isEmpty = true) hr
  obtain ⟨nb, _, hr⟩ := bind_ok _ _ _ hr
  cases hr
  exact ⟨nb, _, rfl⟩

end Physt
