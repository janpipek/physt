import Physt.Model.NDArray
import Mathlib.Tactic.Ring
import Mathlib.Tactic.Linarith
/-! `ofFn` materialises a function on index tuples; `get` reads it back (row-major raveling). -/
namespace Physt

theorem mul_add_lt_mul {i n r m : Nat} (hi : i < n) (hr : r < m) : i * m + r < n * m :=
  calc i * m + r < (i + 1) * m := by rw [Nat.succ_mul]; omega
    _ ≤ n * m := Nat.mul_le_mul_right m hi

theorem flatMap_range_length {α} (f : Nat → List α) (m n : Nat) (hf : ∀ i, i < n → (f i).length = m) :
    ((List.range n).flatMap f).length = n * m := by
  induction n with
  | zero => simp
  | succ n ih =>
    rw [List.range_succ, List.flatMap_append, List.length_append, ih (fun i hi => hf i (by omega)), Nat.succ_mul]
    simp [hf n (by omega)]

theorem flatMap_range_getElem? {α} (f : Nat → List α) (m n i r : Nat) (hf : ∀ i, i < n → (f i).length = m)
    (hi : i < n) (hr : r < m) : ((List.range n).flatMap f)[i * m + r]? = (f i)[r]? := by
  induction n with
  | zero => omega
  | succ n ih =>
    rw [List.range_succ, List.flatMap_append]
    have hlen := flatMap_range_length f m n (fun j hj => hf j (by omega))
    by_cases hin : i < n
    · rw [List.getElem?_append_left (by rw [hlen]; exact mul_add_lt_mul hin hr)]
      exact ih (fun j hj => hf j (by omega)) hin
    · have : i = n := by omega
      subst this
      rw [List.getElem?_append_right (by rw [hlen]; omega)]
      simp [hlen]

theorem allIdx_length (shape : List Nat) : (allIdx shape).length = prodL shape := by
  induction shape with
  | nil => rfl
  | cons n rest ih =>
    unfold allIdx prodL
    rw [flatMap_range_length _ (prodL rest) n (fun i _ => by simp [ih])]

theorem ravel_lt (shape idx : List Nat) (h : validIdx shape idx = true) : ravel shape idx < prodL shape := by
  induction shape generalizing idx with
  | nil => cases idx <;> simp_all [validIdx, ravel, prodL]
  | cons n rest ih =>
    cases idx with
    | nil => simp [validIdx] at h
    | cons i is =>
      simp only [validIdx, Bool.and_eq_true, decide_eq_true_eq] at h
      exact mul_add_lt_mul h.1 (ih is h.2)

theorem allIdx_getElem? (shape idx : List Nat) (h : validIdx shape idx = true) :
    (allIdx shape)[ravel shape idx]? = some idx := by
  induction shape generalizing idx with
  | nil => cases idx <;> simp_all [validIdx, ravel, allIdx]
  | cons n rest ih =>
    cases idx with
    | nil => simp [validIdx] at h
    | cons i is =>
      simp only [validIdx, Bool.and_eq_true, decide_eq_true_eq] at h
      unfold allIdx ravel
      rw [flatMap_range_getElem? _ (prodL rest) n i (ravel rest is) (fun j _ => by simp [allIdx_length]) h.1
        (ravel_lt rest is h.2)]
      simp [List.getElem?_map, ih is h.2]

/-- **Reading back a materialised function**: for every valid index, `(ofFn shape g).get idx = g idx`. -/
theorem Arr.get_ofFn (shape : List Nat) (g : List Nat → Rat) (idx : List Nat) (h : validIdx shape idx = true) :
    (Arr.ofFn shape g).get idx = g idx := by
  unfold Arr.get Arr.ofFn
  simp only [h, if_true, List.getElem?_map, allIdx_getElem? shape idx h, Option.map_some, Option.getD_some]

theorem Arr.get_invalid (a : Arr) (idx : List Nat) (h : validIdx a.shape idx = false) : a.get idx = 0 := by
  unfold Arr.get; simp [h]

theorem Arr.total_ofFn (shape : List Nat) (g : List Nat → Rat) :
    (Arr.ofFn shape g).total = ((allIdx shape).map g).sum := rfl

theorem validIdx_iff_getD (shape idx : List Nat) :
    validIdx shape idx = true ↔
      idx.length = shape.length ∧ ∀ k, k < shape.length → idx[k]?.getD 0 < shape[k]?.getD 0 := by
  induction shape generalizing idx with
  | nil => cases idx <;> simp [validIdx]
  | cons n rest ih =>
    cases idx with
    | nil => simp [validIdx]
    | cons i is =>
      simp only [validIdx, Bool.and_eq_true, decide_eq_true_eq, ih is, List.length_cons, Nat.add_right_cancel_iff]
      constructor
      · rintro ⟨h1, h2, h3⟩
        refine ⟨h2, fun k hk => ?_⟩
        cases k with
        | zero => exact h1
        | succ k => exact h3 k (by omega)
      · rintro ⟨h1, h2⟩
        exact ⟨h2 0 (by omega), h1, fun k hk => h2 (k + 1) (by omega)⟩

theorem validIdx_length (shape idx : List Nat) (h : validIdx shape idx = true) : idx.length = shape.length :=
  ((validIdx_iff_getD shape idx).mp h).1

@[simp] theorem Arr.setAt_eq {α} (l : List α) (i : Nat) (x : α) : Arr.setAt l i x = l.set i x := rfl
@[simp] theorem Arr.removeAt_eq {α} (l : List α) (i : Nat) : Arr.removeAt l i = l.eraseIdx i := rfl

/-- a tuple of a shape whose entry `i` is `N` has its coordinate `i` below `N` -/
theorem validIdx_setAt_lt (shape idx : List Nat) (i N : Nat) (hv : validIdx (Arr.setAt shape i N) idx = true)
    (hi : i < idx.length) : idx[i]?.getD 0 < N := by
  obtain ⟨hl, h⟩ := (validIdx_iff_getD _ _).mp hv
  rw [Arr.setAt_eq, List.length_set] at hl
  simpa [hl ▸ hi] using h i (by simpa using hl ▸ hi)

theorem prodL_eq_zero (s : List Nat) (i : Nat) (h : s[i]? = some 0) : prodL s = 0 := by
  induction s generalizing i with
  | nil => simp at h
  | cons n rest ih =>
    cases i with
    | zero =>
      simp only [List.getElem?_cons_zero, Option.some.injEq] at h
      subst h; simp [prodL]
    | succ i =>
      simp only [List.getElem?_cons_succ] at h
      simp [prodL, ih i h]

end Physt
