import Physt.Proofs.HistoryND
/-!
# `merge_bins` for any bin map that is a step chain

`apply_bin_map` (`mergeBinsAux`) accepts a bin map iff neighbouring old bins that go to the same new
bin meet.  For a bin map in the sense of `IsBinMap` (a step chain starting at 0, which is what both
`merge_bins(amount)` and `merge_bins(min_frequency=…)` build) the result is `mergedByMap`: new bin `j`
spans run `j` (`runOf`), from the left edge of its first to the right edge of its last old bin; for
the `amount` map this is `mergedBins` (`mergedByMap_amount`).  `MinFreqInv` says what the
`min_frequency` threshold guarantees about the runs, one bin at a time, and these guarantees determine
the grouping (`minFreqInv_unique`).  Then histograms: 1-D, `merge_bins` on one axis of an N-d
histogram, and on all axes one after the other (`MergedUpTo` is the loop invariant); regrouping two
different axes commutes (`Arr.gather_comm`).
-/
namespace Physt
open H1

/-! ## what `mergeBinsAux` computes, and when -/

/-- what `mergeBinsAux` returns when it does not refuse (the gap check left out) -/
def mergeRuns : List (Bin × Nat) → Bin × Nat → List Bin
  | [], c => [c.1]
  | z :: rest, c =>
    if z.2 = c.2 then mergeRuns rest ((c.1.1, z.1.2), c.2) else c.1 :: mergeRuns rest z

/-- two neighbouring old bins that go to the same new bin must meet -/
def MeetIfSame (x y : Bin × Nat) : Prop := x.2 = y.2 → x.1.2 = y.1.1

theorem isChain_meet_congr (x y : Bin × Nat) (rest : List (Bin × Nat)) (h1 : x.1.2 = y.1.2) (h2 : x.2 = y.2) :
    List.IsChain MeetIfSame (x :: rest) ↔ List.IsChain MeetIfSame (y :: rest) := by
  cases rest with
  | nil => simp
  | cons z rest => simp only [List.isChain_cons_cons, MeetIfSame, h1, h2]

theorem mergeBinsAux_some (zs : List (Bin × Nat)) : ∀ (c : Bin × Nat),
    (List.IsChain MeetIfSame (c :: zs) → mergeBinsAux zs (some c) = .ok (mergeRuns zs c)) ∧
    (¬ List.IsChain MeetIfSame (c :: zs) → mergeBinsAux zs (some c) = .error "merging non-consecutive bins") := by
  induction zs with
  | nil =>
    intro c
    obtain ⟨cur, cj⟩ := c
    simp [mergeBinsAux, mergeRuns, pure, Except.pure]
  | cons z rest ih =>
    intro c
    obtain ⟨cur, cj⟩ := c
    obtain ⟨b, j⟩ := z
    rw [List.isChain_cons_cons]
    simp only [mergeBinsAux, mergeRuns]
    by_cases hj : j = cj
    · subst hj
      simp only [if_true]
      by_cases hm : cur.2 = b.1
      · simp only [hm, if_true]
        have hcg := isChain_meet_congr ((cur.1, b.2), j) (b, j) rest rfl rfl
        have := ih ((cur.1, b.2), j)
        rw [hcg] at this
        constructor
        · intro hc; exact this.1 hc.2
        · intro hc; exact this.2 (fun h => hc ⟨fun _ => hm, h⟩)
      · simp only [hm, if_false]
        constructor
        · intro hc; exact absurd (hc.1 rfl) hm
        · intro _; rfl
    · simp only [hj, if_false]
      have := ih (b, j)
      constructor
      · intro hc
        rw [this.1 hc.2]; rfl
      · intro hc
        rw [this.2 (fun h => hc ⟨fun e => absurd e.symm hj, h⟩)]; rfl

/-- the result of `mergeBinsAux` started without a current bin -/
def mergeRuns0 : List (Bin × Nat) → List Bin
  | [] => []
  | z :: rest => mergeRuns rest z

theorem mergeBinsAux_none (zs : List (Bin × Nat)) :
    (List.IsChain MeetIfSame zs → mergeBinsAux zs none = .ok (mergeRuns0 zs)) ∧
    (¬ List.IsChain MeetIfSame zs → mergeBinsAux zs none = .error "merging non-consecutive bins") := by
  cases zs with
  | nil => simp [mergeBinsAux, mergeRuns0, pure, Except.pure]
  | cons z rest =>
    obtain ⟨b, j⟩ := z
    simp only [mergeBinsAux, mergeRuns0]
    exact mergeBinsAux_some rest (b, j)

/-- within every run of the bin map, adjacent old bins meet: whenever old bins `k` and `k + 1` go
    to the same new bin, the right edge of `k` is the left edge of `k + 1` -/
def MapRunsMeet (bins : Bins) (map : List Nat) : Prop :=
  ∀ k b c m, bins[k]? = some b → bins[k + 1]? = some c → map[k]? = some m → map[k + 1]? = some m → b.2 = c.1

theorem isChain_zip_iff (bins : Bins) (map : List Nat) :
    List.IsChain MeetIfSame (bins.zip map) ↔ MapRunsMeet bins map := by
  rw [List.isChain_iff_getElem]
  constructor
  · intro h k b c m hb hc hm hm'
    obtain ⟨hkb, rfl⟩ := List.getElem?_eq_some_iff.mp hb
    obtain ⟨hkc, rfl⟩ := List.getElem?_eq_some_iff.mp hc
    obtain ⟨hkm, e1⟩ := List.getElem?_eq_some_iff.mp hm
    obtain ⟨hkm', e2⟩ := List.getElem?_eq_some_iff.mp hm'
    have := h k (by rw [List.length_zip]; omega)
    simp only [MeetIfSame, List.getElem_zip] at this
    exact this (by rw [e1, e2])
  · intro h k hk
    simp only [List.length_zip] at hk
    simp only [MeetIfSame, List.getElem_zip]
    intro e
    exact h k _ _ _ (List.getElem?_eq_getElem (by omega)) (List.getElem?_eq_getElem (by omega))
      (List.getElem?_eq_getElem (by omega)) (by rw [List.getElem?_eq_getElem (by omega), e])

/-- **Acceptance, for any bin map**: `apply_bin_map` succeeds iff no run has a gap inside. -/
theorem mergeBinsAux_ok_iff (bins : Bins) (map : List Nat) :
    (∃ r, mergeBinsAux (bins.zip map) none = .ok r) ↔ MapRunsMeet bins map := by
  rw [← isChain_zip_iff]
  constructor
  · rintro ⟨r, hr⟩
    by_contra hc
    rw [(mergeBinsAux_none _).2 hc] at hr
    cases hr
  · intro hc
    exact ⟨_, (mergeBinsAux_none _).1 hc⟩

theorem mergeBinsAux_refused (bins : Bins) (map : List Nat) (h : ¬ MapRunsMeet bins map) :
    mergeBinsAux (bins.zip map) none = .error "merging non-consecutive bins" :=
  (mergeBinsAux_none _).2 (by rwa [isChain_zip_iff])

theorem mergeBinsAux_accepted (bins : Bins) (map : List Nat) (h : MapRunsMeet bins map) :
    mergeBinsAux (bins.zip map) none = .ok (mergeRuns0 (bins.zip map)) :=
  (mergeBinsAux_none _).1 (by rwa [isChain_zip_iff])

/-! ## runs of a step chain and the bins they span -/

/-- the old bins that go to new bin `j`, in order (the same filter as in `C10_run_content`) -/
def runOf {α} (zs : List (α × Nat)) (j : Nat) : List α := (zs.filter (·.2 == j)).map (·.1)

/-- from the left edge of the first to the right edge of the last bin of a run (`(0, 0)` for an
    empty run; never read there below) -/
def spanOf (run : Bins) : Bin := ((run.head?.getD (0, 0)).1, (run.getLast?.getD (0, 0)).2)

theorem runOf_cons {α} (z : α × Nat) (rest : List (α × Nat)) (k : Nat) :
    runOf (z :: rest) k = if z.2 = k then z.1 :: runOf rest k else runOf rest k := by
  unfold runOf
  by_cases h : z.2 = k <;> simp [h]

theorem runOf_eq_nil {α} (zs : List (α × Nat)) (j : Nat) (h : ∀ z ∈ zs, z.2 ≠ j) : runOf zs j = [] := by
  unfold runOf
  rw [List.map_eq_nil_iff, List.filter_eq_nil_iff]
  intro z hz
  simpa using h z hz

theorem runOf_eq_nil_of_lt {α} (zs : List (α × Nat)) (c j : Nat) (hk : ∀ z ∈ zs, c ≤ z.2) (hj : j < c) :
    runOf zs j = [] :=
  runOf_eq_nil zs j fun z hz => by have := hk z hz; omega

theorem spanOf_cons (x : Bin) (R : Bins) : spanOf (x :: R) = (x.1, (R.getLast?.getD x).2) := by
  simp [spanOf, List.getLast?_cons]

theorem spanOf_merge (c b : Bin) (R : Bins) : spanOf ((c.1, b.2) :: R) = spanOf (c :: b :: R) := by
  rw [spanOf_cons, spanOf_cons, List.getLast?_cons]
  cases R.getLast? <;> rfl

theorem stepChain_ge : ∀ (l : List Nat) (s : Nat), StepChain s l → ∀ x ∈ l, s ≤ x := by
  intro l
  induction l with
  | nil => intro s _ x hx; cases hx
  | cons y ys ih =>
    intro s h x hx
    rcases List.mem_cons.mp hx with rfl | hx
    · rcases h.1 with e | e <;> omega
    · have := ih y h.2 x hx
      rcases h.1 with e | e <;> omega

def lastKey (zs : List (Bin × Nat)) (d : Nat) : Nat := (zs.getLast?.map (·.2)).getD d

theorem lastKey_cons (z : Bin × Nat) (rest : List (Bin × Nat)) (d : Nat) :
    lastKey (z :: rest) d = lastKey rest z.2 := by
  unfold lastKey
  rw [List.getLast?_cons]
  cases rest.getLast? <;> rfl

theorem lastKey_ge (zs : List (Bin × Nat)) (s : Nat) (h : StepChain s (zs.map (·.2))) : s ≤ lastKey zs s := by
  unfold lastKey
  cases hl : zs.getLast? with
  | none => simp
  | some z =>
    have hm : z ∈ zs := List.mem_of_getLast? hl
    exact stepChain_ge _ s h z.2 (List.mem_map.mpr ⟨z, hm, rfl⟩)

/-- **The runs of a step chain, merged.**  Continuing a current bin `c` of new index `c.2`: the
    current bin is extended over the rest of its run, and every later run `c.2 + 1 + i` becomes one
    bin spanning it. -/
theorem mergeRuns_stepChain (zs : List (Bin × Nat)) : ∀ (c : Bin × Nat), StepChain c.2 (zs.map (·.2)) →
    mergeRuns zs c = spanOf (c.1 :: runOf zs c.2) ::
      (List.range (lastKey zs c.2 - c.2)).map fun i => spanOf (runOf zs (c.2 + 1 + i)) := by
  induction zs with
  | nil =>
    intro c _
    simp [mergeRuns, runOf, spanOf, lastKey]
  | cons z rest ih =>
    intro c hc
    obtain ⟨cur, cj⟩ := c
    obtain ⟨b, j⟩ := z
    simp only [List.map_cons] at hc
    obtain ⟨hj, hrest⟩ := hc
    simp only [mergeRuns, lastKey_cons]
    by_cases e : j = cj
    · subst e
      simp only [if_true]
      rw [ih ((cur.1, b.2), j) hrest]
      simp only [runOf_cons, if_true, spanOf_merge]
      congr 1
      apply List.map_congr_left
      intro i _
      rw [if_neg (by omega)]
    · have e' : j = cj + 1 := by rcases hj with h | h <;> omega
      subst e'
      simp only [e, if_false]
      rw [ih (b, cj + 1) hrest]
      have hnil : runOf rest cj = [] := runOf_eq_nil_of_lt rest (cj + 1) cj
        (fun z hz => stepChain_ge _ _ hrest z.2 (List.mem_map.mpr ⟨z, hz, rfl⟩)) (Nat.lt_succ_self cj)
      have hge := lastKey_ge rest (cj + 1) hrest
      obtain ⟨d, hd⟩ : ∃ d, lastKey rest (cj + 1) - cj = d + 1 := ⟨lastKey rest (cj + 1) - cj - 1, by omega⟩
      have hd' : lastKey rest (cj + 1) - (cj + 1) = d := by omega
      rw [hd, hd', List.range_succ_eq_map, List.map_cons, List.map_map]
      simp only [runOf_cons, e, if_false, hnil, Nat.add_zero, if_true]
      rw [spanOf_cons]
      congr 2
      apply List.map_congr_left
      intro i _
      simp only [Function.comp]
      rw [if_neg (by omega)]
      congr 2
      omega

/-- number of new bins of a bin map: its last value + 1 (0 for the empty map) -/
def newCount (map : List Nat) : Nat := (map.getLast?.map (· + 1)).getD 0

/-- what `merge_bins` must produce for a bin map: new bin `j` spans run `j` -/
def mergedByMap (bins : Bins) (map : List Nat) : Bins :=
  (List.range (newCount map)).map fun j => spanOf (runOf (bins.zip map) j)

theorem lastKey_zip (bins : Bins) (map : List Nat) (hl : map.length = bins.length) (d : Nat) :
    lastKey (bins.zip map) d = map.getLast?.getD d := by
  unfold lastKey
  rw [← List.getLast?_map, List.map_snd_zip (by omega)]

theorem mergeRuns0_stepChain (bins : Bins) (map : List Nat) (hm : IsBinMap bins.length map) :
    mergeRuns0 (bins.zip map) = mergedByMap bins map := by
  obtain ⟨hl, hc, h0⟩ := hm
  cases bins with
  | nil => cases map with
    | nil => rfl
    | cons m ms => simp at hl
  | cons b bs =>
    cases map with
    | nil => simp at hl
    | cons m ms =>
      have hm : m = 0 := h0 m rfl
      subst hm
      have hl' : ms.length = bs.length := by simpa using hl
      simp only [List.zip_cons_cons, mergeRuns0]
      rw [mergeRuns_stepChain (bs.zip ms) (b, 0) (by
        simp only [List.map_snd_zip (show ms.length ≤ bs.length by omega)]; exact hc.2)]
      have hn : newCount (0 :: ms) = lastKey (bs.zip ms) 0 + 1 := by
        rw [lastKey_zip bs ms hl']
        unfold newCount
        rw [List.getLast?_cons]
        cases ms.getLast? <;> rfl
      unfold mergedByMap
      rw [hn, List.range_succ_eq_map, List.map_cons, List.map_map]
      simp only [List.zip_cons_cons, runOf_cons, if_true, Nat.sub_zero]
      congr 1
      apply List.map_congr_left
      intro i _
      simp only [Function.comp, Nat.zero_add]
      rw [if_neg (by omega), Nat.add_comm]

/-- **`apply_bin_map` for a step chain starting at 0** (`merge_bins(amount)` and
    `merge_bins(min_frequency=…)` alike): accepted iff no run has a gap inside; then the result is
    `mergedByMap`, otherwise the call is refused. -/
theorem mergeBinsAux_stepChain (bins : Bins) (map : List Nat) (hm : IsBinMap bins.length map) :
    (MapRunsMeet bins map → mergeBinsAux (bins.zip map) none = .ok (mergedByMap bins map)) ∧
    (¬ MapRunsMeet bins map → mergeBinsAux (bins.zip map) none = .error "merging non-consecutive bins") :=
  ⟨fun h => by rw [mergeBinsAux_accepted bins map h, mergeRuns0_stepChain bins map hm],
   mergeBinsAux_refused bins map⟩

theorem mergedByMap_length (bins : Bins) (map : List Nat) : (mergedByMap bins map).length = newCount map := by
  simp [mergedByMap]

theorem stepChain_mem : ∀ (l : List Nat) (s L : Nat), StepChain s l → l.getLast? = some L →
    ∀ j, s < j → j ≤ L → j ∈ l := by
  intro l
  induction l with
  | nil => intro s L _ h; cases h
  | cons x xs ih =>
    intro s L h hL j hsj hjL
    by_cases e : j = x
    · subst e; exact List.mem_cons_self ..
    · cases xs with
      | nil =>
        simp only [List.getLast?_singleton, Option.some.injEq] at hL
        rcases h.1 with e' | e' <;> omega
      | cons y ys =>
        rw [List.getLast?_cons_cons] at hL
        exact List.mem_cons_of_mem _ (ih x L h.2 hL j (by rcases h.1 with e' | e' <;> omega) hjL)

theorem stepChain0_mem (map : List Nat) (L : Nat) (hc : StepChain 0 map) (h0 : ∀ x, map.head? = some x → x = 0)
    (hL : map.getLast? = some L) : ∀ j, j ≤ L → j ∈ map := by
  intro j hj
  by_cases e : j = 0
  · subst e
    cases map with
    | nil => cases hL
    | cons m ms => rw [h0 m rfl]; exact List.mem_cons_self ..
  · exact stepChain_mem map 0 L hc hL j (by omega) hj

theorem runOf_zip_ne_nil {α} (bins : List α) (map : List Nat) (hl : map.length = bins.length) (j : Nat) (hj : j ∈ map) :
    runOf (bins.zip map) j ≠ [] := by
  obtain ⟨k, hk, rfl⟩ := List.getElem_of_mem hj
  unfold runOf
  rw [Ne, List.map_eq_nil_iff, List.filter_eq_nil_iff]
  intro h
  have := h (bins[k]'(by omega), map[k]) (by
    rw [List.mem_iff_getElem]
    exact ⟨k, by simp; omega, by simp⟩)
  simp at this

/-- **New bin `j`** reaches from the left edge of the first old bin of run `j` to the right edge of
    its last old bin, and the run is not empty. -/
theorem mergedByMap_getElem? (bins : Bins) (map : List Nat) (hm : IsBinMap bins.length map) (j : Nat)
    (hj : j < newCount map) :
    ∃ f l, (runOf (bins.zip map) j).head? = some f ∧ (runOf (bins.zip map) j).getLast? = some l ∧
      (mergedByMap bins map)[j]? = some (f.1, l.2) := by
  obtain ⟨hl, hc, h0⟩ := hm
  have hmem : j ∈ map := by
    unfold newCount at hj
    cases hL : map.getLast? with
    | none => simp [hL] at hj
    | some L =>
      simp only [hL, Option.map_some, Option.getD_some] at hj
      exact stepChain0_mem map L hc h0 hL j (by omega)
  have hne := runOf_zip_ne_nil bins map hl j hmem
  cases hr : runOf (bins.zip map) j with
  | nil => exact absurd hr hne
  | cons f R =>
    refine ⟨f, R.getLast?.getD f, rfl, List.getLast?_cons, ?_⟩
    simp only [mergedByMap, List.getElem?_map, List.getElem?_range hj, Option.map_some, hr, spanOf_cons]

/-! ## outer edges, `Rising` -/

theorem getLast?_filter_of_last {α} (l : List α) (p : α → Bool) (z : α) (hl : l.getLast? = some z) (hp : p z = true) :
    (l.filter p).getLast? = some z := by
  obtain ⟨ys, rfl⟩ := List.getLast?_eq_some_iff.mp hl
  rw [List.filter_append]
  simp [hp]

theorem head?_mergedByMap (bins : Bins) (map : List Nat) (hl : map.length = bins.length)
    (h0 : ∀ x, map.head? = some x → x = 0) :
    firstEdge? (mergedByMap bins map) = firstEdge? bins := by
  cases bins with
  | nil => cases map with
    | nil => rfl
    | cons m ms => simp at hl
  | cons b bs =>
    cases map with
    | nil => simp at hl
    | cons m ms =>
      have hm : m = 0 := h0 m rfl
      subst hm
      have hn : ∃ d, newCount (0 :: ms) = d + 1 := by
        unfold newCount
        rw [List.getLast?_cons]
        exact ⟨_, rfl⟩
      obtain ⟨d, hd⟩ := hn
      simp only [firstEdge?, mergedByMap, hd, List.range_succ_eq_map, List.map_cons, List.head?_cons,
        List.zip_cons_cons, runOf_cons, if_true, spanOf_cons, Option.map_some]

theorem getLast?_mergedByMap (bins : Bins) (map : List Nat) (hl : map.length = bins.length) :
    lastEdge? (mergedByMap bins map) = lastEdge? bins := by
  cases hL : map.getLast? with
  | none =>
    have : map = [] := by simpa using hL
    subst this
    have : bins = [] := List.eq_nil_of_length_eq_zero (by simpa using hl.symm)
    subst this
    rfl
  | some L =>
    have hz : (bins.zip map).getLast?.map (·.2) = some L := by
      rw [← List.getLast?_map, List.map_snd_zip (by omega), hL]
    have hz1 : (bins.zip map).getLast?.map (·.1) = bins.getLast? := by
      rw [← List.getLast?_map, List.map_fst_zip (by omega)]
    cases hzl : (bins.zip map).getLast? with
    | none => rw [hzl] at hz; cases hz
    | some z =>
      rw [hzl] at hz hz1
      simp only [Option.map_some, Option.some.injEq] at hz
      have hrun : (runOf (bins.zip map) L).getLast? = some z.1 := by
        unfold runOf
        rw [List.getLast?_map, getLast?_filter_of_last _ _ z hzl (by simp [hz])]
        rfl
      have hn : newCount map = L + 1 := by simp [newCount, hL]
      simp only [lastEdge?, mergedByMap, hn, List.range_succ, List.map_append, List.map_cons, List.map_nil,
        List.getLast?_append, List.getLast?_singleton]
      rw [← hz1]
      simp [spanOf, hrun]

/-- the right-edge flag survives a merge: the last right edge does not move -/
theorem ire_mergedByMap (bins : Bins) (map : List Nat) (hl : map.length = bins.length) (ire : Bool) :
    (ire && ((mergedByMap bins map).getLast?.map (·.2) == bins.getLast?.map (·.2))) = ire := by
  have := getLast?_mergedByMap bins map hl
  unfold lastEdge? at this
  rw [this, beq_self_eq_true, Bool.and_true]

theorem rising_cons_iff (x : Bin) (l : Bins) :
    Rising (x :: l) ↔ x.1 < x.2 ∧ (∀ y, l.head? = some y → x.2 ≤ y.1) ∧ Rising l := by
  obtain ⟨a, b⟩ := x
  cases l with
  | nil => simp [Rising]
  | cons y ys => obtain ⟨c, d⟩ := y; simp [Rising]

theorem mergeRuns_rising (zs : List (Bin × Nat)) : ∀ (c : Bin × Nat), Rising (c.1 :: zs.map (·.1)) →
    Rising (mergeRuns zs c) ∧ ∃ y, (mergeRuns zs c).head? = some y ∧ y.1 = c.1.1 := by
  induction zs with
  | nil =>
    intro c h
    exact ⟨h, c.1, rfl, rfl⟩
  | cons z rest ih =>
    intro c h
    obtain ⟨cur, cj⟩ := c
    obtain ⟨b, j⟩ := z
    simp only [List.map_cons] at h
    rw [rising_cons_iff] at h
    obtain ⟨h1, h2, h3⟩ := h
    have h2' : cur.2 ≤ b.1 := h2 b rfl
    have h3' := (rising_cons_iff _ _).mp h3
    simp only [mergeRuns]
    by_cases e : j = cj
    · simp only [e, if_true]
      apply ih ((cur.1, b.2), cj)
      rw [rising_cons_iff]
      exact ⟨by show cur.1 < b.2; linarith [h3'.1], h3'.2.1, h3'.2.2⟩
    · simp only [e, if_false]
      obtain ⟨hr, y, hy, hy1⟩ := ih (b, j) h3
      refine ⟨?_, cur, rfl, rfl⟩
      rw [rising_cons_iff]
      refine ⟨h1, ?_, hr⟩
      intro y' hy'
      rw [hy] at hy'
      cases hy'
      rw [hy1]
      exact h2'

/-- **Rising bins stay rising** under any bin map (when the merge is accepted at all). -/
theorem mergeRuns0_rising (zs : List (Bin × Nat)) (h : Rising (zs.map (·.1))) : Rising (mergeRuns0 zs) := by
  cases zs with
  | nil => trivial
  | cons z rest => exact (mergeRuns_rising rest z h).1

theorem stepChain_sorted : ∀ (l : List Nat) (s : Nat), StepChain s l → l.Pairwise (· ≤ ·) := by
  intro l
  induction l with
  | nil => intro _ _; exact List.Pairwise.nil
  | cons x xs ih =>
    intro s h
    rw [List.pairwise_cons]
    exact ⟨stepChain_ge xs x h.2, ih x h.2⟩

theorem filter_lt_succ {α} (key : α → Nat) (zs : List α) (hs : (zs.map key).Pairwise (· ≤ ·)) (N : Nat) :
    zs.filter (fun z => decide (key z < N)) ++ zs.filter (fun z => key z == N)
      = zs.filter (fun z => decide (key z < N + 1)) := by
  induction zs with
  | nil => rfl
  | cons z rest ih =>
    rw [List.map_cons, List.pairwise_cons] at hs
    by_cases h1 : key z < N
    · have h2 : ¬ key z = N := Nat.ne_of_lt h1
      have h3 : key z < N + 1 := Nat.lt_succ_of_lt h1
      simp only [List.filter_cons, h1, h2, h3, decide_true, beq_iff_eq, if_true, if_false, List.cons_append, ih hs.2]
    · -- from here on every key is at least `N`: nothing is below, and `= N` is the same as `< N + 1`
      have hge : ∀ y ∈ z :: rest, N ≤ key y := by
        intro y hy
        rcases List.mem_cons.mp hy with rfl | hy
        · omega
        · have := hs.1 (key y) (List.mem_map.mpr ⟨y, hy, rfl⟩); omega
      rw [List.filter_eq_nil_iff.mpr fun y hy h => absurd (of_decide_eq_true h) (Nat.not_lt.mpr (hge y hy)),
        List.nil_append]
      exact List.filter_congr fun y hy => Bool.eq_iff_iff.mpr (by
        have := hge y hy
        rw [beq_iff_eq, decide_eq_true_iff]
        omega)

theorem flatMap_filter_eq {α} (key : α → Nat) (zs : List α) (hs : (zs.map key).Pairwise (· ≤ ·)) (N : Nat) :
    (List.range N).flatMap (fun j => zs.filter (fun z => key z == j)) = zs.filter (fun z => decide (key z < N)) := by
  induction N with
  | zero => simp
  | succ N ih => rw [List.range_succ, List.flatMap_append, ih, ← filter_lt_succ key zs hs N]; simp

theorem stepChain_lt_newCount (map : List Nat) (hc : StepChain 0 map) : ∀ j ∈ map, j < newCount map := by
  intro j hj
  have hsorted := stepChain_sorted map 0 hc
  unfold newCount
  cases hL : map.getLast? with
  | none => have : map = [] := by simpa using hL
            subst this; cases hj
  | some L =>
    obtain ⟨ys, rfl⟩ := List.getLast?_eq_some_iff.mp hL
    rw [List.pairwise_append] at hsorted
    simp only [Option.map_some, Option.getD_some]
    rcases List.mem_append.mp hj with h | h
    · have := hsorted.2.2 _ h L (by simp)
      omega
    · simp at h; omega

/-! ## `min_frequency`: what the threshold guarantees -/

theorem minFreqMapAux_ge (thr : Rat) (fs : List Rat) (cur : Nat) (sum : Rat) :
    ∀ x ∈ minFreqMapAux thr fs cur sum, cur ≤ x :=
  stepChain_ge _ cur (minFreqMapAux_chain thr fs cur sum).1

/-- the content the `min_frequency` loop holds for run `j` before it reads on: `sum` for the open
    run `cur`, nothing for later runs -/
def carry (cur : Nat) (sum : Rat) (j : Nat) : Rat := if j = cur then sum else 0

/-- what the loop guarantees about the runs it forms from here on -/
structure MinFreqInv (thr : Rat) (zs : List (Rat × Nat)) (cur : Nat) (sum : Rat) : Prop where
  full : ∀ L, zs.getLast?.map (·.2) = some L → ∀ j, cur ≤ j → j < L →
    thr < carry cur sum j + (runOf zs j).sum ∨
      (0 < carry cur sum j + (runOf zs j).sum ∧ ∃ g, (runOf zs (j + 1)).head? = some g ∧ thr ≤ g)
  minimal : ∀ j p q, cur ≤ j → runOf zs j = p ++ q → p ≠ [] → q ≠ [] → carry cur sum j + p.sum ≤ thr
  high : ∀ j p g q, cur ≤ j → runOf zs j = p ++ g :: q → thr ≤ g → carry cur sum j + p.sum ≤ 0

theorem carry_self (c : Nat) (s : Rat) : carry c s c = s := if_pos rfl

theorem carry_ne {c j : Nat} (s : Rat) (h : j ≠ c) : carry c s j = 0 := if_neg h

theorem carry_zero (c j : Nat) : carry c 0 j = 0 := ite_self 0

theorem runOf_cons_self {α} (x : α) (c : Nat) (zs : List (α × Nat)) : runOf ((x, c) :: zs) c = x :: runOf zs c := by
  rw [runOf_cons, if_pos rfl]

theorem runOf_cons_ne {α} (x : α) {c j : Nat} (zs : List (α × Nat)) (h : c ≠ j) : runOf ((x, c) :: zs) j = runOf zs j := by
  rw [runOf_cons, if_neg h]

theorem getLast?_cons_snd {α} (x : α) (c : Nat) (zs : List (α × Nat)) (L : Nat) :
    ((x, c) :: zs).getLast?.map (·.2) = some L ↔ (zs = [] ∧ L = c) ∨ zs.getLast?.map (·.2) = some L := by
  rw [List.getLast?_cons]
  cases hz : zs.getLast? with
  | none => simp [List.getLast?_eq_none_iff.mp hz, eq_comm]
  | some w =>
    have : zs ≠ [] := fun e => by rw [e] at hz; cases hz
    simp [this]

/-- the invariant at `(c, s)` speaks of the runs from `c` on only: it holds from any later run on with nothing carried -/
theorem MinFreqInv.restrict {thr : Rat} {zs : List (Rat × Nat)} {c c' : Nat} {s : Rat}
    (h : MinFreqInv thr zs c s) (hc : c < c') : MinFreqInv thr zs c' 0 := by
  have e : ∀ j, c' ≤ j → carry c' 0 j = carry c s j := fun j hj => by
    rw [carry_ne s (by omega), carry_zero]
  refine ⟨fun L hL j hj hjL => ?_, fun j p q hj => ?_, fun j p g q hj => ?_⟩
  · rw [e j hj]; exact h.full L hL j (by omega) hjL
  · rw [e j hj]; exact h.minimal j p q (by omega)
  · rw [e j hj]; exact h.high j p g q (by omega)

/-- … and a run `c` that has no entry left and has passed the threshold may be put in front -/
theorem MinFreqInv.extend {thr : Rat} {zs : List (Rat × Nat)} {c : Nat} {s : Rat}
    (h : MinFreqInv thr zs (c + 1) 0) (hk : ∀ z ∈ zs, c + 1 ≤ z.2) (hs : thr < s) : MinFreqInv thr zs c s := by
  have hnil : runOf zs c = [] := runOf_eq_nil_of_lt zs (c + 1) c hk (by omega)
  have e : ∀ j, c + 1 ≤ j → carry c s j = carry (c + 1) 0 j := fun j hj => by
    rw [carry_ne s (by omega), carry_zero]
  refine ⟨fun L hL j hj hjL => ?_, fun j p q hj hrun hp => ?_, fun j p g q hj hrun => ?_⟩
  · rcases Nat.eq_or_lt_of_le hj with rfl | hlt
    · left; rw [carry_self, hnil, List.sum_nil, add_zero]; exact hs
    · rw [e j hlt]; exact h.full L hL j hlt hjL
  · rcases Nat.eq_or_lt_of_le hj with rfl | hlt
    · rw [hnil] at hrun; exact absurd (List.append_eq_nil_iff.mp hrun.symm).1 hp
    · rw [e j hlt]; exact h.minimal j p q hlt hrun hp
  · rcases Nat.eq_or_lt_of_le hj with rfl | hlt
    · rw [hnil] at hrun; cases (List.append_eq_nil_iff.mp hrun.symm).2
    · rw [e j hlt]; exact h.high j p g q hlt hrun

theorem MinFreqInv.nil (thr : Rat) (cur : Nat) (sum : Rat) : MinFreqInv thr [] cur sum :=
  ⟨fun L hL => (by cases hL),
   fun j p q _ h hp _ => absurd (List.append_eq_nil_iff.mp (Eq.symm h)).1 hp,
   fun j p g q _ h => (by cases (List.append_eq_nil_iff.mp (Eq.symm h)).2)⟩

/-- **One step of the invariant.**  An entry `(f, c)` in front (`c` the open run or the next one, no
    earlier key behind it): the invariant splits into three facts about this one bin and the
    invariant of the rest, with `f` added to what run `c` carries. -/
theorem MinFreqInv.cons_iff (thr f : Rat) (zs : List (Rat × Nat)) (cur c : Nat) (sum : Rat)
    (hc : c = cur ∨ c = cur + 1) (hk : ∀ z ∈ zs, c ≤ z.2) :
    MinFreqInv thr ((f, c) :: zs) cur sum ↔
      ((c = cur + 1 → thr < sum ∨ (0 < sum ∧ thr ≤ f)) ∧
        (runOf zs c ≠ [] → carry cur sum c + f ≤ thr) ∧ (thr ≤ f → carry cur sum c ≤ 0)) ∧
      MinFreqInv thr zs c (carry cur sum c + f) := by
  have hcc : cur ≤ c := by omega
  -- run `j > c` and what it carries are the same on both sides
  have hgt : ∀ j, c < j → runOf ((f, c) :: zs) j = runOf zs j ∧ carry cur sum j = carry c (carry cur sum c + f) j :=
    fun j hj => ⟨runOf_cons_ne f zs (Nat.ne_of_lt hj),
      by rw [carry_ne _ (Nat.ne_of_gt (Nat.lt_of_le_of_lt hcc hj)), carry_ne _ (Nat.ne_of_gt hj)]⟩
  constructor
  · intro inv
    refine ⟨⟨?_, ?_, ?_⟩, ?_, ?_, ?_⟩
    · rintro rfl
      obtain ⟨L, hL, hcL⟩ : ∃ L, ((f, cur + 1) :: zs).getLast?.map (·.2) = some L ∧ cur + 1 ≤ L := by
        rw [List.getLast?_cons]
        cases hz : zs.getLast? with
        | none => exact ⟨_, rfl, Nat.le_refl _⟩
        | some w => exact ⟨_, rfl, hk w (List.mem_of_getLast? hz)⟩
      have := inv.full L hL cur (Nat.le_refl _) hcL
      rw [runOf_cons_ne f zs (Nat.succ_ne_self cur), runOf_eq_nil_of_lt zs (cur + 1) cur hk (Nat.lt_succ_self cur),
        runOf_cons_self, carry_self, List.sum_nil, add_zero] at this
      exact this.imp id fun ⟨h, g, hg, hle⟩ => ⟨h, by cases hg; exact hle⟩
    · intro hne
      have := inv.minimal c [f] (runOf zs c) hcc (runOf_cons_self f c zs) (List.cons_ne_nil f []) hne
      rwa [List.sum_cons, List.sum_nil, add_zero] at this
    · intro hf
      have := inv.high c [] f (runOf zs c) hcc (runOf_cons_self f c zs) hf
      rwa [List.sum_nil, add_zero] at this
    · intro L hL j hj hjL
      have := inv.full L ((getLast?_cons_snd f c zs L).mpr (Or.inr hL)) j (hcc.trans hj) hjL
      rw [runOf_cons_ne f zs (Nat.ne_of_lt (Nat.lt_succ_of_le hj))] at this
      rcases Nat.eq_or_lt_of_le hj with rfl | hlt
      · rwa [runOf_cons_self, List.sum_cons, ← add_assoc, ← carry_self c (carry cur sum c + f)] at this
      · rwa [(hgt j hlt).1, (hgt j hlt).2] at this
    · intro j p q hj hrun hp hq
      rcases Nat.eq_or_lt_of_le hj with rfl | hlt
      · have := inv.minimal c (f :: p) q hcc (by rw [runOf_cons_self, hrun]; rfl) (List.cons_ne_nil f p) hq
        rwa [List.sum_cons, ← add_assoc, ← carry_self c (carry cur sum c + f)] at this
      · rw [← (hgt j hlt).2]
        exact inv.minimal j p q (hcc.trans hj) (by rw [(hgt j hlt).1]; exact hrun) hp hq
    · intro j p g q hj hrun hg
      rcases Nat.eq_or_lt_of_le hj with rfl | hlt
      · have := inv.high c (f :: p) g q hcc (by rw [runOf_cons_self, hrun]; rfl) hg
        rwa [List.sum_cons, ← add_assoc, ← carry_self c (carry cur sum c + f)] at this
      · rw [← (hgt j hlt).2]
        exact inv.high j p g q (hcc.trans hj) (by rw [(hgt j hlt).1]; exact hrun) hg
  · rintro ⟨⟨h1, h2, h3⟩, inv⟩
    -- below `c` there is at most the open run `cur`, and it has no entry
    have hlt : ∀ j, cur ≤ j → j < c → j = cur ∧ c = cur + 1 ∧ runOf ((f, c) :: zs) j = [] := fun j hj hjc =>
      have : j = cur ∧ c = cur + 1 := by omega
      ⟨this.1, this.2, by rw [runOf_cons_ne f zs (Nat.ne_of_gt hjc), runOf_eq_nil_of_lt zs c j hk hjc]⟩
    refine ⟨?_, ?_, ?_⟩
    · intro L hL j hj hjL
      rcases Nat.lt_trichotomy j c with hjc | rfl | hjc
      · obtain ⟨rfl, rfl, hnil⟩ := hlt j hj hjc
        rw [hnil, runOf_cons_self, carry_self, List.sum_nil, add_zero]
        exact (h1 rfl).imp id fun ⟨h, hf⟩ => ⟨h, f, rfl, hf⟩
      · rcases (getLast?_cons_snd f j zs L).mp hL with ⟨_, rfl⟩ | hL'
        · exact absurd hjL (Nat.lt_irrefl _)
        · have := inv.full L hL' j (Nat.le_refl _) hjL
          rwa [carry_self, add_assoc, ← List.sum_cons, ← runOf_cons_self f j zs,
            ← runOf_cons_ne f zs (Nat.succ_ne_self j).symm] at this
      · rcases (getLast?_cons_snd f c zs L).mp hL with ⟨_, rfl⟩ | hL'
        · exact absurd hjL (Nat.lt_asymm hjc)
        · rw [(hgt j hjc).1, (hgt j hjc).2, runOf_cons_ne f zs (Nat.ne_of_lt (Nat.lt_succ_of_lt hjc))]
          exact inv.full L hL' j (Nat.le_of_lt hjc) hjL
    · intro j p q hj hrun hp hq
      rcases Nat.lt_trichotomy j c with hjc | rfl | hjc
      · rw [(hlt j hj hjc).2.2] at hrun
        exact absurd (List.append_eq_nil_iff.mp hrun.symm).1 hp
      · rw [runOf_cons_self] at hrun
        obtain ⟨p', rfl, hrun'⟩ : ∃ p', p = f :: p' ∧ runOf zs j = p' ++ q := by
          cases p with
          | nil => exact absurd rfl hp
          | cons x p' => obtain ⟨rfl, h⟩ := List.cons.inj hrun; exact ⟨p', rfl, h⟩
        rw [List.sum_cons, ← add_assoc]
        by_cases hp' : p' = []
        · subst hp'
          rw [List.sum_nil, add_zero]
          exact h2 (by rw [hrun', List.nil_append]; exact hq)
        · simpa only [carry_self] using inv.minimal j p' q (Nat.le_refl _) hrun' hp' hq
      · rw [(hgt j hjc).2]
        exact inv.minimal j p q (Nat.le_of_lt hjc) (by rw [← (hgt j hjc).1]; exact hrun) hp hq
    · intro j p g q hj hrun hg
      rcases Nat.lt_trichotomy j c with hjc | rfl | hjc
      · rw [(hlt j hj hjc).2.2] at hrun
        cases (List.append_eq_nil_iff.mp hrun.symm).2
      · rw [runOf_cons_self] at hrun
        cases p with
        | nil =>
          cases hrun
          rw [List.sum_nil, add_zero]
          exact h3 hg
        | cons x p' =>
          obtain ⟨rfl, hrun'⟩ := List.cons.inj hrun
          rw [List.sum_cons, ← add_assoc]
          simpa only [carry_self] using inv.high j p' g q (Nat.le_refl _) hrun' hg
      · rw [(hgt j hjc).2]
        exact inv.high j p g q (Nat.le_of_lt hjc) (by rw [← (hgt j hjc).1]; exact hrun) hg

theorem minFreqInv (thr : Rat) (fs : List Rat) : ∀ (cur : Nat) (sum : Rat),
    MinFreqInv thr (fs.zip (minFreqMapAux thr fs cur sum)) cur sum := by
  induction fs with
  | nil => exact MinFreqInv.nil thr
  | cons f fs ih =>
    intro cur sum
    obtain ⟨c1, c3, s1, s3, e, hA, hB⟩ := minFreqMapAux_cons thr f fs cur sum
    have hkeys : ∀ z ∈ fs.zip (minFreqMapAux thr fs c3 s3), c3 ≤ z.2 :=
      fun z hz => minFreqMapAux_ge thr fs c3 s3 z.2 (List.of_mem_zip hz).2
    have hs1 : carry cur sum c1 = s1 := by
      rcases hA with ⟨rfl, rfl, _⟩ | ⟨rfl, rfl, _⟩
      · exact carry_self ..
      · exact carry_ne _ (by omega)
    rw [e, List.zip_cons_cons, MinFreqInv.cons_iff thr f _ cur c1 sum (by rcases hA with h | h <;> omega)
      (fun z hz => by have := hkeys z hz; rcases hB with h | h <;> omega), hs1]
    refine ⟨⟨?_, ?_, ?_⟩, ?_⟩
    · intro hc
      rcases hA with ⟨h1, _, _⟩ | ⟨_, _, hf, hs⟩
      · omega
      · exact Or.inr ⟨hs, hf⟩
    · intro hne
      rcases hB with ⟨h1, _, _⟩ | ⟨_, _, h3⟩
      · exact absurd (runOf_eq_nil_of_lt _ c3 c1 hkeys (by omega)) hne
      · exact not_lt.mp h3
    · intro hf
      rcases hA with ⟨_, rfl, h3⟩ | ⟨_, rfl, _⟩
      · exact not_lt.mp fun hs => h3 ⟨hf, hs⟩
      · exact le_refl _
    · rcases hB with ⟨rfl, rfl, h3⟩ | ⟨rfl, rfl, _⟩
      · exact (ih _ _).extend hkeys h3
      · exact ih _ _

/-- from run 0 on with nothing carried, the invariant speaks of the runs alone -/
theorem minFreqInv_zero_iff (thr : Rat) (freq : List Rat) (m : List Nat) (hl : m.length = freq.length) :
    MinFreqInv thr (freq.zip m) 0 0 ↔
      (∀ j, j + 1 < newCount m →
        thr < (runOf (freq.zip m) j).sum ∨
        (0 < (runOf (freq.zip m) j).sum ∧ ∃ g, (runOf (freq.zip m) (j + 1)).head? = some g ∧ thr ≤ g)) ∧
      (∀ j p q, runOf (freq.zip m) j = p ++ q → p ≠ [] → q ≠ [] → p.sum ≤ thr) ∧
      (∀ j p g q, runOf (freq.zip m) j = p ++ g :: q → thr ≤ g → p.sum ≤ 0) := by
  have hlast : (freq.zip m).getLast?.map (·.2) = m.getLast? := by
    rw [← List.getLast?_map, List.map_snd_zip hl.le]
  constructor
  · intro inv
    refine ⟨fun j hj => ?_, fun j p q => by simpa only [carry_zero, zero_add] using inv.minimal j p q (Nat.zero_le _),
      fun j p g q => by simpa only [carry_zero, zero_add] using inv.high j p g q (Nat.zero_le _)⟩
    cases hL : m.getLast? with
    | none => simp [newCount, hL] at hj
    | some L =>
      simpa only [carry_zero, zero_add] using
        inv.full L (hlast.trans hL) j (Nat.zero_le _) (by simpa [newCount, hL] using hj)
  · rintro ⟨hG, hM, hH⟩
    refine ⟨fun L hL j _ hjL => ?_, fun j p q _ => by simpa only [carry_zero, zero_add] using hM j p q,
      fun j p g q _ => by simpa only [carry_zero, zero_add] using hH j p g q⟩
    rw [hlast] at hL
    simpa only [carry_zero, zero_add] using hG j (by simpa [newCount, hL] using hjL)

/-! ## the `amount` map is a step chain; 1-D histograms -/

theorem map_div_range'_stepChain (a : Nat) : ∀ n s, StepChain (s / a) ((List.range' s n).map (· / a))
  | 0, _ => trivial
  | n + 1, s => ⟨Or.inl rfl, stepChain_of_head _ _ _ (map_div_range'_stepChain a n (s + 1)) fun x hx => by
      cases n with
      | zero => cases hx
      | succ n =>
        cases hx
        show (s + 1) / a = s / a ∨ (s + 1) / a = s / a + 1
        rw [Nat.succ_div]
        split <;> simp⟩

theorem amountMap_stepChain (n amount : Nat) : IsBinMap n (amountMap n amount) := by
  refine ⟨by simp [amountMap], ?_, ?_⟩
  · have := map_div_range'_stepChain amount n 0
    rwa [Nat.zero_div, ← List.range_eq_range'] at this
  · intro x hx
    cases n with
    | zero => cases hx
    | succ n => simp [amountMap, List.range_succ_eq_map] at hx; exact hx.symm

theorem mapRunsMeet_amount (bins : Bins) (amount : Nat) :
    MapRunsMeet bins (amountMap bins.length amount) ↔ RunsMeet bins amount := by
  constructor
  · intro h k hk he
    rw [binAt_eq bins k (by omega), binAt_eq bins (k + 1) hk]
    apply h k _ _ (k / amount) (List.getElem?_eq_getElem (by omega)) (List.getElem?_eq_getElem hk)
    · simp only [amountMap, List.getElem?_map, List.getElem?_range (show k < bins.length by omega), Option.map_some]
    · simp only [amountMap, List.getElem?_map, List.getElem?_range hk, Option.map_some, he]
  · intro h k b c m hb hc hm hm'
    obtain ⟨hkb, rfl⟩ := List.getElem?_eq_some_iff.mp hb
    obtain ⟨hkc, rfl⟩ := List.getElem?_eq_some_iff.mp hc
    have := h k hkc (by
      simp only [amountMap, List.getElem?_map, List.getElem?_range hkb, List.getElem?_range hkc, Option.map_some,
        Option.some.injEq] at hm hm'
      omega)
    rwa [binAt_eq bins k hkb, binAt_eq bins (k + 1) hkc] at this

theorem newCount_amountMap (n a : Nat) (ha : 0 < a) : newCount (amountMap n a) = (n + a - 1) / a := by
  cases n with
  | zero => exact (Nat.div_eq_of_lt (by omega)).symm
  | succ m =>
    simp only [newCount, amountMap, List.range_succ, List.map_append, List.map_cons, List.map_nil,
      List.getLast?_concat, Option.map_some, Option.getD_some]
    exact (ceilDiv_eq (m + 1) a (Nat.succ_pos m) ha).symm

/-- run `j` of the `amount` map: the old bins `j * a, j * a + 1, …` below `(j + 1) * a` -/
theorem runOf_amountMap (bins : Bins) (a j : Nat) (ha : 0 < a) :
    runOf (bins.zip (amountMap bins.length a)) j
      = (List.range' (j * a) (min ((j + 1) * a) bins.length - j * a)).map (binAt bins) := by
  have hz : bins.zip (amountMap bins.length a) = (List.range bins.length).map fun k => (binAt bins k, k / a) :=
    List.ext_getElem (by simp [amountMap]) fun k _ h2 => by
      have hk : k < bins.length := by simpa using h2
      simp only [amountMap, List.getElem_zip, List.getElem_map, List.getElem_range, binAt_eq bins k hk]
  rw [runOf, hz, List.filter_map, List.map_map, ← filter_range_div a j ha]
  rfl

/-- for the `amount` map the run-wise description and the arithmetic one (`mergedBins`) agree -/
theorem mergedByMap_amount (bins : Bins) (amount : Nat) (ha : 0 < amount) :
    mergedByMap bins (amountMap bins.length amount) = mergedBins bins amount := by
  rw [mergedByMap, mergedBins, newCount_amountMap _ _ ha]
  refine List.map_congr_left fun j hj => ?_
  have hj' : j * amount < bins.length := by
    have := (Nat.le_div_iff_mul_le ha).mp (List.mem_range.mp hj)
    rw [Nat.succ_mul] at this
    omega
  obtain ⟨d, hd⟩ : ∃ d, min ((j + 1) * amount) bins.length - j * amount = d + 1 :=
    ⟨min ((j + 1) * amount) bins.length - j * amount - 1, by rw [Nat.succ_mul]; omega⟩
  rw [runOf_amountMap bins amount j ha, hd, List.range'_succ, List.map_cons, spanOf_cons, List.getLast?_map,
    List.getLast?_range', show min ((j + 1) * amount) bins.length - 1 = j * amount + d by omega]
  cases d with
  | zero => rfl
  | succ d =>
    rw [if_neg (Nat.succ_ne_zero d), Option.map_some, Option.getD_some,
      show j * amount + 1 + (d + 1) - 1 = j * amount + (d + 1) by omega]

/-- **merge_bins(amount) on the bins.**  If the bins of each run of `amount` adjacent bins meet,
    the merge is accepted and produces exactly `mergedBins`: `⌈n / amount⌉` bins, new bin `j` reaching
    from the left edge of old bin `j * amount` to the right edge of old bin
    `min ((j + 1) * amount) n - 1`. -/
theorem mergeBinsAux_amount (bins : Bins) (amount : Nat) (ha : 0 < amount) (hc : RunsMeet bins amount) :
    mergeBinsAux (bins.zip (amountMap bins.length amount)) none = .ok (mergedBins bins amount) := by
  rw [← mergedByMap_amount bins amount ha]
  exact (mergeBinsAux_stepChain bins _ (amountMap_stepChain _ amount)).1 ((mapRunsMeet_amount bins amount).mpr hc)

/-- **`merge_bins` of a 1-D histogram with a step-chain bin map** (one entry per bin, starting at
    0): accepted iff no run has a gap inside.  Then the bins are `mergedByMap`, contents and squared
    errors are the run sums, the right-edge flag and everything else is kept. -/
theorem H1.mergeWithMap_stepChain (fo : FloatOps) (h : H1) (map : List Nat) (hne : map ≠ [])
    (hbm : IsBinMap (h.bins fo).length map) :
    (MapRunsMeet (h.bins fo) map → h.mergeWithMap fo map = .ok
      { h with binning := .static (mergedByMap (h.bins fo) map) h.binning.ire,
               freq := mergeVals h.freq map (newCount map), err2 := mergeVals h.err2 map (newCount map) }) ∧
    (¬ MapRunsMeet (h.bins fo) map → h.mergeWithMap fo map = .error "merging non-consecutive bins") := by
  obtain ⟨h1, h2⟩ := mergeBinsAux_stepChain (h.bins fo) map hbm
  rw [H1.mergeWithMap_eq fo h map hne]
  constructor
  · intro hm
    rw [h1 hm, Except.map, ire_mergedByMap _ _ hbm.1, mergedByMap_length]
  · intro hm
    rw [h2 hm]
    rfl

/-! ## merging two different axes commutes -/

theorem Arr.gather_get_set (a : Arr) (i j Ni : Nat) (si : Nat → List Nat) (idx : List Nat) (l : Nat)
    (hij : i ≠ j) (hi : i < idx.length → idx[i]?.getD 0 < Ni) :
    (a.gather i Ni si).get (Arr.setAt idx j l)
      = ((si (idx[i]?.getD 0)).map fun k => a.get (Arr.setAt (Arr.setAt idx j l) i k)).sum := by
  rw [Arr.get_gather_of_lt a i Ni si _ (by simpa [List.getElem?_set_ne hij.symm] using hi)]
  simp only [Arr.setAt_eq, List.getElem?_set_ne hij.symm]

/-- **Gathering along two different axes commutes** (full equality of arrays, any shape). -/
theorem Arr.gather_comm (a : Arr) (i j Ni Nj : Nat) (si sj : Nat → List Nat) (hij : i ≠ j) :
    (a.gather i Ni si).gather j Nj sj = (a.gather j Nj sj).gather i Ni si := by
  have hs : Arr.setAt (Arr.setAt a.shape i Ni) j Nj = Arr.setAt (Arr.setAt a.shape j Nj) i Ni := by
    simp only [Arr.setAt]; exact List.set_comm _ _ hij
  show Arr.ofFn (Arr.setAt (Arr.setAt a.shape i Ni) j Nj) _ = Arr.ofFn (Arr.setAt (Arr.setAt a.shape j Nj) i Ni) _
  rw [← hs]
  apply Arr.ofFn_congr_valid
  intro idx hv
  have e1 : ∀ l, (a.gather i Ni si).get (Arr.setAt idx j l) = _ := fun l =>
    Arr.gather_get_set a i j Ni si idx l hij (validIdx_setAt_lt _ idx i Ni (hs ▸ hv))
  have e2 : ∀ k, (a.gather j Nj sj).get (Arr.setAt idx i k) = _ := fun k =>
    Arr.gather_get_set a j i Nj sj idx k hij.symm (validIdx_setAt_lt _ idx j Nj hv)
  simp only [e1, e2]
  rw [sum_map_comm]
  apply congrArg List.sum
  apply List.map_congr_left
  intro k _
  apply congrArg List.sum
  apply List.map_congr_left
  intro l _
  simp only [Arr.setAt]
  rw [List.set_comm _ _ hij]

/-! ## `merge_bins(axis=None)`: all axes, one after the other -/

/-- a loop over `i, i+1, …, n-1` that may stop with an error: it either ends in a state with `P n`,
    or stops with the error of a step taken from a state with the invariant -/
theorem foldlM_range'_run {α} (P : Nat → α → Prop) (f : α → Nat → R α) (n : Nat)
    (hstep : ∀ i a a', i < n → P i a → f a i = .ok a' → P (i + 1) a') :
    ∀ k i a, i + k = n → P i a →
      match (List.range' i k).foldlM f a with
      | .ok r => P n r
      | .error e => ∃ i0 a0, i0 < n ∧ P i0 a0 ∧ f a0 i0 = .error e := by
  intro k
  induction k with
  | zero =>
    intro i a hik hP
    rw [Nat.add_zero] at hik
    subst hik
    exact hP
  | succ k ih =>
    intro i a hik hP
    rw [List.range'_succ, List.foldlM_cons]
    cases hf : f a i with
    | error e => exact ⟨i, a, by omega, hP, hf⟩
    | ok a' => exact ih (i + 1) a' (by omega) (hstep i a a' (by omega) hP hf)

theorem foldlM_range'_inv {α} (P : Nat → α → Prop) (f : α → Nat → R α) (n : Nat) (a r : α)
    (hstep : ∀ i a a', i < n → P i a → f a i = .ok a' → P (i + 1) a') (h0 : P 0 a)
    (hr : (List.range' 0 n).foldlM f a = .ok r) : P n r := by
  have := foldlM_range'_run P f n hstep n 0 a (Nat.zero_add n) h0
  rwa [hr] at this

theorem foldlM_range'_ok {α} (P : Nat → α → Prop) (f : α → Nat → R α) (n : Nat) (a : α)
    (hstep : ∀ i a a', i < n → P i a → f a i = .ok a' → P (i + 1) a') (h0 : P 0 a)
    (hok : ∀ i a, i < n → P i a → ∃ a', f a i = .ok a') : ∃ r, (List.range' 0 n).foldlM f a = .ok r := by
  have := foldlM_range'_run P f n hstep n 0 a (Nat.zero_add n) h0
  cases h : (List.range' 0 n).foldlM f a with
  | ok r => exact ⟨r, rfl⟩
  | error e =>
    rw [h] at this
    obtain ⟨i0, a0, hi0, hP, he⟩ := this
    obtain ⟨a', ha'⟩ := hok i0 a0 hi0 hP
    rw [ha'] at he
    cases he

/-- the bin map `merge_bins` uses on one axis: by amount, or by `min_frequency` on the marginal -/
def HN.axisMap (h : HN) (axis : Nat) (amount : Option Nat) (thr : Option Rat) : List Nat :=
  match amount, thr with
  | some a, _ => amountMap (h.freq.shape[axis]?.getD 0) a
  | none, some t =>
    minFreqMap t (h.freq.sumAxes (((List.range h.axes.length).filter (· != axis)).reverse)).data
  | none, none => []

/-- a usable way of calling `merge_bins`: a positive amount, or (without amount) a `min_frequency` -/
def MergeMode (amount : Option Nat) (thr : Option Rat) : Prop :=
  (∃ a, amount = some a ∧ 0 < a) ∨ (amount = none ∧ ∃ t, thr = some t)

theorem HN.mergeAxis_eq (fo : FloatOps) (h : HN) (axis : Nat) (amount : Option Nat) (thr : Option Rat)
    (hm : MergeMode amount thr) :
    h.mergeAxis fo axis amount thr = h.mergeAxisWithMap fo axis (h.axisMap axis amount thr) := by
  rcases hm with ⟨a, rfl, ha⟩ | ⟨rfl, t, rfl⟩
  · have : ¬ a = 0 := by omega
    simp only [HN.mergeAxis, HN.axisMap, this, if_false]
  · simp only [HN.mergeAxis, HN.axisMap]

theorem HN.mergeAxis_badMode (fo : FloatOps) (h : HN) (axis : Nat) (amount : Option Nat) (thr : Option Rat)
    (hm : ¬ MergeMode amount thr) : ∃ e, h.mergeAxis fo axis amount thr = .error e := by
  unfold MergeMode at hm
  cases amount with
  | some a =>
    have : a = 0 := by
      by_contra h0
      exact hm (Or.inl ⟨a, rfl, by omega⟩)
    subst this
    exact ⟨_, by simp only [HN.mergeAxis, if_true, throw, throwThe, MonadExceptOf.throw]; rfl⟩
  | none =>
    cases thr with
    | some t => exact absurd (Or.inr ⟨rfl, t, rfl⟩) hm
    | none => exact ⟨_, rfl⟩

/-- `merge_bins` on an existing axis with a non-empty bin map: whatever `apply_bin_map` says about
    the bins of that axis, and then contents and squared errors merged along it -/
theorem HN.mergeAxisWithMap_eq (fo : FloatOps) (h : HN) (axis : Nat) (map : List Nat) (bn : Binning)
    (hne : map ≠ []) (hbn : h.axes[axis]? = some bn) :
    h.mergeAxisWithMap fo axis map = (mergeBinsAux ((bn.bins fo).zip map) none).map fun newBins =>
      { h with
        axes := h.axes.set axis (.static newBins
          (bn.ire && (newBins.getLast?.map (·.2) == (bn.bins fo).getLast?.map (·.2)))),
        freq := h.freq.mergeAxis axis map newBins.length,
        err2 := h.err2.mergeAxis axis map newBins.length } := by
  cases map with
  | nil => exact absurd rfl hne
  | cons m ms =>
    simp only [HN.mergeAxisWithMap, List.isEmpty_cons, Bool.false_eq_true, if_false, hbn, bind, Except.bind, pure,
      Except.pure]
    cases mergeBinsAux ((bn.bins fo).zip (m :: ms)) none <;> rfl

theorem HN.mergeAxisWithMap_ok_iff (fo : FloatOps) (h r : HN) (axis : Nat) (map : List Nat) :
    h.mergeAxisWithMap fo axis map = .ok r ↔
      ∃ bn newBins, map ≠ [] ∧ h.axes[axis]? = some bn ∧
        mergeBinsAux ((bn.bins fo).zip map) none = .ok newBins ∧
        r = { h with
          axes := h.axes.set axis (.static newBins
            (bn.ire && (newBins.getLast?.map (·.2) == (bn.bins fo).getLast?.map (·.2)))),
          freq := h.freq.mergeAxis axis map newBins.length,
          err2 := h.err2.mergeAxis axis map newBins.length } := by
  constructor
  · intro hr
    cases map with
    | nil => cases hr
    | cons m ms =>
      cases hbn : h.axes[axis]? with
      | none => simp [HN.mergeAxisWithMap, hbn, throw, throwThe, MonadExceptOf.throw] at hr
      | some bn =>
        rw [HN.mergeAxisWithMap_eq fo h axis _ bn (List.cons_ne_nil m ms) hbn] at hr
        cases hnb : mergeBinsAux ((bn.bins fo).zip (m :: ms)) none with
        | error e => rw [hnb] at hr; cases hr
        | ok nb => rw [hnb] at hr; cases hr; exact ⟨bn, nb, List.cons_ne_nil m ms, rfl, hnb, rfl⟩
  · rintro ⟨bn, nb, hne, hbn, hnb, rfl⟩
    rw [HN.mergeAxisWithMap_eq fo h axis map bn hne hbn, hnb]
    rfl

/-- the marginal of an array with `n` axes along axis `k`, as `merge_bins` computes it: all other
    axes summed away, highest first -/
def Arr.marginal (a : Arr) (n k : Nat) : Arr := a.sumAxes (((List.range n).filter (· != k)).reverse)

theorem Arr.marginal_eq_dropList (a : Arr) (n k : Nat) :
    a.marginal n k = a.sumAxes (dropList n (fun i => i == k)) := rfl

theorem Arr.marginal_shape (a : Arr) (n k : Nat) (hn : a.shape.length = n) (hk : k < n) :
    (a.marginal n k).shape = [a.shape[k]?.getD 0] := by
  rw [Arr.marginal_eq_dropList, Arr.shape_sumAxes_dropList a _ n (by omega)]
  unfold keptOf
  rw [filter_range_beq n k hk, List.drop_eq_nil_of_le (by omega)]
  simp [List.getElem?_eq_getElem (show k < a.shape.length by omega)]

/-- the marginal `min_frequency` looks at has one entry per bin of the axis -/
theorem marginal_length (a : Arr) (hw : a.WellShaped) (n i : Nat) (hn : a.shape.length = n) (hi : i < n) :
    (a.sumAxes (((List.range n).filter (· != i)).reverse)).data.length = a.shape[i]?.getD 0 := by
  have hws : (a.marginal n i).WellShaped := Arr.wellShaped_sumAxes a hw _
  rw [Arr.WellShaped, Arr.marginal_shape a n i hn hi] at hws
  exact hws.trans (by simp [prodL])

/-- the state of `merge_bins(axis=None)` after the axes below `i` have been merged -/
structure MergedUpTo (fo : FloatOps) (amount : Option Nat) (h : HN) (i : Nat) (g : HN) : Prop where
  len : g.axes.length = h.axes.length
  rest : ∀ k, i ≤ k → g.axes[k]? = h.axes[k]?
  done : ∀ k bn, k < i → h.axes[k]? = some bn → ∃ map,
    StepChain 0 map ∧ (∀ x, map.head? = some x → x = 0) ∧ map.length = (bn.bins fo).length ∧
    MapRunsMeet (bn.bins fo) map ∧ (∀ a, amount = some a → map = amountMap (bn.bins fo).length a) ∧
    g.axes[k]? = some (.static (mergedByMap (bn.bins fo) map) bn.ire)
  fshape : g.freq.shape = g.shape fo
  eshape : g.err2.shape = g.shape fo
  fws : g.freq.WellShaped
  ews : g.err2.WellShaped
  ftot : g.freq.total = h.freq.total
  etot : g.err2.total = h.err2.total
  missed : g.missed = h.missed
  names : g.names = h.names
  dtype : g.dtype = h.dtype
  keep : g.keep = h.keep

theorem HN.axisMap_stepChain (fo : FloatOps) (g : HN) (i : Nat) (bn : Binning) (amount : Option Nat) (thr : Option Rat)
    (hm : MergeMode amount thr) (hbn : g.axes[i]? = some bn) (hfs : g.freq.shape = g.shape fo)
    (hws : g.freq.WellShaped) :
    IsBinMap (bn.bins fo).length (g.axisMap i amount thr) ∧
    (∀ a, amount = some a → g.axisMap i amount thr = amountMap (bn.bins fo).length a) := by
  have hi : i < g.axes.length := (List.getElem?_eq_some_iff.mp hbn).1
  have hsh : g.freq.shape[i]?.getD 0 = (bn.bins fo).length := by rw [hfs, HN.shape_getElem? fo g i bn hbn]; rfl
  rcases hm with ⟨a, rfl, ha⟩ | ⟨rfl, t, rfl⟩
  · simp only [HN.axisMap, hsh]
    exact ⟨amountMap_stepChain _ a, fun a' h => by cases h; rfl⟩
  · simp only [HN.axisMap]
    obtain ⟨h1, h2, h3⟩ := C10_minfreq t (g.freq.sumAxes (((List.range g.axes.length).filter (· != i)).reverse)).data
    refine ⟨⟨?_, h1, h3⟩, fun a h => by cases h⟩
    rw [h2, marginal_length g.freq hws g.axes.length i (by rw [hfs]; simp [HN.shape]) hi, hsh]

/-- **`merge_bins` on one axis, accepted or not.**  On a histogram whose contents have the shape of
    its binnings the call is accepted iff it is called in a usable way, the axis exists and has a
    bin, and no run of its bin map has a gap inside; the result then has `mergedByMap` on that
    axis, the old right-edge flag, and contents and squared errors merged along it. -/
theorem HN.mergeAxis_ok_iff (fo : FloatOps) (g g' : HN) (i : Nat) (amount : Option Nat) (thr : Option Rat)
    (hfs : g.freq.shape = g.shape fo) (hws : g.freq.WellShaped) :
    g.mergeAxis fo i amount thr = .ok g' ↔
      MergeMode amount thr ∧ ∃ bn, g.axes[i]? = some bn ∧ 0 < (bn.bins fo).length ∧
        MapRunsMeet (bn.bins fo) (g.axisMap i amount thr) ∧
        g' = { g with
          axes := g.axes.set i (.static (mergedByMap (bn.bins fo) (g.axisMap i amount thr)) bn.ire),
          freq := g.freq.mergeAxis i (g.axisMap i amount thr) (newCount (g.axisMap i amount thr)),
          err2 := g.err2.mergeAxis i (g.axisMap i amount thr) (newCount (g.axisMap i amount thr)) } := by
  by_cases hm : MergeMode amount thr
  swap
  · obtain ⟨e, he⟩ := HN.mergeAxis_badMode fo g i amount thr hm
    rw [he]
    exact ⟨fun h => (nomatch h), fun h => absurd h.1 hm⟩
  rw [HN.mergeAxis_eq fo g i amount thr hm, HN.mergeAxisWithMap_ok_iff]
  constructor
  · rintro ⟨bn, nb, hne, hbn, hnb, rfl⟩
    obtain ⟨hbm, _⟩ := HN.axisMap_stepChain fo g i bn amount thr hm hbn hfs hws
    generalize g.axisMap i amount thr = map at *
    have hmeet : MapRunsMeet (bn.bins fo) map := (mergeBinsAux_ok_iff _ _).mp ⟨nb, hnb⟩
    obtain rfl : nb = mergedByMap (bn.bins fo) map :=
      Except.ok.inj (hnb.symm.trans ((mergeBinsAux_stepChain _ map hbm).1 hmeet))
    refine ⟨hm, bn, hbn, ?_, hmeet, ?_⟩
    · rw [← hbm.1]; exact List.length_pos_iff.mpr hne
    · rw [ire_mergedByMap _ _ hbm.1, mergedByMap_length]
  · rintro ⟨_, bn, hbn, hpos, hmeet, rfl⟩
    obtain ⟨hbm, _⟩ := HN.axisMap_stepChain fo g i bn amount thr hm hbn hfs hws
    generalize g.axisMap i amount thr = map at *
    refine ⟨bn, _, List.length_pos_iff.mp (by rw [hbm.1]; exact hpos), hbn, (mergeBinsAux_stepChain _ map hbm).1 hmeet, ?_⟩
    rw [ire_mergedByMap _ _ hbm.1, mergedByMap_length]

theorem MergedUpTo.step (fo : FloatOps) (amount : Option Nat) (thr : Option Rat) (h g g' : HN) (i : Nat)
    (hi : i < h.axes.length) (inv : MergedUpTo fo amount h i g) (hr : g.mergeAxis fo i amount thr = .ok g') :
    MergedUpTo fo amount h (i + 1) g' := by
  obtain ⟨hm, bn, hbn, _, hmeet, rfl⟩ := (HN.mergeAxis_ok_iff fo g g' i amount thr inv.fshape inv.fws).mp hr
  obtain ⟨⟨hl, hc, h0⟩, hamt⟩ := HN.axisMap_stepChain fo g i bn amount thr hm hbn inv.fshape inv.fws
  generalize g.axisMap i amount thr = map at *
  have hig : i < g.axes.length := by rw [inv.len]; exact hi
  have hlt := stepChain_lt_newCount map hc
  -- an array with the shape of `g`: axis `i` has one entry per old bin; merged along `i` it has the new shape
  have hshape : ∀ s : List Nat, s = g.shape fo → s[i]?.getD 0 = (bn.bins fo).length ∧ i < s.length ∧
      Arr.setAt s i (newCount map)
        = (g.axes.set i (.static (mergedByMap (bn.bins fo) map) bn.ire)).map fun b => (b.bins fo).length := by
    rintro s rfl
    refine ⟨by rw [HN.shape_getElem? fo g i bn hbn]; rfl, by rw [HN.shape, List.length_map]; exact hig, ?_⟩
    rw [HN.shape_set, ← mergedByMap_length (bn.bins fo) map]
    rfl
  obtain ⟨hf1, hf2, hf3⟩ := hshape _ inv.fshape
  obtain ⟨he1, he2, he3⟩ := hshape _ inv.eshape
  refine ⟨(List.length_set ..).trans inv.len, fun k hk => (List.getElem?_set_ne (by omega)).trans (inv.rest k (by omega)),
    ?_, hf3, he3, Arr.wellShaped_gather _ _ _ _, Arr.wellShaped_gather _ _ _ _,
    (Arr.total_mergeAxis' g.freq inv.fws i map _ hf2 (hl.trans hf1.symm) hlt).trans inv.ftot,
    (Arr.total_mergeAxis' g.err2 inv.ews i map _ he2 (hl.trans he1.symm) hlt).trans inv.etot,
    inv.missed, inv.names, inv.dtype, inv.keep⟩
  intro k bn' hk hbn'
  rcases Nat.lt_succ_iff_lt_or_eq.mp hk with hk' | rfl
  · obtain ⟨m, h1, h2, h3, h4, h5, h6⟩ := inv.done k bn' hk' hbn'
    exact ⟨m, h1, h2, h3, h4, h5, (List.getElem?_set_ne (by omega)).trans h6⟩
  · obtain rfl : bn = bn' := Option.some.inj (hbn.symm.trans ((inv.rest k (Nat.le_refl _)).trans hbn'))
    exact ⟨map, hc, h0, hl, hmeet, hamt, List.getElem?_set_self hig⟩

theorem MergedUpTo.start (fo : FloatOps) (amount : Option Nat) (h : HN) (hfs : h.freq.shape = h.shape fo)
    (hes : h.err2.shape = h.shape fo) (hfw : h.freq.WellShaped) (hew : h.err2.WellShaped) :
    MergedUpTo fo amount h 0 h :=
  ⟨rfl, fun _ _ => rfl, fun k _ hk => absurd hk (Nat.not_lt_zero k), hfs, hes, hfw, hew, rfl, rfl, rfl, rfl, rfl, rfl⟩

theorem HN.mergeAll_eq (fo : FloatOps) (h : HN) (amount : Option Nat) (thr : Option Rat) :
    h.mergeAll fo amount thr
      = (List.range' 0 h.axes.length).foldlM (fun g i => g.mergeAxis fo i amount thr) h := by
  unfold HN.mergeAll
  rw [List.range_eq_range']

/-- **`merge_bins(axis=None)`, when accepted** (amount or `min_frequency`): every axis has been
    merged by a step-chain bin map of its own (for the `amount` form: the `amount` map), its new
    bins are `mergedByMap` of its old bins and it keeps its right-edge flag; totals of contents and
    squared errors, missed count, names, dtype are unchanged. -/
theorem HN.mergeAll_spec (fo : FloatOps) (h r : HN) (amount : Option Nat) (thr : Option Rat)
    (hfs : h.freq.shape = h.shape fo) (hes : h.err2.shape = h.shape fo)
    (hfw : h.freq.WellShaped) (hew : h.err2.WellShaped)
    (hr : h.mergeAll fo amount thr = .ok r) : MergedUpTo fo amount h h.axes.length r := by
  rw [HN.mergeAll_eq] at hr
  exact foldlM_range'_inv (MergedUpTo fo amount h) _ h.axes.length h r
    (fun i a a' hi hP hf => MergedUpTo.step fo amount thr h a a' i hi hP hf)
    (MergedUpTo.start fo amount h hfs hes hfw hew) hr

/-- **All-or-nothing**: if, after the axes below `i` have been merged, axis `i` is refused, the
    whole call is refused with that error and nothing is returned. -/
theorem HN.mergeAll_refused_at (fo : FloatOps) (h g : HN) (amount : Option Nat) (thr : Option Rat) (i : Nat) (e : String)
    (hi : i < h.axes.length)
    (hg : (List.range i).foldlM (fun g k => g.mergeAxis fo k amount thr) h = .ok g)
    (he : g.mergeAxis fo i amount thr = .error e) : h.mergeAll fo amount thr = .error e := by
  unfold HN.mergeAll
  have hsplit : List.range h.axes.length = List.range i ++ i :: List.range' (i + 1) (h.axes.length - (i + 1)) := by
    rw [List.range_eq_range', List.range_eq_range', ← List.range'_succ]
    have : h.axes.length = i + (h.axes.length - (i + 1) + 1) := by omega
    conv => lhs; rw [this]
    rw [← List.range'_append_1]
    simp
  rw [hsplit, List.foldlM_append]
  simp only [bind, Except.bind, hg, List.foldlM_cons, he]

/-- for the `amount` form the new bins of every axis are `mergedBins` -/
theorem HN.mergeAll_amount_bins (fo : FloatOps) (h r : HN) (a : Nat) (thr : Option Rat)
    (hfs : h.freq.shape = h.shape fo) (hes : h.err2.shape = h.shape fo)
    (hfw : h.freq.WellShaped) (hew : h.err2.WellShaped)
    (hr : h.mergeAll fo (some a) thr = .ok r) (k : Nat) (bn : Binning) (hbn : h.axes[k]? = some bn) :
    RunsMeet (bn.bins fo) a ∧ r.axes[k]? = some (.static (mergedBins (bn.bins fo) a) bn.ire) := by
  have hk : k < h.axes.length := (List.getElem?_eq_some_iff.mp hbn).1
  have ha : 0 < a := by
    by_contra h0
    have : a = 0 := by omega
    subst this
    obtain ⟨e, he⟩ := HN.mergeAxis_badMode fo h 0 (some 0) thr (by
      rintro (⟨a, h1, h2⟩ | ⟨h1, _⟩)
      · cases h1; omega
      · cases h1)
    rw [HN.mergeAll_refused_at fo h h (some 0) thr 0 e (by omega) rfl he] at hr
    cases hr
  obtain ⟨map, _, _, _, hmeet, hamt, hax⟩ := (HN.mergeAll_spec fo h r (some a) thr hfs hes hfw hew hr).done k bn hk hbn
  rw [hamt a rfl] at hmeet hax
  have hc := (mapRunsMeet_amount _ _).mp hmeet
  rw [mergedByMap_amount _ _ ha] at hax
  exact ⟨hc, hax⟩

/-! ## the three guarantees determine the `min_frequency` grouping -/

theorem minFreqInv_unique (thr : Rat) (fs : List Rat) : ∀ (ms : List Nat) (cur : Nat) (sum : Rat),
    ms.length = fs.length → StepChain cur ms →
    ((sum = 0 ∧ ∀ x, ms.head? = some x → x = cur) ∨ sum ≤ thr) →
    MinFreqInv thr (fs.zip ms) cur sum → ms = minFreqMapAux thr fs cur sum := by
  induction fs with
  | nil =>
    intro ms cur sum hl _ _ _
    rw [List.eq_nil_of_length_eq_zero hl]
    rfl
  | cons f fs ih =>
    intro ms cur sum hl hc hstate inv
    cases ms with
    | nil => cases hl
    | cons c ms' =>
      have hl' : ms'.length = fs.length := Nat.succ.inj hl
      obtain ⟨hcc, hc'⟩ := hc
      obtain ⟨c1, c3, s1, s3, e, hA, hB⟩ := minFreqMapAux_cons thr f fs cur sum
      obtain ⟨⟨h1, h2, h3⟩, inv'⟩ := (MinFreqInv.cons_iff thr f (fs.zip ms') cur c sum hcc
        (fun z hz => stepChain_ge ms' c hc' z.2 (List.of_mem_zip hz).2)).mp inv
      -- the first entry is the one the loop writes
      have hcc1 : c = c1 := by
        rcases hA with ⟨rfl, _, hno⟩ | ⟨rfl, _, hf, hs⟩
        · rcases hcc with hcc | hcc
          · exact hcc
          · rcases h1 hcc with hlt | ⟨hs, hf⟩
            · rcases hstate with ⟨rfl, hh⟩ | hle
              · have := hh c rfl; omega
              · exact absurd hlt (not_lt.mpr hle)
            · exact absurd ⟨hf, hs⟩ hno
        · rcases hcc with rfl | hcc
          · rw [carry_self] at h3
            exact absurd hs (not_lt.mpr (h3 hf))
          · exact hcc
      subst hcc1
      have hs1 : carry cur sum c = s1 := by
        rcases hA with ⟨rfl, rfl, _⟩ | ⟨rfl, rfl, _⟩
        · exact carry_self ..
        · exact carry_ne _ (by omega)
      rw [hs1] at h2 inv'
      rw [e]
      congr 1
      rcases hB with ⟨rfl, rfl, hlt⟩ | ⟨rfl, rfl, hnlt⟩
      · -- run `c` has just been closed: no further entry may go to it
        have hnext : ∀ x, ms'.head? = some x → x = c + 1 := by
          intro x hx
          have hmem : x ∈ ms' := List.mem_of_head? hx
          have hge := stepChain_ge ms' c hc' x hmem
          have hne : x ≠ c := fun ex => by
            subst ex
            exact absurd (h2 (runOf_zip_ne_nil fs ms' hl' x hmem)) (not_le.mpr hlt)
          cases ms' with
          | nil => cases hx
          | cons d ms'' => cases hx; rcases hc'.1 with hd | hd <;> omega
        refine ih ms' (c + 1) 0 hl' ?_ (Or.inl ⟨rfl, hnext⟩) (inv'.restrict (Nat.lt_succ_self c))
        cases ms' with
        | nil => trivial
        | cons d ms'' => exact ⟨Or.inl (hnext d rfl), hc'.2⟩
      · exact ih ms' _ _ hl' hc' (Or.inr (not_lt.mp hnlt)) inv'

/-! ## acceptance, run by run -/

theorem isChain_cons_head {α} (R : α → α → Prop) (a : α) (l : List α) :
    List.IsChain R (a :: l) ↔ (∀ y, l.head? = some y → R a y) ∧ List.IsChain R l := by
  cases l with
  | nil => simp
  | cons b l' => simp [List.isChain_cons_cons]

theorem isChain_meet_iff_runs (zs : List (Bin × Nat)) (hs : (zs.map (·.2)).Pairwise (· ≤ ·)) :
    List.IsChain MeetIfSame zs ↔ ∀ j, consecutiveB (runOf zs j) = true := by
  simp only [consecutiveB_iff_isChain]
  induction zs with
  | nil => simp [runOf]
  | cons z rest ih =>
    simp only [List.map_cons, List.pairwise_cons] at hs
    rw [isChain_cons_head, ih hs.2]
    have hhead : (∀ y, rest.head? = some y → MeetIfSame z y) ↔
        (∀ y, (runOf rest z.2).head? = some y → z.1.2 = y.1) := by
      cases rest with
      | nil => simp [runOf]
      | cons y rest' =>
        simp only [List.head?_cons, Option.some.injEq, forall_eq', MeetIfSame]
        by_cases e : y.2 = z.2
        · rw [runOf_cons, if_pos e]
          simp [e]
        · have hy := hs.1 y.2 (List.mem_map.mpr ⟨y, List.mem_cons_self .., rfl⟩)
          rw [runOf_eq_nil_of_lt (y :: rest') y.2 z.2 (fun w hw => by
            rcases List.mem_cons.mp hw with rfl | hw'
            · exact Nat.le_refl _
            · exact (List.pairwise_cons.mp hs.2).1 w.2 (List.mem_map.mpr ⟨w, hw', rfl⟩)) (by omega)]
          simp only [List.head?_nil, reduceCtorEq, false_implies, implies_true, iff_true]
          intro h; exact absurd h.symm e
    rw [hhead]
    constructor
    · rintro ⟨h1, h2⟩ j
      rw [runOf_cons]
      by_cases e : z.2 = j
      · subst e
        rw [if_pos rfl, isChain_cons_head]
        exact ⟨h1, h2 _⟩
      · rw [if_neg e]; exact h2 j
    · intro h
      have hz := h z.2
      rw [runOf_cons, if_pos rfl, isChain_cons_head] at hz
      refine ⟨hz.1, ?_⟩
      intro j
      have hj := h j
      rw [runOf_cons] at hj
      by_cases e : z.2 = j
      · subst e; exact hz.2
      · rwa [if_neg e] at hj

/-- **Acceptance, run by run**: for a step-chain bin map, no run has an inner gap iff every run is
    a consecutive binning (`is_consecutive`). -/
theorem mapRunsMeet_iff_runs (bins : Bins) (map : List Nat) (hl : map.length = bins.length) (hc : StepChain 0 map) :
    MapRunsMeet bins map ↔ ∀ j, consecutiveB (runOf (bins.zip map) j) = true := by
  rw [← isChain_zip_iff]
  apply isChain_meet_iff_runs
  rw [List.map_snd_zip (by omega)]
  exact stepChain_sorted map 0 hc

/-! ## the `amount` map of an axis looks at the length of that axis only -/

theorem HN.axisMap_amount_congr (h g : HN) (j a : Nat) (thr : Option Rat)
    (hs : g.freq.shape[j]? = h.freq.shape[j]?) : g.axisMap j (some a) thr = h.axisMap j (some a) thr := by
  simp only [HN.axisMap, hs]

end Physt
