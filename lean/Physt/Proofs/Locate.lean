import Physt.Model.Grid
import Mathlib.Algebra.Order.Ring.Rat
import Mathlib.Tactic.Linarith
/-! `_find_grid_index` as it is since physt's fix: 454a31e (the estimate is corrected against the edges
    really produced): right for ANY strictly increasing edge function and ANY estimate. -/
namespace Physt
namespace Grid

variable (edge : Int → Rat) (v : Rat)

theorem walkDown_le (hmono : StrictMono edge) (k : Int) (hk : edge k ≤ v) (n : Nat) (c : Int) (hc : c ≤ k) :
    walkDown edge v n c = c := by
  cases n with
  | zero => rfl
  | succ n => simp [walkDown, not_lt.mpr ((hmono.monotone hc).trans hk)]

theorem walkUp_stop (k : Int) (hk : v < edge (k + 1)) (n : Nat) : walkUp edge v n k = k := by
  cases n with
  | zero => rfl
  | succ n => simp [walkUp, not_le.mpr hk]

theorem walkDown_ge (hmono : StrictMono edge) (k : Int) (hk : edge k ≤ v ∧ v < edge (k + 1)) (n : Nat) (c : Int)
    (hc : k ≤ c) (hn : (c - k).toNat ≤ n) : walkDown edge v n c = k := by
  induction n generalizing c with
  | zero =>
    have : c = k := by omega
    subst this; rfl
  | succ n ih =>
    rcases lt_or_eq_of_le hc with h | h
    · have h1 : v < edge c := lt_of_lt_of_le hk.2 (hmono.monotone h)
      have h2 : edge (c - 1) < edge c := hmono (by omega)
      simp only [walkDown, h1, h2, and_self, if_true]
      exact ih (c - 1) (by omega) (by omega)
    · subst h
      exact walkDown_le edge v hmono k hk.1 _ k (le_refl _)

theorem walkUp_le (hmono : StrictMono edge) (k : Int) (hk : edge k ≤ v ∧ v < edge (k + 1)) (n : Nat) (c : Int)
    (hc : c ≤ k) (hn : (k - c).toNat ≤ n) : walkUp edge v n c = k := by
  induction n generalizing c with
  | zero =>
    have : c = k := by omega
    subst this; rfl
  | succ n ih =>
    rcases lt_or_eq_of_le hc with h | h
    · have h1 : edge (c + 1) ≤ v := (hmono.monotone h).trans hk.1
      have h2 : edge c < edge (c + 1) := hmono (by omega)
      simp only [walkUp, h1, h2, and_self, if_true]
      exact ih (c + 1) (by omega) (by omega)
    · subst h
      exact walkUp_stop edge v c hk.2 _

/-- `_find_grid_index` returns THE cell of the value, whatever the (rounded) estimate was. -/
theorem locate_spec (hmono : ∀ a b : Int, a < b → edge a < edge b) (k est : Int) (fuel : Nat)
    (hk : edge k ≤ v ∧ v < edge (k + 1)) (hf : (est - k).natAbs ≤ fuel) :
    locate edge v fuel est = k := by
  have hs : StrictMono edge := fun _ _ h => hmono _ _ h
  unfold locate
  rcases le_or_gt est k with h | h
  · rw [walkDown_le edge v hs k hk.1 fuel est h]
    exact walkUp_le edge v hs k hk fuel est h (by omega)
  · rw [walkDown_ge edge v hs k hk fuel est (le_of_lt h) (by omega)]
    exact walkUp_stop edge v k hk.2 fuel

end Grid
end Physt
