import Physt.Theorems.C07
import Physt.Theorems.C11
import Physt.Proofs.MaskedEdges
import Physt.Proofs.Ops
import Physt.Model.Hist1D
import Mathlib.Algebra.Order.Floor.Ring
import Mathlib.Data.Rat.Floor
import Mathlib.Tactic.Linarith
import Mathlib.Tactic.Ring
import Mathlib.Tactic.FieldSimp
import Mathlib.Tactic.Positivity
import Mathlib.Analysis.SpecialFunctions.Pow.Real
import Mathlib.Analysis.SpecialFunctions.Log.Base
/-!
# Quantiles, the median, the representations of a binning, exponential edges

`quantile` (numpy's linear interpolation between order statistics) is the interpolant of the order
statistics, for every sorted non-empty list and every `0 ≤ q ≤ 1`: minimum / maximum, strict monotonicity on
distinct data, exactness at `k / (n - 1)`.  `medianOf` is the middle order statistic(s) of *any* sorted
permutation: the counting characterisation, invariance under permutation, `median = quantile 1/2`.
Then the pair, edge and masked-edge representations of a binning and their slices, regular and integer
bins, and (over `ℝ`, hence the import of `Analysis.SpecialFunctions`) the geometric sequence of exponential edges.
-/
namespace Physt

/-- the position `⌊x⌋` as a natural number, as `quantile` computes it -/
def floorNat (x : Rat) : Nat := x.floor.toNat

theorem floorNat_eq (x : Rat) : floorNat x = ⌊x⌋₊ := Int.floor_toNat x

theorem floorNat_le {x : Rat} (hx : 0 ≤ x) : (floorNat x : Rat) ≤ x := by
  rw [floorNat_eq]; exact Nat.floor_le hx

theorem lt_floorNat_add_one (x : Rat) : x < (floorNat x : Rat) + 1 := by
  rw [floorNat_eq]; exact Nat.lt_floor_add_one x

theorem floorNat_mono {x y : Rat} (h : x ≤ y) : floorNat x ≤ floorNat y := by
  rw [floorNat_eq, floorNat_eq]; exact Nat.floor_le_floor h

theorem floorNat_natCast (k : Nat) : floorNat (k : Rat) = k := by
  rw [floorNat_eq, Nat.floor_natCast]

theorem floorNat_le_of_le_natCast {x : Rat} {k : Nat} (h : x ≤ k) : floorNat x ≤ k := by
  have := floorNat_mono h
  rwa [floorNat_natCast] at this

/-- the fractional part of a non-negative position -/
theorem floorNat_frac {x : Rat} (hx : 0 ≤ x) : 0 ≤ x - floorNat x ∧ x - floorNat x < 1 :=
  ⟨sub_nonneg.mpr (floorNat_le hx), sub_lt_iff_lt_add'.mpr (lt_floorNat_add_one x)⟩

/-- linear interpolation of a sequence at a real (rational) position -/
def interp (g : Nat → Rat) (x : Rat) : Rat :=
  g (floorNat x) + (g (floorNat x + 1) - g (floorNat x)) * (x - (floorNat x : Rat))

theorem interp_bounds (g : Nat → Rat) (hg : Monotone g) {x : Rat} (hx : 0 ≤ x) :
    g (floorNat x) ≤ interp g x ∧ interp g x ≤ g (floorNat x + 1) := by
  have hd : 0 ≤ g (floorNat x + 1) - g (floorNat x) := sub_nonneg.mpr (hg (Nat.le_succ _))
  have hf := floorNat_frac hx
  exact ⟨le_add_of_nonneg_right (mul_nonneg hd hf.1),
    le_sub_iff_add_le'.mp (mul_le_of_le_one_right hd hf.2.le)⟩

/-- within one cell the interpolant moves with the position, by the slope of the cell -/
theorem interp_sub (g : Nat → Rat) {x y : Rat} (h : floorNat x = floorNat y) :
    interp g y - interp g x = (g (floorNat x + 1) - g (floorNat x)) * (y - x) := by
  unfold interp
  rw [← h]
  ring

theorem interp_mono (g : Nat → Rat) (hg : Monotone g) {x y : Rat} (hx : 0 ≤ x) (hxy : x ≤ y) :
    interp g x ≤ interp g y := by
  rcases Nat.eq_or_lt_of_le (floorNat_mono hxy) with he | hlt
  · rw [← sub_nonneg, interp_sub g he]
    exact mul_nonneg (sub_nonneg.mpr (hg (Nat.le_succ _))) (sub_nonneg.mpr hxy)
  · exact le_trans (interp_bounds g hg hx).2 (le_trans (hg hlt) (interp_bounds g hg (le_trans hx hxy)).1)

/-- the interpolant of a sequence that is strictly increasing up to index `N` is strictly
    increasing on `[0, N]` -/
theorem interp_strictMono (g : Nat → Rat) (hg : Monotone g) (N : Nat)
    (hs : ∀ i, i < N → g i < g (i + 1)) {x y : Rat} (hx : 0 ≤ x) (hxy : x < y) (hy : y ≤ N) :
    interp g x < interp g y := by
  have hxN : floorNat x < N := by
    have : (floorNat x : Rat) < N := lt_of_le_of_lt (floorNat_le hx) (lt_of_lt_of_le hxy hy)
    exact_mod_cast this
  have hd : 0 < g (floorNat x + 1) - g (floorNat x) := sub_pos.mpr (hs _ hxN)
  rcases Nat.eq_or_lt_of_le (floorNat_mono hxy.le) with he | hlt
  · rw [← sub_pos, interp_sub g he]
    exact mul_pos hd (sub_pos.mpr hxy)
  · have hlt1 : interp g x < g (floorNat x + 1) :=
      lt_sub_iff_add_lt'.mp (mul_lt_of_lt_one_right hd (floorNat_frac hx).2)
    exact lt_of_lt_of_le hlt1 (le_trans (hg hlt) (interp_bounds g hg (le_trans hx hxy.le)).1)

theorem interp_natCast (g : Nat → Rat) (k : Nat) : interp g (k : Rat) = g k := by
  unfold interp; rw [floorNat_natCast]; ring

/-- the `i`-th order statistic, the last one for `i` beyond the end -/
def clampGet (s : List Rat) (hne : s ≠ []) (i : Nat) : Rat :=
  s[min i (s.length - 1)]'(by
    have : 0 < s.length := List.length_pos_iff.mpr hne
    omega)

theorem clampGet_of_lt (s : List Rat) (hne : s ≠ []) (i : Nat) (hi : i < s.length) :
    clampGet s hne i = s[i] := by
  unfold clampGet
  congr 1
  omega

theorem sorted_getElem_le {s : List Rat} (hs : s.Pairwise (· ≤ ·)) {i j : Nat} (hij : i ≤ j)
    (hj : j < s.length) : s[i] ≤ s[j] :=
  hs.rel_get_of_le (a := ⟨i, by omega⟩) (b := ⟨j, hj⟩) hij

theorem clampGet_mono (s : List Rat) (hne : s ≠ []) (hs : s.Pairwise (· ≤ ·)) :
    Monotone (clampGet s hne) := by
  intro i j hij
  exact sorted_getElem_le hs (by omega) _

/-- the position `q (n - 1)` of the quantile `q` in a list of length `n` -/
def qpos (s : List Rat) (q : Rat) : Rat := q * ((s.length - 1 : Nat) : Rat)

theorem qpos_nonneg (s : List Rat) {q : Rat} (hq : 0 ≤ q) : 0 ≤ qpos s q :=
  mul_nonneg hq (Nat.cast_nonneg _)

theorem qpos_le (s : List Rat) {q : Rat} (hq : q ≤ 1) : qpos s q ≤ ((s.length - 1 : Nat) : Rat) :=
  mul_le_of_le_one_left (Nat.cast_nonneg _) hq

theorem qpos_mono (s : List Rat) {q₁ q₂ : Rat} (h : q₁ ≤ q₂) : qpos s q₁ ≤ qpos s q₂ :=
  mul_le_mul_of_nonneg_right h (Nat.cast_nonneg _)

/-- **`quantile` is the interpolant of the order statistics** (`q ≤ 1`; for `q > 1` the `getD`
    fall-backs of the model return the maximum, then the minimum: `quantile_outside_unit_interval`). -/
theorem quantile_eq_interp (s : List Rat) (hne : s ≠ []) (q : Rat) (hq1 : q ≤ 1) :
    quantile s q = some (interp (clampGet s hne) (qpos s q)) := by
  have hlo : floorNat (qpos s q) ≤ s.length - 1 := floorNat_le_of_le_natCast (qpos_le s hq1)
  have hpos : 0 < s.length := List.length_pos_iff.mpr hne
  cases s with
  | nil => exact (hne rfl).elim
  | cons x t =>
    have hlo' : floorNat (qpos (x :: t) q) < (x :: t).length := by omega
    generalize hl : floorNat (qpos (x :: t) q) = lo at hlo'
    -- the model's two look-ups with a fall-back are the clamped look-ups at `lo` and `lo + 1`
    have ha : (x :: t)[lo]?.getD x = clampGet (x :: t) hne lo := by
      rw [List.getElem?_eq_getElem hlo', Option.getD_some, clampGet_of_lt _ hne lo hlo']
    have hb : (x :: t)[lo + 1]?.getD (clampGet (x :: t) hne lo) = clampGet (x :: t) hne (lo + 1) := by
      by_cases h1 : lo + 1 < (x :: t).length
      · rw [List.getElem?_eq_getElem h1, Option.getD_some, clampGet_of_lt _ hne _ h1]
      · rw [List.getElem?_eq_none (by omega), Option.getD_none, clampGet, clampGet]
        congr 1
        omega
    rw [interp, hl, ← hb, ← ha]
    subst hl
    rfl

/-- **Minimum.** `quantile s 0` is the first (least) element; `none` only for no data. -/
theorem quantile_zero (s : List Rat) : quantile s 0 = s.head? := by
  cases s with
  | nil => rfl
  | cons x t =>
    rw [quantile_eq_interp (x :: t) (List.cons_ne_nil x t) 0 zero_le_one,
      show qpos (x :: t) 0 = ((0 : Nat) : Rat) by rw [qpos, zero_mul, Nat.cast_zero], interp_natCast,
      clampGet_of_lt (x :: t) _ 0 (Nat.succ_pos _)]
    rfl

/-- **Maximum.** `quantile s 1` is the last (greatest) element. -/
theorem quantile_one (s : List Rat) : quantile s 1 = s.getLast? := by
  by_cases hne : s = []
  · subst hne; rfl
  · have hpos : 0 < s.length := List.length_pos_iff.mpr hne
    rw [quantile_eq_interp s hne 1 (le_refl _)]
    have : qpos s 1 = ((s.length - 1 : Nat) : Rat) := one_mul _
    rw [this, interp_natCast, clampGet_of_lt _ _ _ (by omega), List.getLast?_eq_getElem?,
      List.getElem?_eq_getElem (by omega)]

theorem quantile_zero' (s : List Rat) (hne : s ≠ []) : quantile s 0 = some (s.head hne) := by
  rw [quantile_zero, List.head?_eq_some_head hne]

theorem quantile_one' (s : List Rat) (hne : s ≠ []) : quantile s 1 = some (s.getLast hne) := by
  rw [quantile_one, List.getLast?_eq_some_getLast hne]

theorem sorted_head_le (s : List Rat) (hs : s.Pairwise (· ≤ ·)) (hne : s ≠ []) (i : Nat)
    (hi : i < s.length) : s.head hne ≤ s[i] := by
  rw [List.head_eq_getElem]
  exact sorted_getElem_le hs (Nat.zero_le i) hi

theorem sorted_le_getLast (s : List Rat) (hs : s.Pairwise (· ≤ ·)) (hne : s ≠ []) (i : Nat)
    (hi : i < s.length) : s[i] ≤ s.getLast hne := by
  rw [List.getLast_eq_getElem]
  exact sorted_getElem_le hs (by omega) _

/-- the interpolant of sorted data stays between the minimum and the maximum -/
theorem interp_clampGet_mem_range (s : List Rat) (hs : s.Pairwise (· ≤ ·)) (hne : s ≠ []) {x : Rat}
    (hx : 0 ≤ x) :
    s.head hne ≤ interp (clampGet s hne) x ∧ interp (clampGet s hne) x ≤ s.getLast hne := by
  have hb := interp_bounds (clampGet s hne) (clampGet_mono s hne hs) hx
  exact ⟨le_trans (sorted_head_le s hs hne _ _) hb.1, le_trans hb.2 (sorted_le_getLast s hs hne _ _)⟩

/-- **Strictly monotone on distinct data.**  If the (at least two) data values are pairwise
    different, different `q`s give different quantiles. -/
theorem quantile_strictMono (s : List Rat) (hs : s.Pairwise (· < ·)) (hlen : 2 ≤ s.length)
    (q₁ q₂ : Rat) (h0 : 0 ≤ q₁) (h12 : q₁ < q₂) (h1 : q₂ ≤ 1) :
    ∃ r₁ r₂, quantile s q₁ = some r₁ ∧ quantile s q₂ = some r₂ ∧ r₁ < r₂ := by
  have hne : s ≠ [] := List.ne_nil_of_length_pos (by omega)
  have hs' : s.Pairwise (· ≤ ·) := hs.imp le_of_lt
  refine ⟨_, _, quantile_eq_interp s hne q₁ (le_of_lt (lt_of_lt_of_le h12 h1)),
    quantile_eq_interp s hne q₂ h1, ?_⟩
  apply interp_strictMono _ (clampGet_mono s hne hs') (s.length - 1) _ (qpos_nonneg s h0) _
    (qpos_le s h1)
  · intro i hi
    rw [clampGet_of_lt s hne i (by omega), clampGet_of_lt s hne (i + 1) (by omega)]
    exact List.pairwise_iff_getElem.mp hs i (i + 1) (by omega) (by omega) (by omega)
  · exact mul_lt_mul_of_pos_right h12 (Nat.cast_pos.mpr (by omega))

/-- **Order statistics.**  At `q = k / (n - 1)` the quantile is exactly `s[k]`. -/
theorem quantile_order_stat (s : List Rat) (hlen : 2 ≤ s.length) (k : Nat) (hk : k ≤ s.length - 1) :
    quantile s ((k : Rat) / ((s.length - 1 : Nat) : Rat)) = some (s[k]'(by omega)) := by
  have hne : s ≠ [] := List.ne_nil_of_length_pos (by omega)
  have hn : (0 : Rat) < ((s.length - 1 : Nat) : Rat) := Nat.cast_pos.mpr (by omega)
  have hkn : (k : Rat) ≤ ((s.length - 1 : Nat) : Rat) := by exact_mod_cast hk
  rw [quantile_eq_interp s hne _ ((div_le_one hn).mpr hkn)]
  have : qpos s ((k : Rat) / ((s.length - 1 : Nat) : Rat)) = (k : Rat) := div_mul_cancel₀ _ hn.ne'
  rw [this, interp_natCast, clampGet_of_lt s hne k (by omega)]

/-- a non-decreasing list is strictly increasing iff no two neighbours coincide -/
theorem pairwise_lt_iff_neighbours_ne (es : List Rat) (h : es.Pairwise (· ≤ ·)) :
    es.Pairwise (· < ·) ↔ ∀ i (hi : i + 1 < es.length), es[i] ≠ es[i + 1] := by
  rw [← List.isChain_iff_pairwise, List.isChain_iff_getElem]
  exact forall₂_congr fun i hi => (sorted_getElem_le h (Nat.le_succ i) hi).lt_iff_ne

open H1 in
/-- the sorted values as `medianOf` computes them (insertion sort of the points `(v, 0)`) -/
def sortedVals (vs : List Rat) : List Rat := (sortPts (vs.map fun v => (v, (0 : Rat)))).map (·.1)

def medianSorted (s : List Rat) : Option Rat :=
  if s.length = 0 then none
  else if s.length % 2 = 1 then s[s.length / 2]?
  else do let a ← s[s.length / 2 - 1]?; let b ← s[s.length / 2]?; pure ((a + b) / 2)

theorem medianOf_eq (vs : List Rat) : H1.medianOf vs = medianSorted (sortedVals vs) := rfl

theorem sortedVals_perm (vs : List Rat) : (sortedVals vs).Perm vs := by
  unfold sortedVals
  have h := (sortPts_perm (vs.map fun v => (v, (0 : Rat)))).map (·.1)
  have e : (vs.map fun v => (v, (0 : Rat))).map (·.1) = vs := by
    rw [List.map_map]; simp [Function.comp_def]
  rwa [e] at h

theorem sortedVals_sorted (vs : List Rat) : (sortedVals vs).Pairwise (· ≤ ·) := by
  unfold sortedVals
  rw [List.pairwise_map]
  exact sortPts_sorted _

theorem sortedVals_length (vs : List Rat) : (sortedVals vs).length = vs.length :=
  (sortedVals_perm vs).length_eq

/-- a sorted permutation is unique: the result of *any* sorting algorithm is `sortedVals` -/
theorem sorted_perm_unique (vs s : List Rat) (hp : s.Perm vs) (hs : s.Pairwise (· ≤ ·)) :
    s = sortedVals vs :=
  List.Perm.eq_of_pairwise (fun _ _ _ _ h1 h2 => le_antisymm h1 h2) hs (sortedVals_sorted vs)
    (hp.trans (sortedVals_perm vs).symm)

theorem medianSorted_odd {s : List Rat} {m : Nat} (h : s.length = 2 * m + 1) :
    medianSorted s = some (s[m]'(by omega)) := by
  unfold medianSorted
  rw [if_neg (by omega), if_pos (by omega), show s.length / 2 = m by omega, List.getElem?_eq_getElem]

theorem medianSorted_even {s : List Rat} {m : Nat} (h : s.length = 2 * m + 2) :
    medianSorted s = some ((s[m]'(by omega) + s[m + 1]'(by omega)) / 2) := by
  unfold medianSorted
  rw [if_neg (by omega), if_neg (by omega), show s.length / 2 = m + 1 by omega, Nat.add_sub_cancel,
    List.getElem?_eq_getElem (by omega), List.getElem?_eq_getElem (by omega)]
  rfl

/-- no data, an odd or an even count: the three shapes of the median, with the middle index named
    so that neither `/ 2` nor `% 2` is left -/
theorem medianSorted_cases (s : List Rat) :
    (s = [] ∧ medianSorted s = none) ∨
    (∃ m, ∃ h : s.length = 2 * m + 1, medianSorted s = some (s[m]'(by omega))) ∨
    (∃ m, ∃ h : s.length = 2 * m + 2,
      medianSorted s = some ((s[m]'(by omega) + s[m + 1]'(by omega)) / 2)) := by
  rcases Nat.even_or_odd' s.length with ⟨m, h | h⟩
  · cases m with
    | zero => exact Or.inl ⟨List.eq_nil_of_length_eq_zero h, by rw [List.eq_nil_of_length_eq_zero h]; rfl⟩
    | succ k => exact Or.inr (Or.inr ⟨k, by omega, medianSorted_even (by omega)⟩)
  · exact Or.inr (Or.inl ⟨m, h, medianSorted_odd h⟩)

/-- the model's own sorted list is such a permutation -/
theorem medianOf_sortedVals (vs : List Rat) :
    (sortedVals vs).Perm vs ∧ (sortedVals vs).Pairwise (· ≤ ·) :=
  ⟨sortedVals_perm vs, sortedVals_sorted vs⟩

/-- **Permutation invariance.** -/
theorem medianOf_perm (vs ws : List Rat) (h : vs.Perm ws) : H1.medianOf vs = H1.medianOf ws := by
  rw [medianOf_eq, medianOf_eq,
    sorted_perm_unique ws (sortedVals vs) ((sortedVals_perm vs).trans h) (sortedVals_sorted vs)]

theorem medianOf_none_iff (vs : List Rat) : H1.medianOf vs = none ↔ vs = [] := by
  rw [medianOf_eq, ← List.length_eq_zero_iff, ← sortedVals_length vs]
  rcases medianSorted_cases (sortedVals vs) with ⟨h0, h⟩ | ⟨m, hm, h⟩ | ⟨m, hm, h⟩
  · exact iff_of_true h (by rw [h0]; rfl)
  · rw [h]; exact iff_of_false (Option.some_ne_none _) (by omega)
  · rw [h]; exact iff_of_false (Option.some_ne_none _) (by omega)

theorem count_le_of_sorted (s : List Rat) (hs : s.Pairwise (· ≤ ·)) (k : Nat) (hk : k < s.length)
    (x : Rat) (hx : s[k] ≤ x) : k + 1 ≤ s.countP (fun v => decide (v ≤ x)) := by
  have h := length_le_countP_of_sublist (p := fun v => decide (v ≤ x)) (List.take_sublist (k + 1) s) ?_
  · rw [List.length_take] at h
    omega
  · intro e he
    obtain ⟨i, hi, rfl⟩ := List.getElem_of_mem he
    rw [List.length_take] at hi
    rw [List.getElem_take, decide_eq_true_eq]
    exact le_trans (sorted_getElem_le hs (by omega) hk) hx

theorem count_ge_of_sorted (s : List Rat) (hs : s.Pairwise (· ≤ ·)) (k : Nat) (hk : k < s.length)
    (x : Rat) (hx : x ≤ s[k]) : s.length - k ≤ s.countP (fun v => decide (x ≤ v)) := by
  have h := length_le_countP_of_sublist (p := fun v => decide (x ≤ v)) (List.drop_sublist k s) ?_
  · rwa [List.length_drop] at h
  · intro e he
    obtain ⟨i, hi, rfl⟩ := List.getElem_of_mem he
    rw [List.length_drop] at hi
    rw [List.getElem_drop, decide_eq_true_eq]
    exact le_trans hx (sorted_getElem_le hs (Nat.le_add_right k i) (by omega))

theorem le_half_add {a b : Rat} (h : a ≤ b) : a ≤ (a + b) / 2 ∧ (a + b) / 2 ≤ b := by
  rw [le_div_iff₀ two_pos, div_le_iff₀ two_pos, mul_two, mul_two]
  exact ⟨add_le_add_right h a, add_le_add_left h b⟩

/-- **The median splits the data; independent of any sorting.**  If `m` is the median of `vs`
    then at least `⌈n/2⌉` of the values are `≤ m` and at least `⌈n/2⌉` are `≥ m`. -/
theorem medianOf_count (vs : List Rat) (m : Rat) (h : H1.medianOf vs = some m) :
    (vs.length + 1) / 2 ≤ vs.countP (fun v => decide (v ≤ m)) ∧
    (vs.length + 1) / 2 ≤ vs.countP (fun v => decide (m ≤ v)) := by
  have hp := sortedVals_perm vs
  have hs := sortedVals_sorted vs
  rw [← hp.countP_eq, ← hp.countP_eq, ← sortedVals_length vs]
  rw [medianOf_eq] at h
  generalize sortedVals vs = s at h hs
  rcases medianSorted_cases s with ⟨_, h0⟩ | ⟨k, hk, he⟩ | ⟨k, hk, he⟩
  · rw [h0] at h; cases h
  · rw [he] at h; cases h
    have hk' : k < s.length := by omega
    have c1 := count_le_of_sorted s hs k hk' _ (le_refl _)
    have c2 := count_ge_of_sorted s hs k hk' _ (le_refl _)
    exact ⟨le_trans (by omega) c1, le_trans (by omega) c2⟩
  · rw [he] at h; cases h
    have hk' : k + 1 < s.length := by omega
    have hmid := le_half_add (sorted_getElem_le hs (Nat.le_succ k) hk')
    have c1 := count_le_of_sorted s hs k (Nat.lt_of_succ_lt hk') _ hmid.1
    have c2 := count_ge_of_sorted s hs (k + 1) hk' _ hmid.2
    exact ⟨le_trans (by omega) c1, le_trans (by omega) c2⟩

theorem floorNat_add_half (k : Nat) : floorNat ((k : Rat) + 1 / 2) = k := by
  rw [floorNat_eq, add_comm, Nat.floor_add_natCast (by norm_num), Nat.floor_eq_zero.mpr (by norm_num), zero_add]

/-- the median of a sorted list is its quantile `1/2` (`np.median = np.percentile 50`); no
    sortedness is needed for this identity -/
theorem medianSorted_eq_quantile (s : List Rat) : medianSorted s = quantile s (1 / 2) := by
  rcases medianSorted_cases s with ⟨rfl, _⟩ | ⟨m, hm, he⟩ | ⟨m, hm, he⟩
  · rfl
  · have hne : s ≠ [] := List.ne_nil_of_length_pos (by omega)
    have hq : qpos s (1 / 2) = (m : Rat) := by
      unfold qpos
      rw [hm, Nat.add_sub_cancel]
      push_cast
      ring
    rw [he, quantile_eq_interp s hne (1 / 2) (by norm_num), hq, interp_natCast,
      clampGet_of_lt s hne _ (by omega)]
  · have hne : s ≠ [] := List.ne_nil_of_length_pos (by omega)
    have hq : qpos s (1 / 2) = (m : Rat) + 1 / 2 := by
      unfold qpos
      rw [hm, show 2 * m + 2 - 1 = 2 * m + 1 from rfl]
      push_cast
      ring
    rw [he, quantile_eq_interp s hne (1 / 2) (by norm_num), hq]
    unfold interp
    rw [floorNat_add_half, clampGet_of_lt s hne _ (by omega), clampGet_of_lt s hne _ (by omega)]
    congr 1
    ring

/-- **Median = 50 % quantile.**  For any sorted permutation `s` of the data. -/
theorem medianOf_eq_quantile (vs s : List Rat) (hp : s.Perm vs) (hs : s.Pairwise (· ≤ ·)) :
    H1.medianOf vs = quantile s (1 / 2) := by
  rw [medianOf_eq, ← sorted_perm_unique vs s hp hs, medianSorted_eq_quantile]

theorem medianOf_eq_quantile_sortedVals (vs : List Rat) :
    H1.medianOf vs = quantile (sortedVals vs) (1 / 2) :=
  medianOf_eq_quantile vs _ (sortedVals_perm vs) (sortedVals_sorted vs)

/-- the median lies between the minimum and the maximum of the data -/
theorem medianOf_between (vs : List Rat) (m : Rat) (h : H1.medianOf vs = some m) :
    (∃ v ∈ vs, v ≤ m) ∧ (∃ v ∈ vs, m ≤ v) := by
  have hc := medianOf_count vs m h
  have hpos : 0 < vs.length := by
    rw [List.length_pos_iff, Ne, ← medianOf_none_iff, h]
    exact Option.some_ne_none m
  have h1 : 0 < vs.countP (fun v => decide (v ≤ m)) := by omega
  have h2 : 0 < vs.countP (fun v => decide (m ≤ v)) := by omega
  rw [List.countP_pos_iff] at h1 h2
  obtain ⟨a, ha, ha'⟩ := h1
  obtain ⟨b, hb, hb'⟩ := h2
  exact ⟨⟨a, ha, by simpa using ha'⟩, ⟨b, hb, by simpa using hb'⟩⟩

theorem allEqual_const (l : List Rat) : H1.allEqual (l.map fun _ => (1 : Rat)) = true := by
  cases l with
  | nil => rfl
  | cons x xs => simp [H1.allEqual]

theorem statsOf_median (d : List Pt) (e : Bool) (m : Option Rat) :
    (H1.statsOf d e m).median = if d.isEmpty then none else if e then m else none := by
  cases d <;> rfl

/-- the statistics an accepted `h1` records are those of the values left by the NaN mask -/
theorem construct_ok_stats {fo : FloatOps} {b : Binning} {vs : List (Option Rat)} {ws : Option (List Rat)}
    {wkind : DType} {dtype : Option DType} {keep dropna : Bool} {r : H1}
    (h : H1.construct fo b vs ws wkind dtype keep dropna = .ok r) :
    r.stats = H1.statsOf (maskPts vs ws) (H1.allEqual ((maskPts vs ws).map (·.2)))
      (H1.medianOf ((maskPts vs ws).map (·.1))) := by
  simp only [construct_eq, ite_error_eq_ok] at h
  cases h.2.2.2.2.2
  rfl

theorem maskedEdgesAux_spec (rest : Bins) : ∀ (b : Bin) (j : Nat),
    (maskedEdgesAux (b :: rest) j).2.length = rest.length + 1 ∧
    (maskedEdgesAux (b :: rest) j).1.getLast? = ((b :: rest).getLast?).map (·.2) ∧
    (maskedEdgesAux (b :: rest) j).1 ≠ [] := by
  induction rest with
  | nil => intro b j; obtain ⟨l, r⟩ := b; simp [maskedEdgesAux]
  | cons c rest ih =>
    intro b j
    obtain ⟨l, r⟩ := b; obtain ⟨l', r'⟩ := c
    rw [maskedEdgesAux_cons₂]
    by_cases heq : r = l'
    · obtain ⟨h1, h2, h3⟩ := ih (l', r') (j + 1)
      simp only [heq, if_true, List.length_cons, h1, true_and]
      refine ⟨?_, by simp⟩
      rw [List.getLast?_cons_of_ne_nil h3, h2, List.getLast?_cons_cons]
    · obtain ⟨h1, h2, h3⟩ := ih (l', r') (j + 2)
      simp only [heq, if_false, List.length_cons, h1, true_and]
      refine ⟨?_, by simp⟩
      rw [List.getLast?_cons_cons, List.getLast?_cons_of_ne_nil h3, h2, List.getLast?_cons_cons]

/-- the first masked edge is `first_edge`, the last is `last_edge`, there is one mask entry
    per bin (every binning, rising or not) -/
theorem maskedEdges_ends (bins : Bins) :
    (maskedEdges bins).1.head? = firstEdge? bins ∧
    (maskedEdges bins).1.getLast? = lastEdge? bins ∧
    (maskedEdges bins).2.length = bins.length := by
  cases bins with
  | nil => simp [maskedEdges, firstEdge?, lastEdge?]
  | cons b rest =>
    obtain ⟨l, r⟩ := b
    obtain ⟨h1, h2, h3⟩ := maskedEdgesAux_spec rest (l, r) 0
    rw [maskedEdges_cons]
    refine ⟨by simp [firstEdge?], ?_, h1⟩
    simp only
    rw [List.getLast?_cons_of_ne_nil h3, h2]
    rfl

/-- the pairs recovered from the masked-edge representation -/
def pairsOfMasked (me : List Rat × List Nat) : Bins :=
  me.2.map fun m => (me.1[m]?.getD 0, me.1[m + 1]?.getD 0)

/-- **Masked edges ↦ pairs.**  For a rising binning the masked-edge representation gives back
    the pairs: bin `i` is `(E[mask[i]], E[mask[i] + 1])`; the mask is strictly increasing and the
    edges `E` strictly increase. -/
theorem pairsOfMasked_maskedEdges (bins : Bins) (hb : Rising bins) :
    pairsOfMasked (maskedEdges bins) = bins ∧
    (maskedEdges bins).2.Pairwise (· < ·) ∧ (maskedEdges bins).1.Pairwise (· < ·) := by
  by_cases hne : bins = []
  · subst hne; simp [pairsOfMasked, maskedEdges]
  have inv := maskInv_maskedEdges bins hb hne
  refine ⟨?_, inv.incr, inv.sorted⟩
  apply List.ext_getElem?
  intro i
  unfold pairsOfMasked
  rw [List.getElem?_map]
  by_cases hi : i < bins.length
  · rcases hbi : bins[i] with ⟨a, b⟩
    have hget : bins[i]? = some (a, b) := by rw [List.getElem?_eq_getElem hi, hbi]
    obtain ⟨m, hm, _, ha, hbb, _⟩ := inv.pos i a b hget
    simp only [Nat.sub_zero] at ha hbb
    rw [hm, hget]
    simp [ha, hbb]
  · have h1 : bins[i]? = none := List.getElem?_eq_none (by omega)
    have h2 : (maskedEdges bins).2[i]? = none := List.getElem?_eq_none (by rw [inv.len]; omega)
    rw [h1, h2]; rfl

theorem maskedEdgesAux_consecutive (rest : Bins) : ∀ (b : Bin) (j : Nat),
    consecutiveB (b :: rest) = true →
    maskedEdgesAux (b :: rest) j = (b.2 :: rest.map (·.2), List.range' j (rest.length + 1)) := by
  induction rest with
  | nil => intro b j _; obtain ⟨l, r⟩ := b; simp [maskedEdgesAux]
  | cons c rest ih =>
    intro b j hc
    obtain ⟨l, r⟩ := b; obtain ⟨l', r'⟩ := c
    obtain ⟨heq, hc'⟩ := consecutiveB_cons_cons.mp hc
    rw [maskedEdgesAux_cons₂, if_pos heq, ih (l', r') (j + 1) hc']
    simp [List.range'_succ]

/-- **Consecutive bins.**  For consecutive bins the masked edges are the numpy edges and the
    mask is `0, 1, …, n-1`. -/
theorem maskedEdges_consecutive (bins : Bins) (hc : consecutiveB bins = true) :
    maskedEdges bins = (binsToEdges bins, List.range bins.length) := by
  cases bins with
  | nil => rfl
  | cons b rest =>
    obtain ⟨l, r⟩ := b
    rw [maskedEdges_cons, maskedEdgesAux_consecutive rest (l, r) 0 hc, List.range_eq_range']
    rfl

/-- **Pairs ↦ edges ↦ pairs.** -/
theorem edgesToBins_binsToEdges (bins : Bins) (hc : consecutiveB bins = true) :
    edgesToBins (binsToEdges bins) = bins := by
  induction bins with
  | nil => rfl
  | cons b rest ih =>
    obtain ⟨l, r⟩ := b
    cases rest with
    | nil => simp [binsToEdges, edgesToBins]
    | cons c rest =>
      obtain ⟨l', r'⟩ := c
      obtain ⟨heq, hc'⟩ := consecutiveB_cons_cons.mp hc
      have ih' := ih hc'
      simp only [binsToEdges, List.map_cons, edgesToBins] at ih' ⊢
      rw [show r = l' from heq]
      exact congrArg _ ih'

/-- **Edges ↦ pairs ↦ edges**, which is `C07_edges_pairs` -/
theorem binsToEdges_edgesToBins (es : List Rat) (h : 2 ≤ es.length) :
    binsToEdges (edgesToBins es) = es := C07_edges_pairs es h

theorem binsToEdges_length (bins : Bins) (hne : bins ≠ []) :
    (binsToEdges bins).length = bins.length + 1 := by
  cases bins with
  | nil => exact (hne rfl).elim
  | cons b rest => obtain ⟨l, r⟩ := b; simp [binsToEdges]

theorem binsToEdges_ends (bins : Bins) :
    (binsToEdges bins).head? = firstEdge? bins ∧ (binsToEdges bins).getLast? = lastEdge? bins := by
  cases bins with
  | nil => simp [binsToEdges, firstEdge?, lastEdge?]
  | cons b rest =>
    obtain ⟨l, r⟩ := b
    refine ⟨by simp [binsToEdges, firstEdge?], ?_⟩
    simp only [binsToEdges, lastEdge?]
    rw [List.getLast?_cons_cons]
    cases rest with
    | nil => simp
    | cons c rest =>
      rw [List.getLast?_cons_of_ne_nil (by simp), List.getLast?_map, List.getLast?_cons_cons]

theorem pySlice_eq_drop_take {α} (l : List α) (a b : Nat) :
    pySlice l a b = List.drop a (List.take b l) := by
  unfold pySlice
  rw [List.take_drop]
  by_cases hab : a ≤ b
  · rw [show a + (b - a) = b by omega]
  · have h1 : (List.take (a + (b - a)) l).length ≤ a := by rw [List.length_take]; omega
    have h2 : (List.take b l).length ≤ a := by rw [List.length_take]; omega
    rw [List.drop_of_length_le h1, List.drop_of_length_le h2]

/-- **Contiguous slices.**  `bins[a:b]` of a rising binning is rising, of a consecutive binning
    consecutive; its bin count is `min b n - a`; for a non-empty slice (`a < b ≤ n`) the first edge
    is the left edge of bin `a`, the last edge the right edge of bin `b - 1`. -/
theorem slice_rising (bins : Bins) (a b : Nat) (h : Rising bins) :
    Rising (List.drop a (List.take b bins)) :=
  h.sublist ((List.drop_sublist _ _).trans (List.take_sublist _ _))

theorem slice_consecutive (bins : Bins) (a b : Nat) (h : consecutiveB bins = true) :
    consecutiveB (List.drop a (List.take b bins)) = true := by
  rw [consecutiveB_iff_isChain] at h ⊢
  exact (h.take b).drop a

theorem slice_length (bins : Bins) (a b : Nat) :
    (List.drop a (List.take b bins)).length = min b bins.length - a := by
  simp [List.length_drop, List.length_take]

theorem slice_edges (bins : Bins) (a b : Nat) (hab : a < b) (hb : b ≤ bins.length) :
    firstEdge? (List.drop a (List.take b bins)) = some (bins[a]'(by omega)).1 ∧
    lastEdge? (List.drop a (List.take b bins)) = some (bins[b - 1]'(by omega)).2 := by
  unfold firstEdge? lastEdge?
  constructor
  · rw [List.head?_drop, List.getElem?_take, if_pos hab, List.getElem?_eq_getElem (by omega)]
    rfl
  · rw [List.getLast?_eq_getElem?, List.getElem?_drop]
    simp only [List.length_drop, List.length_take]
    rw [List.getElem?_take, if_pos (by omega), show a + (min b bins.length - a - 1) = b - 1 by omega,
      List.getElem?_eq_getElem (by omega)]
    rfl

open H1 in
theorem sliceList_eq {α} (l : List α) (start stop : Option Int) :
    sliceList l start stop =
      List.drop (sliceBounds l.length start stop).1 (List.take (sliceBounds l.length start stop).2 l) := by
  unfold sliceList
  exact pySlice_eq_drop_take l _ _

open H1 in
/-- **The model's `h[start:stop]`**: Python slices of a binning (negative and out-of-range
    bounds normalised by `sliceBounds`) stay rising / consecutive, the bin count is `b - a`, the
    first / last edge are those of the first / last kept bin. -/
theorem sliceList_binning (bins : Bins) (start stop : Option Int) :
    (Rising bins → Rising (sliceList bins start stop)) ∧
    (consecutiveB bins = true → consecutiveB (sliceList bins start stop) = true) ∧
    (sliceList bins start stop).length
      = (sliceBounds bins.length start stop).2 - (sliceBounds bins.length start stop).1 ∧
    (∀ (hab : (sliceBounds bins.length start stop).1 < (sliceBounds bins.length start stop).2),
      firstEdge? (sliceList bins start stop)
        = some (bins[(sliceBounds bins.length start stop).1]'(by
            have := (sliceBounds_le bins.length start stop).2; omega)).1 ∧
      lastEdge? (sliceList bins start stop)
        = some (bins[(sliceBounds bins.length start stop).2 - 1]'(by
            have := (sliceBounds_le bins.length start stop).2; omega)).2) := by
  have hle := (sliceBounds_le bins.length start stop).2
  rw [sliceList_eq]
  refine ⟨slice_rising bins _ _, slice_consecutive bins _ _, ?_, fun hab => slice_edges bins _ _ hab hle⟩
  rw [slice_length]; omega

/-- two consecutive binnings with the same numpy edges are the same binning -/
theorem binsToEdges_injective (b₁ b₂ : Bins) (h₁ : consecutiveB b₁ = true) (h₂ : consecutiveB b₂ = true)
    (h : binsToEdges b₁ = binsToEdges b₂) : b₁ = b₂ := by
  rw [← edgesToBins_binsToEdges b₁ h₁, ← edgesToBins_binsToEdges b₂ h₂, h]

/-- two rising binnings with the same masked-edge representation are the same binning -/
theorem maskedEdges_injective (b₁ b₂ : Bins) (h₁ : Rising b₁) (h₂ : Rising b₂)
    (h : maskedEdges b₁ = maskedEdges b₂) : b₁ = b₂ := by
  rw [← (pairsOfMasked_maskedEdges b₁ h₁).1, ← (pairsOfMasked_maskedEdges b₂ h₂).1, h]

/-- `copy()` keeps the binning (with or without the contents) -/
theorem copy_binning (fo : FloatOps) (h : H1) (withFreq : Bool) :
    (h.copy withFreq).binning = h.binning ∧ (h.copy withFreq).bins fo = h.bins fo := by
  unfold H1.copy
  cases withFreq <;> exact ⟨rfl, rfl⟩

/-- **`is_regular`.**  All bins of an exact fixed-width grid have the width `w`. -/
theorem binsFrom_exact_width (w s : Rat) (t : Int) (n : Nat) :
    ∀ b ∈ Grid.binsFrom (FloatOps.exact.edge w s) t n, b.2 - b.1 = w := by
  intro b hb
  unfold Grid.binsFrom at hb
  obtain ⟨i, _, rfl⟩ := List.mem_map.mp hb
  simp only [FloatOps.exact]
  push_cast
  ring

theorem grid_bins_width (g : Grid) : ∀ b ∈ g.bins FloatOps.exact, b.2 - b.1 = g.w := by
  rw [Grid.bins_eq_binsFrom]
  exact binsFrom_exact_width g.w g.shift g.tmin g.count

theorem exact_edge (w s : Rat) (k : Int) : FloatOps.exact.edge w s k = (k : Rat) * w + s := rfl

/-- bin `i` of the exact grid of width 1 and shift `s` that starts at cell `t` -/
theorem unit_bins (s : Rat) (t : Int) (n i : Nat) (hi : i < n) :
    (Grid.binsFrom (FloatOps.exact.edge 1 s) t n)[i]?
      = some (((t + i : Int) : Rat) + s, ((t + i : Int) : Rat) + s + 1) := by
  rw [Grid.binsFrom_getElem? _ t n i hi, exact_edge, exact_edge, mul_one, mul_one, Int.cast_add _ 1,
    Int.cast_one, add_right_comm]

/-- physt's `integer_binning` (`bin_width = 1`, `bin_shift = 0.5`): bin `i` from cell `t` is
    `[t + i + 1/2, t + i + 3/2)` with the integer centre `t + i + 1` -/
theorem integer_binning_shift_half (t : Int) (n i : Nat) (hi : i < n) :
    ∃ l r, (Grid.binsFrom (FloatOps.exact.edge 1 (1 / 2)) t n)[i]? = some (l, r) ∧
      r - l = 1 ∧ (l + r) / 2 = ((t + (i : Int) + 1 : Int) : Rat) :=
  ⟨_, _, unit_bins (1 / 2) t n i hi, by ring, by push_cast; ring⟩

/-- the same grid written with shift `-1/2`: bin `i` from cell `t` has the integer centre `t + i` -/
theorem integer_binning_shift_neg_half (t : Int) (n i : Nat) (hi : i < n) :
    ∃ l r, (Grid.binsFrom (FloatOps.exact.edge 1 (-1 / 2)) t n)[i]? = some (l, r) ∧
      r - l = 1 ∧ (l + r) / 2 = ((t + (i : Int) : Int) : Rat) :=
  ⟨_, _, unit_bins (-1 / 2) t n i hi, by ring, by push_cast; ring⟩

/-! Exponential bins form a geometric sequence (over `ℝ`).

`ExponentialBinning(log_min, log_width, bin_count)` has the edges
`np.logspace(log_min, log_min + bin_count * log_width, bin_count + 1)`, i.e.
`10 ^ (log_min + k * log_width)`, `k = 0 … bin_count`; `exponential_binning` takes
`log_min = log10 a`, `log_width = (log10 b - log10 a) / bin_count` for the range `(a, b)`. -/

/-- edge number `k` of an exponential binning, in exact real arithmetic -/
noncomputable def expEdge (logMin lw : ℝ) (k : ℕ) : ℝ := (10 : ℝ) ^ (logMin + (k : ℝ) * lw)

/-- the `n + 1` edges of an exponential binning with `n` bins -/
noncomputable def expEdges (logMin lw : ℝ) (n : ℕ) : List ℝ := (List.range (n + 1)).map (expEdge logMin lw)

theorem expEdge_pos (logMin lw : ℝ) (k : ℕ) : 0 < expEdge logMin lw k :=
  Real.rpow_pos_of_pos (by norm_num) _

/-- **Geometric sequence.**  Every edge is the previous one times the constant `10 ^ lw`. -/
theorem expEdge_succ (logMin lw : ℝ) (k : ℕ) :
    expEdge logMin lw (k + 1) = expEdge logMin lw k * (10 : ℝ) ^ lw := by
  unfold expEdge
  rw [← Real.rpow_add (by norm_num)]
  congr 1
  push_cast
  ring

/-- **Constant ratio.** -/
theorem expEdge_ratio (logMin lw : ℝ) (k : ℕ) :
    expEdge logMin lw (k + 1) / expEdge logMin lw k = (10 : ℝ) ^ lw := by
  rw [expEdge_succ, mul_div_assoc, mul_comm, div_mul_cancel₀]
  exact ne_of_gt (expEdge_pos logMin lw k)

/-- **Closed form `a · rᵏ`.** -/
theorem expEdge_eq (logMin lw : ℝ) (k : ℕ) :
    expEdge logMin lw k = (10 : ℝ) ^ logMin * ((10 : ℝ) ^ lw) ^ k := by
  induction k with
  | zero => simp [expEdge]
  | succ k ih => rw [expEdge_succ, ih, pow_succ]; ring

theorem expEdge_lt_iff (logMin lw : ℝ) (hlw : 0 < lw) (i j : ℕ) :
    expEdge logMin lw i < expEdge logMin lw j ↔ i < j := by
  unfold expEdge
  rw [Real.rpow_lt_rpow_left_iff (by norm_num), add_lt_add_iff_left, mul_lt_mul_iff_left₀ hlw, Nat.cast_lt]

/-- an edge is at or below a positive value iff its number is at or below the value's position on the
    logarithmic grid -/
theorem expEdge_le_iff {logMin lw v : ℝ} (hlw : 0 < lw) (hv : 0 < v) (k : ℕ) :
    expEdge logMin lw k ≤ v ↔ (k : ℝ) ≤ (Real.logb 10 v - logMin) / lw := by
  unfold expEdge
  rw [← Real.le_logb_iff_rpow_le (by norm_num) hv, le_div_iff₀ hlw, le_sub_iff_add_le']

theorem lt_expEdge_iff {logMin lw v : ℝ} (hlw : 0 < lw) (hv : 0 < v) (k : ℕ) :
    v < expEdge logMin lw k ↔ (Real.logb 10 v - logMin) / lw < (k : ℝ) := by
  rw [← not_le, expEdge_le_iff hlw hv, not_le]

/-- a value from the first edge up to (not including) edge `n` lies in the bin whose number is the floor
    of its position on the logarithmic grid -/
theorem expEdge_bracket {logMin lw v : ℝ} (hlw : 0 < lw) (n : ℕ) (h0 : expEdge logMin lw 0 ≤ v)
    (hn : v < expEdge logMin lw n) :
    ⌊(Real.logb 10 v - logMin) / lw⌋₊ < n ∧
    expEdge logMin lw ⌊(Real.logb 10 v - logMin) / lw⌋₊ ≤ v ∧
    v < expEdge logMin lw (⌊(Real.logb 10 v - logMin) / lw⌋₊ + 1) := by
  have hv : 0 < v := lt_of_lt_of_le (expEdge_pos logMin lw 0) h0
  have hx0 : 0 ≤ (Real.logb 10 v - logMin) / lw := by
    rw [expEdge_le_iff hlw hv, Nat.cast_zero] at h0
    exact h0
  rw [lt_expEdge_iff hlw hv] at hn
  rw [expEdge_le_iff hlw hv, lt_expEdge_iff hlw hv, Nat.cast_add_one]
  exact ⟨(Nat.floor_lt hx0).mpr hn, Nat.floor_le hx0, Nat.lt_floor_add_one _⟩

/-- **Strictly increasing iff `0 < log_width`.** -/
theorem expEdge_strictMono_iff (logMin lw : ℝ) : StrictMono (expEdge logMin lw) ↔ 0 < lw := by
  constructor
  · intro h
    have h01 := h (show (0 : ℕ) < 1 by norm_num)
    unfold expEdge at h01
    rw [Real.rpow_lt_rpow_left_iff (by norm_num)] at h01
    simpa using h01
  · intro hlw i j hij
    exact (expEdge_lt_iff logMin lw hlw i j).mpr hij

/-- **First and last edge.** -/
theorem expEdge_first_last (logMin lw : ℝ) (n : ℕ) :
    expEdge logMin lw 0 = (10 : ℝ) ^ logMin ∧
    expEdge logMin lw n = (10 : ℝ) ^ (logMin + (n : ℝ) * lw) ∧
    (expEdges logMin lw n).head? = some ((10 : ℝ) ^ logMin) ∧
    (expEdges logMin lw n).getLast? = some ((10 : ℝ) ^ (logMin + (n : ℝ) * lw)) ∧
    (expEdges logMin lw n).length = n + 1 := by
  refine ⟨by simp [expEdge], rfl, ?_, ?_, by simp [expEdges]⟩
  · simp [expEdges, List.head?_map, List.head?_range, expEdge]
  · simp [expEdges, List.getLast?_map, List.getLast?_range, expEdge]

/-- the edge list is strictly increasing (the bins rise) and positive when `0 < log_width` -/
theorem expEdges_rising (logMin lw : ℝ) (hlw : 0 < lw) (n : ℕ) :
    (expEdges logMin lw n).Pairwise (· < ·) ∧ ∀ e ∈ expEdges logMin lw n, 0 < e := by
  constructor
  · unfold expEdges
    rw [List.pairwise_map]
    exact List.Pairwise.imp (fun h => (expEdge_lt_iff logMin lw hlw _ _).mpr h) List.pairwise_lt_range
  · intro e he
    obtain ⟨k, _, rfl⟩ := List.mem_map.mp he
    exact expEdge_pos _ _ _

/-- with `log_min = log10 a` and `log_width = (log10 b - log10 a) / n` the first edge is `a`, the last `b` -/
theorem expEdge_ends {a b : ℝ} (ha : 0 < a) (hb : 0 < b) {n : ℕ} (hn : 0 < n) :
    expEdge (Real.logb 10 a) ((Real.logb 10 b - Real.logb 10 a) / n) 0 = a ∧
    expEdge (Real.logb 10 a) ((Real.logb 10 b - Real.logb 10 a) / n) n = b := by
  have hn' : (n : ℝ) ≠ 0 := Nat.cast_ne_zero.mpr hn.ne'
  unfold expEdge
  rw [Nat.cast_zero, zero_mul, add_zero, Real.rpow_logb (by norm_num) (by norm_num) ha,
    mul_div_cancel₀ _ hn', add_sub_cancel, Real.rpow_logb (by norm_num) (by norm_num) hb]
  exact ⟨rfl, rfl⟩

/-- **`q` outside `[0, 1]`.**  Above 1 the `getD` fall-backs give the maximum as long as
    `⌊q (n-1)⌋ = n - 1` and the *first* element beyond (so the quantile is not monotone there and
    not `≥` the maximum); below 0 the model extrapolates below the minimum.  (numpy refuses such
    `q`; physt passes the user's `q` to `np.percentile`.) -/
theorem quantile_outside_unit_interval :
    quantile [1, 2, 4] 1 = some 4 ∧ quantile [1, 2, 4] (5 / 4) = some 4 ∧
    quantile [1, 2, 4] 2 = some 1 ∧ quantile [1, 2, 4] (-1) = some (-1) := by decide +kernel

/-- **unsorted input.**  `quantile` does not sort: on unsorted input it is neither monotone nor the
    median at `1/2`, nor does `0 ↦ minimum` hold. -/
theorem quantile_unsorted :
    quantile [3, 1, 2] 0 = some 3 ∧ quantile [3, 1, 2] (1 / 2) = some 1 ∧
    H1.medianOf [3, 1, 2] = some 2 := by decide +kernel

/-- **repeated data**: the quantile edges are only non-decreasing; equal neighbours are refused by
    `is_rising` -/
theorem quantile_edges_repeated :
    [0, 1 / 3, 1].map (quantile [1, 1, 1, 2]) = [some 1, some 1, some 2] ∧
    risingB (edgesToBins [1, 1, 2]) = false ∧
    [0, 1 / 2, 1].map (quantile [1, 2, 3]) = [some 1, some 2, some 3] ∧
    risingB (edgesToBins [1, 2, 3]) = true := by decide +kernel

example : quantile [1, 2, 4, 8] (2 / 3) = some 4 ∧ quantile [1, 2, 4, 8] (1 / 2) = some 3 ∧
    quantile [1, 2, 4, 8] (7 / 10) = some (22 / 5) := by decide +kernel
example : floorNat (qpos [1, 2, 4, 8] (7 / 10)) = 2 := by decide +kernel
example : sortedVals [4, 1, 3, 2] = [1, 2, 3, 4] := by decide +kernel
example : H1.medianOf [4, 1, 3, 2] = quantile [1, 2, 3, 4] (1 / 2) := by decide +kernel
example : H1.medianOf [4, 1, 3, 2] = H1.medianOf [2, 3, 1, 4] := medianOf_perm _ _ (by decide)
example : ([4, 1, 3, 2] : List Rat).countP (fun v => decide (v ≤ 5 / 2)) = 2 := by decide +kernel
example : maskedEdges [(0, 1), (1, 2), (3, 4)] = ([0, 1, 2, 3, 4], [0, 1, 3]) := by decide +kernel
example : pairsOfMasked (maskedEdges [(0, 1), (1, 2), (3, 4)]) = [(0, 1), (1, 2), (3, 4)] := by
  decide +kernel
example : maskedEdges [(0, 1), (1, 2), (2, 4)] = (binsToEdges [(0, 1), (1, 2), (2, 4)], [0, 1, 2]) := by
  decide +kernel
example : H1.sliceList [((0 : Rat), (1 : Rat)), (1, 2), (3, 4), (4, 6)] (some 1) (some (-1))
    = [(1, 2), (3, 4)] := by decide +kernel
example : firstEdge? (H1.sliceList [((0 : Rat), (1 : Rat)), (1, 2), (3, 4), (4, 6)] (some 1) (some (-1)))
    = some 1 ∧
    lastEdge? (H1.sliceList [((0 : Rat), (1 : Rat)), (1, 2), (3, 4), (4, 6)] (some 1) (some (-1)))
    = some 4 := by decide +kernel
example : Grid.binsFrom (FloatOps.exact.edge 1 (1 / 2)) 2 3
    = [(5 / 2, 7 / 2), (7 / 2, 9 / 2), (9 / 2, 11 / 2)] := by decide +kernel
example : inBin (Grid.binsFrom (FloatOps.exact.edge 1 (1 / 2)) 2 3) false 1 4 = true := by
  decide +kernel
example : (match H1.construct FloatOps.exact (.static [(0, 2), (2, 4)] true) [some 3, none, some 1, some 2]
      none .i64 none true true with
    | .ok r => r.stats.median
    | .error _ => none) = some 2 := by decide +kernel
example : expEdge 0 1 2 = 100 := by
  unfold expEdge; norm_num
example : expEdges 0 1 2 = [1, 10, 100] := by
  simp [expEdges, List.range_succ, expEdge]; norm_num

end Physt
