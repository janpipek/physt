import Physt.Proofs.Calc1D
/-! Telescoping of the per-bin slices for consecutive bins (no sortedness needed). -/
namespace Physt

theorem wsum_append (a b : List Pt) : wsum (a ++ b) = wsum a + wsum b := by
  unfold wsum; simp

theorem wsum_pySlice (s : List Pt) (a b : Nat) (hab : a ≤ b) :
    wsum (pySlice s a b) = wsum (s.take b) - wsum (s.take a) := by
  rw [← take_append_pySlice s hab, wsum_append]
  ring

theorem takeWhile_length_mono (p1 p2 : Pt → Bool) (h : ∀ x, p1 x = true → p2 x = true)
    (s : List Pt) : (s.takeWhile p1).length ≤ (s.takeWhile p2).length := by
  induction s with
  | nil => simp
  | cons a t ih =>
    by_cases h1 : p1 a = true
    · simp [h1, h a h1, ih]
    · have h1' : p1 a = false := by simpa using h1
      simp [List.takeWhile_cons, h1']

theorem ssLeft_le_ssLeft (s : List Pt) {x y : Rat} (h : x ≤ y) : ssLeft s x ≤ ssLeft s y := by
  unfold ssLeft
  apply takeWhile_length_mono
  exact fun p hp => decide_eq_true (lt_of_lt_of_le (of_decide_eq_true hp) h)

theorem ssLeft_le_ssRight (s : List Pt) {x y : Rat} (h : x ≤ y) : ssLeft s x ≤ ssRight s y := by
  unfold ssLeft ssRight
  apply takeWhile_length_mono
  exact fun p hp => decide_eq_true (le_of_lt (lt_of_lt_of_le (of_decide_eq_true hp) h))

theorem consecutiveB_cons_cons {b c : Bin} {rest : Bins} :
    consecutiveB (b :: c :: rest) = true ↔ b.2 = c.1 ∧ consecutiveB (c :: rest) = true := by
  obtain ⟨l, r⟩ := b
  obtain ⟨l', r'⟩ := c
  rw [consecutiveB, Bool.and_eq_true, decide_eq_true_eq]

/-- `consecutiveB` as a chain: every bin ends where the next one starts -/
theorem consecutiveB_iff_isChain (bins : Bins) :
    consecutiveB bins = true ↔ List.IsChain (fun b c : Bin => b.2 = c.1) bins := by
  induction bins with
  | nil => exact iff_of_true rfl .nil
  | cons b rest ih =>
    cases rest with
    | nil => exact iff_of_true rfl (.singleton _)
    | cons c rest => rw [List.isChain_cons_cons, ← ih, consecutiveB_cons_cons]

/-- Sum of the contents of a run of consecutive bins that ends with the histogram's last bin:
    the slices telescope. -/
theorem sweep_sum_consecutive (s : List Pt) (n : Nat) (b : Bin) (bs : Bins) (k : Nat)
    (hk : k + (b :: bs).length = n) (hr : Rising (b :: bs))
    (hc : List.IsChain (fun b c : Bin => b.2 = c.1) (b :: bs)) :
    ((sweepAux s n k (b :: bs)).map wsum).sum
      = wsum (s.take (ssRight s ((b :: bs).getLast (by simp)).2)) - wsum (s.take (ssLeft s b.1)) := by
  induction bs generalizing b k with
  | nil =>
    simp only [List.length_singleton] at hk
    simp only [sweepAux, binSlice, hk, if_true, List.map_cons, List.map_nil, List.sum_cons,
      List.sum_nil, add_zero, List.getLast_singleton]
    exact wsum_pySlice s _ _ (ssLeft_le_ssRight s (le_of_lt hr.head_lt))
  | cons c cs ih =>
    have hne : ¬ k + 1 = n := by simp only [List.length_cons] at hk; omega
    obtain ⟨l, r⟩ := b; obtain ⟨l', r'⟩ := c
    obtain ⟨hrl, hc'⟩ := List.isChain_cons_cons.mp hc
    have hk' : (k + 1) + ((l', r') :: cs).length = n := by
      simp only [List.length_cons] at hk ⊢; omega
    have ih' := ih (l', r') (k + 1) hk' hr.tail hc'
    have hlr : l < r := hr.head_lt
    rw [sweepAux, List.map_cons, List.sum_cons, ih']
    simp only [binSlice, hne, if_false]
    rw [wsum_pySlice s _ _ (ssLeft_le_ssLeft s (le_of_lt hlr))]
    simp only [List.getLast_cons_cons]
    subst hrl
    ring

end Physt
