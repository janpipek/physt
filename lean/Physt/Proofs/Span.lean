import Physt.Proofs.Locate
/-!
The range of cells of a grid as a value (`Grid.span`), and the join of two ranges (`hull`).  "The range
after an operation is the union / the hull of ranges" becomes an equation between such values, and the
laws of unions (commutative, associative, any list in any bracketing) are the laws of `hull`.
-/
namespace Physt

/-- the least range that contains both; `none` (no cell at all) is the identity -/
def hull : Option (Int × Int) → Option (Int × Int) → Option (Int × Int)
  | none, b => b
  | a, none => a
  | some a, some b => some (min a.1 b.1, max a.2 b.2)

@[simp] theorem hull_none_left (a : Option (Int × Int)) : hull none a = a := rfl

@[simp] theorem hull_none_right (a : Option (Int × Int)) : hull a none = a := by cases a <;> rfl

@[simp] theorem hull_some_some (a b c d : Int) :
    hull (some (a, b)) (some (c, d)) = some (min a c, max b d) := rfl

theorem hull_eq_none : ∀ {a b : Option (Int × Int)}, hull a b = none ↔ a = none ∧ b = none
  | none, _ => by simp
  | some _, none => by simp
  | some _, some _ => by simp [hull]

theorem hull_comm : ∀ a b : Option (Int × Int), hull a b = hull b a
  | none, b => (hull_none_right b).symm
  | some _, none => rfl
  | some a, some b => congrArg some (Prod.ext (min_comm a.1 b.1) (max_comm a.2 b.2))

theorem hull_assoc : ∀ a b c : Option (Int × Int), hull (hull a b) c = hull a (hull b c)
  | none, _, _ => rfl
  | some _, none, _ => rfl
  | some _, some _, none => rfl
  | some a, some b, some c => congrArg some (Prod.ext (min_assoc a.1 b.1 c.1) (max_assoc a.2 b.2 c.2))

/-- `s` lies within `t` -/
def Within (s t : Option (Int × Int)) : Prop :=
  ∀ a b, s = some (a, b) → ∃ lo hi, t = some (lo, hi) ∧ lo ≤ a ∧ b ≤ hi

theorem Within.trans {s t u : Option (Int × Int)} (h1 : Within s t) (h2 : Within t u) : Within s u := by
  intro a b hs
  obtain ⟨lo, hi, ht, _, _⟩ := h1 a b hs
  obtain ⟨lo', hi', hu, _, _⟩ := h2 lo hi ht
  exact ⟨lo', hi', hu, by omega, by omega⟩

theorem within_hull_left (s t : Option (Int × Int)) : Within s (hull s t) := by
  rintro a b rfl
  cases t with
  | none => exact ⟨a, b, rfl, le_refl _, le_refl _⟩
  | some t => exact ⟨_, _, rfl, min_le_left _ _, le_max_left _ _⟩

theorem within_hull_right (s t : Option (Int × Int)) : Within t (hull s t) := by
  rw [hull_comm]; exact within_hull_left t s

/-- both ends of a hull are ends of one of the two ranges -/
theorem hull_attained {s t : Option (Int × Int)} {lo hi : Int} (h : hull s t = some (lo, hi)) :
    ((∃ b, s = some (lo, b)) ∨ ∃ b, t = some (lo, b)) ∧ ((∃ a, s = some (a, hi)) ∨ ∃ a, t = some (a, hi)) := by
  cases s with
  | none => exact ⟨Or.inr ⟨hi, h⟩, Or.inr ⟨lo, h⟩⟩
  | some s =>
    cases t with
    | none => exact ⟨Or.inl ⟨hi, h⟩, Or.inl ⟨lo, h⟩⟩
    | some t =>
      obtain ⟨rfl, rfl⟩ := Prod.mk.inj (Option.some.inj h)
      constructor
      · rcases min_choice s.1 t.1 with e | e
        · exact Or.inl ⟨s.2, by rw [e]⟩
        · exact Or.inr ⟨t.2, by rw [e]⟩
      · rcases max_choice s.2 t.2 with e | e
        · exact Or.inl ⟨s.1, by rw [e]⟩
        · exact Or.inr ⟨t.1, by rw [e]⟩

/-- the hull of a list of ranges -/
def hullAll (l : List (Option (Int × Int))) : Option (Int × Int) := l.foldr hull none

@[simp] theorem hullAll_nil : hullAll [] = none := rfl

@[simp] theorem hullAll_cons (s : Option (Int × Int)) (l : List (Option (Int × Int))) :
    hullAll (s :: l) = hull s (hullAll l) := rfl

theorem hullAll_append (l1 l2 : List (Option (Int × Int))) :
    hullAll (l1 ++ l2) = hull (hullAll l1) (hullAll l2) := by
  induction l1 with
  | nil => rfl
  | cons s l ih => rw [List.cons_append, hullAll_cons, hullAll_cons, ih, hull_assoc]

theorem within_hullAll {l : List (Option (Int × Int))} {s : Option (Int × Int)} (h : s ∈ l) :
    Within s (hullAll l) := by
  induction l with
  | nil => cases h
  | cons x l ih =>
    rcases List.mem_cons.mp h with rfl | h
    · exact within_hull_left _ _
    · exact (ih h).trans (within_hull_right _ _)

/-- both ends of the hull of a list are ends of members -/
theorem hullAll_attained {l : List (Option (Int × Int))} {lo hi : Int} (h : hullAll l = some (lo, hi)) :
    (∃ b, some (lo, b) ∈ l) ∧ ∃ a, some (a, hi) ∈ l := by
  induction l generalizing lo hi with
  | nil => cases h
  | cons x l ih =>
    obtain ⟨h1, h2⟩ := hull_attained h
    constructor
    · rcases h1 with ⟨b, rfl⟩ | ⟨b, hb⟩
      · exact ⟨b, List.mem_cons_self ..⟩
      · obtain ⟨b', hb'⟩ := (ih hb).1
        exact ⟨b', List.mem_cons_of_mem _ hb'⟩
    · rcases h2 with ⟨a, rfl⟩ | ⟨a, ha⟩
      · exact ⟨a, List.mem_cons_self ..⟩
      · obtain ⟨a', ha'⟩ := (ih ha).2
        exact ⟨a', List.mem_cons_of_mem _ ha'⟩

namespace Grid

/-- the range of cells of a grid as a value: `none` for a grid without cells, else the first cell and
    the cell after the last -/
def span (g : Grid) : Option (Int × Int) := if g.count = 0 then none else some (g.tmin, g.tmin + g.count)

theorem span_of_zero {g : Grid} (h : g.count = 0) : g.span = none := if_pos h

theorem span_of_pos {g : Grid} (h : 0 < g.count) : g.span = some (g.tmin, g.tmin + g.count) :=
  if_neg (by omega)

theorem span_eq_none {g : Grid} : g.span = none ↔ g.count = 0 := by
  unfold span; split <;> simp [*]

theorem span_eq_some {g : Grid} {lo hi : Int} :
    g.span = some (lo, hi) ↔ 0 < g.count ∧ g.tmin = lo ∧ g.tmin + g.count = hi := by
  unfold span
  split
  · simp; omega
  · simp; omega

/-- grids with the same range have the same cells, unless both are empty -/
theorem span_eq_span {g h : Grid} :
    g.span = h.span ↔ (g.count = 0 ∧ h.count = 0) ∨ (g.tmin = h.tmin ∧ g.count = h.count) := by
  by_cases hh : h.count = 0
  · rw [span_of_zero hh, span_eq_none]; omega
  · rw [span_of_pos (g := h) (by omega), span_eq_some]; omega

end Grid
end Physt
