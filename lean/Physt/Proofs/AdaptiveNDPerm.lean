import Physt.Proofs.AdaptiveND
/-!
# Adaptive histograms: the final state does not depend on the order of the rows

The hull (`SpanHull`) an adaptive axis grows to depends only on the set of the values entered (with
`SpanHull.unique`, two hulls of the same grid for lists with the same members coincide): it runs from
the least to the greatest cell needed.  The invariants `TracksM` / `GridTracks` do not see the order
of the rows either (`calcND_perm`, `C03_order`).  Hence two accepted histories of `fill` / `fill_n`
calls from the same start whose entered rows are permutations of one another end with the same axes,
contents, squared errors and missed (1-D: underflow / overflow): `tracksA_order` (all axes adaptive),
`tracksM_order` (any mix of adaptive and non-adaptive axes), `gridTracks_order` (one dimension).
-/
namespace Physt
open Grid H1

/-- `SpanHull` mentions the list of values through membership and emptiness only -/
theorem SpanHull.congr_mem {edge : Int → Rat} {g g' : Grid} {vs vs' : List Rat}
    (h : ∀ v, v ∈ vs ↔ v ∈ vs') (a : SpanHull edge g g' vs) : SpanHull edge g g' vs' :=
  a.of_subset (fun v hv => (h v).mp hv) (fun v hv => a.covers v ((h v).mpr hv))

theorem SpanHull.perm {edge : Int → Rat} {g g' : Grid} {vs vs' : List Rat} (hp : vs.Perm vs')
    (a : SpanHull edge g g' vs) : SpanHull edge g g' vs' :=
  a.congr_mem (fun _ => hp.mem_iff)

/-- a cell the new range has to contain: a cell of the old range, or the cell of a value entered -/
def NeedsCell (edge : Int → Rat) (g : Grid) (vs : List Rat) (k : Int) : Prop :=
  (g.tmin ≤ k ∧ k < g.tmin + g.count) ∨ ∃ v ∈ vs, CellOf edge v k

/-- the set of cells needed does not depend on the order (or multiplicity) of the values -/
theorem needsCell_congr {edge : Int → Rat} {g : Grid} {vs vs' : List Rat} (h : ∀ v, v ∈ vs ↔ v ∈ vs') (k : Int) :
    NeedsCell edge g vs k ↔ NeedsCell edge g vs' k := by
  simp only [NeedsCell, h]

/-- **The new range starts at the least and ends at the greatest cell needed.** -/
theorem SpanHull.extremes {edge : Int → Rat} (hm : ∀ a b : Int, a < b → edge a < edge b) {g g' : Grid}
    {vs : List Rat} (sp : SpanHull edge g g' vs) (hp : 0 < g'.count) :
    NeedsCell edge g vs g'.tmin ∧ NeedsCell edge g vs (g'.tmin + g'.count - 1) ∧
      ∀ k, NeedsCell edge g vs k → g'.tmin ≤ k ∧ k ≤ g'.tmin + g'.count - 1 := by
  refine ⟨?_, ?_, ?_⟩
  · exact (sp.loTight hp).imp (fun ⟨h0, he⟩ => ⟨by omega, by omega⟩) id
  · exact (sp.hiTight hp).imp (fun ⟨h0, he⟩ => ⟨by omega, by omega⟩) id
  · rintro k (⟨h1, h2⟩ | ⟨v, hv, hc⟩)
    · have := sp.keepLo (by omega)
      have := sp.keepHi (by omega)
      omega
    · obtain ⟨k', hk', _, _⟩ := sp.covers v hv
      have := cell_unique hm hc hk'
      omega

/-! ## The hull as explicit folds of `min` / `max` over the cells of the values -/

/-- the first cell of the hull of the grid `g` and values with the cells `ks`: the minimum of the old
    first cell (if the grid has cells) and `ks` -/
def hullLo (g : Grid) (ks : List Int) : Int :=
  if 0 < g.count then ks.foldl min g.tmin
  else match ks with
    | [] => g.tmin
    | k :: ks => ks.foldl min k

/-- one past the last cell of the hull: the maximum of the old end (if the grid has cells) and `k + 1`
    over `ks` -/
def hullEnd (g : Grid) (ks : List Int) : Int :=
  if 0 < g.count then ks.foldl max (g.tmin + g.count - 1) + 1
  else match ks with
    | [] => g.tmin + g.count
    | k :: ks => ks.foldl max k + 1

theorem col_perm (i : Nat) {rows rows' : List (List Rat)} (hp : rows.Perm rows') :
    (col i rows).Perm (col i rows') :=
  hp.filterMap _

theorem HullN.perm {fo : FloatOps} {grids grids' : List Grid} {e e' : List (List Rat)} (hp : e.Perm e')
    (u : HullN fo grids grids' e) : HullN fo grids grids' e' :=
  ⟨u.len, fun i g g' hg hg' => (u.each i g g' hg hg').perm (col_perm i hp)⟩

theorem AxisGrown.perm {fo : FloatOps} {b b' : Binning} {vs vs' : List Rat} (hp : vs.Perm vs')
    (a : AxisGrown fo b b' vs) : AxisGrown fo b b' vs' := by
  refine ⟨a.1, fun g hg hga => ?_⟩
  obtain ⟨g', e, h1, h2, h3, sp⟩ := a.2 g hg hga
  exact ⟨g', e, h1, h2, h3, sp.perm hp⟩

theorem AxesGrown.perm {fo : FloatOps} {axes axes' : List Binning} {e e' : List (List Rat)} (hp : e.Perm e')
    (a : AxesGrown fo axes axes' e) : AxesGrown fo axes axes' e' := by
  refine ⟨a.len, fun i b hb => ?_⟩
  obtain ⟨b', hb', gr⟩ := a.each i b hb
  exact ⟨b', hb', gr.perm (col_perm i hp)⟩

/-! ## The invariants do not see the order of the rows -/

theorem TracksM.perm {fo : FloatOps} {h : HN} {axes : List Binning} {rows rows' : List Row}
    (t : TracksM fo h axes rows) (hp : rows.Perm rows') : TracksM fo h axes rows' := by
  have e := calcND_perm (axesOf fo axes) rows rows' hp
  exact ⟨t.hax, t.keep, t.flags, by rw [← e]; exact t.freq, by rw [← e]; exact t.err2,
    by rw [← e]; exact t.missed, fun r hr => t.fits r (hp.mem_iff.mpr hr)⟩

theorem GridTracks.perm {fo : FloatOps} {h : H1} {g : Grid} {pts pts' : List Pt}
    (t : GridTracks fo h g pts) (hm : EdgeMono fo g.w g.shift) (hp : pts.Perm pts') :
    GridTracks fo h g pts' := by
  have hr : Rising (g.bins fo) := by rw [bins_eq_binsFrom]; exact binsFrom_rising _ hm _ _
  have e := C03_order (g.bins fo) hr pts pts' hp
  exact ⟨t.state, by rw [← e]; exact t.freq, by rw [← e]; exact t.err2, t.under, t.over,
    fun p hp' => t.inside p (hp.mem_iff.mpr hp')⟩

/-! ## The grown axes are determined by the old axes and the set of rows -/

/-- one axis: the grown axis is determined by the old axis and the members of the column -/
theorem AxisGrown.unique {fo : FloatOps} {b b1 b2 : Binning} {vs vs' : List Rat}
    (hm : ∀ g, b = .fixed g → g.adaptive = true → EdgeMono fo g.w g.shift) (h : ∀ v, v ∈ vs ↔ v ∈ vs')
    (a1 : AxisGrown fo b b1 vs) (a2 : AxisGrown fo b b2 vs') : b1 = b2 := by
  by_cases ha : b.isAdaptive = false
  · rw [a1.1 ha, a2.1 ha]
  · cases b with
    | static bs ire => exact (ha rfl).elim
    | fixed g =>
      have hga : g.adaptive = true := by simpa [Binning.isAdaptive] using ha
      obtain ⟨g1, e1, al1, ad1, ir1, sp1⟩ := a1.2 g rfl hga
      obtain ⟨g2, e2, al2, ad2, ir2, sp2⟩ := a2.2 g rfl hga
      obtain ⟨c1, c2, c3, c4⟩ := (sp1.congr_mem h).unique (hm g rfl hga) sp2
      rw [e1, e2, grid_ext c1 c2 c3 c4 (al1.trans al2.symm) (ad1.trans ad2.symm) (ir1.trans ir2.symm)]

theorem axesGrown_unique {fo : FloatOps} {axes axes1 axes2 : List Binning} {e e' : List (List Rat)}
    (ok : EdgesOK fo axes) (hp : e.Perm e') (a1 : AxesGrown fo axes axes1 e) (a2 : AxesGrown fo axes axes2 e') :
    axes1 = axes2 := by
  refine List.ext_getElem (a1.len.trans a2.len.symm) fun i h1 _ => ?_
  have hi := List.getElem?_eq_getElem (a1.len ▸ h1 : i < axes.length)
  obtain ⟨b1, hb1, g1⟩ := a1.each i _ hi
  obtain ⟨b2, hb2, g2⟩ := a2.each i _ hi
  obtain ⟨_, rfl⟩ := List.getElem?_eq_some_iff.mp hb1
  obtain ⟨_, rfl⟩ := List.getElem?_eq_some_iff.mp hb2
  exact AxisGrown.unique (fun g hg hga => ok.mono i g (hi.trans (congrArg some hg)) hga)
    (fun _ => (col_perm i hp).mem_iff) g1 g2

/-- **Order independence, any mix of adaptive and non-adaptive axes.**  Two histories of `fill` /
    `fill_n` calls run from the same state, whose entered rows (after the NaN mask) are permutations of
    one another: both are accepted and end on the same axes `axes'` — every adaptive axis grown to the
    hull of its old range and the cells of its column, in whatever order they came — holding the same
    fixed-bin histogram: same contents, squared errors and missed. -/
theorem tracksM_order (fo : FloatOps) (fuel : Nat) (ops1 ops2 : List OpN) (h : HN) (axes : List Binning)
    (rows0 : List Row) (tr : TracksM fo h axes rows0) (ok : EdgesOK fo axes)
    (hv1 : ∀ op ∈ ops1, op.Valid axes.length) (ha1 : ∀ op ∈ ops1, op.Accepted axes.length)
    (hv2 : ∀ op ∈ ops2, op.Valid axes.length) (ha2 : ∀ op ∈ ops2, op.Accepted axes.length)
    (hperm : (enteredRows ops1).Perm (enteredRows ops2))
    (hreach : ∀ r ∈ enteredRows ops1, ReachRow fo fuel axes r.1) :
    ∃ r1 r2 axes', ops1.foldlM (OpN.apply fo fuel) h = .ok r1 ∧ ops2.foldlM (OpN.apply fo fuel) h = .ok r2 ∧
      TracksM fo r1 axes' (rows0 ++ enteredRows ops1) ∧ TracksM fo r2 axes' (rows0 ++ enteredRows ops1) ∧
      AxesGrown fo axes axes' ((enteredRows ops1).map (·.1)) ∧
      r1.axes = r2.axes ∧ r1.freq = r2.freq ∧ r1.err2 = r2.err2 ∧ r1.missed = r2.missed := by
  obtain ⟨r1, x1, e1, t1, g1, _⟩ := tracksM_history fo fuel ops1 h axes rows0 tr ok hv1 ha1 hreach
  obtain ⟨r2, x2, e2, t2, g2, _⟩ := tracksM_history fo fuel ops2 h axes rows0 tr ok hv2 ha2
    (fun r hr => hreach r (hperm.mem_iff.mpr hr))
  have hx : x1 = x2 := axesGrown_unique ok (hperm.map _) g1 g2
  subst hx
  have t2' := t2.perm ((hperm.symm).append_left rows0)
  exact ⟨r1, r2, x1, e1, e2, t1, t2', g1, by rw [t1.hax, t2'.hax], by rw [t1.freq, t2'.freq],
    by rw [t1.err2, t2'.err2], by rw [t1.missed, t2'.missed]⟩

/-- **Order independence, all axes adaptive.**  Two histories of `fill` / `fill_n` calls run from the
    same state, whose entered rows are permutations of one another, are both accepted and end on
    the same grids `grids'` — per axis the hull of the old range and the cells of the column — with the
    same contents, squared errors and missed (`= 0`). -/
theorem tracksA_order (fo : FloatOps) (fuel : Nat) (ops1 ops2 : List OpN) (h : HN) (grids : List Grid)
    (rows0 : List Row) (t : TracksA fo h grids rows0) (hm : MonoGrids fo grids)
    (hv1 : ∀ op ∈ ops1, op.Valid grids.length) (ha1 : ∀ op ∈ ops1, op.Accepted grids.length)
    (hv2 : ∀ op ∈ ops2, op.Valid grids.length) (ha2 : ∀ op ∈ ops2, op.Accepted grids.length)
    (hperm : (enteredRows ops1).Perm (enteredRows ops2))
    (hreach : ∀ r ∈ enteredRows ops1, ReachGrids fo fuel grids r.1) :
    ∃ r1 r2 grids', ops1.foldlM (OpN.apply fo fuel) h = .ok r1 ∧ ops2.foldlM (OpN.apply fo fuel) h = .ok r2 ∧
      TracksA fo r1 grids' (rows0 ++ enteredRows ops1) ∧ TracksA fo r2 grids' (rows0 ++ enteredRows ops1) ∧
      HullN fo grids grids' ((enteredRows ops1).map (·.1)) ∧
      r1.axes = r2.axes ∧ r1.freq = r2.freq ∧ r1.err2 = r2.err2 ∧ r1.missed = r2.missed := by
  have ha := t.adaptive
  have ok := t.edgesOK hm
  obtain ⟨r1, r2, axes', e1, e2, t1, t2, gr, same⟩ := tracksM_order fo fuel ops1 ops2 h _ rows0 (t.toM hm) ok
    (by simpa using hv1) (by simpa using ha1) (by simpa using hv2) (by simpa using ha2) hperm
    (fun r hr => reachGrids_iff fo fuel grids r.1 (hreach r hr))
  obtain ⟨grids', rfl, ha', hu⟩ := hullN_of_grown ha gr
  exact ⟨r1, r2, grids', e1, e2, t1.toA ha' (ok.grown gr), t2.toA ha' (ok.grown gr), hu, same⟩

/-- **Order independence in one dimension.**  Two sequences of `fill` / `fill_n` calls on the same
    adaptive histogram whose entered (value, weight) pairs are permutations of one another are both
    accepted and end on the same grid with the same contents, squared errors, underflow and overflow. -/
theorem gridTracks_order (fo : FloatOps) (fuel : Nat) (w s : Rat) (hm : EdgeMono fo w s) (ops1 ops2 : List FillOp)
    (hok1 : ∀ op ∈ ops1, op.ok = true) (hok2 : ∀ op ∈ ops2, op.ok = true)
    (hperm : (opsPts ops1).Perm (opsPts ops2)) (hreach : ∀ p ∈ opsPts ops1, Reach fo w s fuel p.1)
    (h : H1) (g : Grid) (pts : List Pt) (hw : g.w = w) (hs : g.shift = s) (tr : GridTracks fo h g pts) :
    ∃ (h1 h2 : H1) (g' : Grid), runOps fo fuel h ops1 = .ok h1 ∧ runOps fo fuel h ops2 = .ok h2 ∧
      GridTracks fo h1 g' (pts ++ opsPts ops1) ∧ GridTracks fo h2 g' (pts ++ opsPts ops1) ∧
      SpanHull (fo.edge w s) g g' ((opsPts ops1).map (·.1)) ∧
      h1.binning = h2.binning ∧ h1.freq = h2.freq ∧ h1.err2 = h2.err2 ∧ h1.under = h2.under ∧
      h1.over = h2.over ∧ h1.keep = h2.keep := by
  subst hw hs
  obtain ⟨h1, g1, e1, t1, s1⟩ := gridTracks_ops fo fuel g.w g.shift hm ops1 hok1 hreach h g pts rfl rfl tr
  obtain ⟨h2, g2, e2, t2, s2⟩ := gridTracks_ops fo fuel g.w g.shift hm ops2 hok2
    (fun p hp => hreach p (hperm.mem_iff.mpr hp)) h g pts rfl rfl tr
  have hm2 : EdgeMono fo g2.w g2.shift := by rw [s2.w, s2.shift]; exact hm
  have t2' := t2.perm hm2 ((hperm.symm).append_left pts)
  have s2' := s2.perm (hperm.symm.map (·.1))
  obtain ⟨hg, a, b, c, d, e, f⟩ := gridTracks_agree hm t1 t2' s1 s2'
  subst hg
  exact ⟨h1, h2, g1, e1, e2, t1, t2', s1, a, b, c, d, e, f⟩

end Physt
