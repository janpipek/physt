import Physt.Proofs.Account1D
import Physt.Model.HistND
/-! `find_bin` (searchsorted on the left edges + the test against the right edge), in its 1-D and its
    per-axis form, finds the bin that contains the value. -/
namespace Physt

/-- number of bins whose left edge is `≤ v` (= `searchsorted(left_edges, v, "right")`) -/
def leCount (bins : Bins) (v : Rat) : Nat := (bins.filter fun b => decide (b.1 ≤ v)).length

theorem leCount_spec (bins : Bins) (hb : Rising bins) (v : Rat) :
    (∀ j b, bins[j]? = some b → (j < leCount bins v ↔ b.1 ≤ v)) :=
  countLe_spec (fun b : Bin => b.1) bins hb.sortedLeft v

/-- In a rising binning, `v` at or above the left edge of bin `i` and not beyond its right edge has
    exactly `i + 1` left edges at or below it. -/
theorem leCount_eq_succ_iff {bins : Bins} (hb : Rising bins) {v l r : Rat} {i : Nat}
    (hget : bins[i]? = some (l, r)) (hv : v < r ∨ i + 1 = bins.length) :
    leCount bins v = i + 1 ↔ l ≤ v := by
  rw [← leCount_spec bins hb v i _ hget]
  refine ⟨fun h => h ▸ Nat.lt_succ_self i, fun hik => ?_⟩
  -- otherwise bin `i + 1` exists and starts at or below `v`, but not before bin `i` ends
  by_contra hne
  have hgt : i + 1 < leCount bins v := Nat.lt_of_le_of_ne hik (Ne.symm hne)
  have hin1 : i + 1 < bins.length := Nat.lt_of_lt_of_le hgt (List.length_filter_le _ _)
  have h1 := (leCount_spec bins hb v (i + 1) _ (List.getElem?_eq_getElem hin1)).mp hgt
  have h2 := hb.right_le_left hget (List.getElem?_eq_getElem hin1) (Nat.lt_succ_self i)
  rcases hv with hv | hv
  · exact lt_irrefl v (lt_of_lt_of_le hv (le_trans h2 h1))
  · exact Nat.ne_of_lt hin1 hv

/-- `find_bin` along an axis, read off the definition: the answer is the position of the last left edge
    `≤ v`, given when `v` is below that bin's right edge (or on it, in the last bin of a right-closed
    axis). -/
theorem findBinAxis_eq_some_iff (bins : Bins) (ire : Bool) (v : Rat) (i : Nat) :
    HN.findBinAxis bins ire v = some i ↔ leCount bins v = i + 1 ∧ ∃ l r, bins[i]? = some (l, r) ∧
      (v < r ∨ (ire = true ∧ i + 1 = bins.length ∧ v = r)) := by
  unfold HN.findBinAxis
  simp only
  rw [show (bins.filter fun b => decide (b.1 ≤ v)).length = leCount bins v from rfl]
  generalize leCount bins v = k
  cases k with
  | zero => simp
  | succ k =>
    simp only [Nat.add_one_ne_zero, if_false, Nat.add_sub_cancel, Nat.add_right_cancel_iff]
    constructor
    · intro h
      cases hget : bins[k]? with
      | none => simp [hget] at h
      | some b =>
        obtain ⟨l, r⟩ := b
        simp only [hget] at h
        split at h
        · split at h
          · rename_i hk hv
            cases h
            exact ⟨rfl, l, r, hget, hv.imp_right fun hv => ⟨hv.2, hk, hv.1⟩⟩
          · cases h
        · split at h
          · rename_i hv
            cases h
            exact ⟨rfl, l, r, hget, Or.inl hv⟩
          · cases h
    · rintro ⟨rfl, l, r, hget, hv⟩
      simp only [hget]
      by_cases hk : k + 1 = bins.length
      · rw [if_pos hk, if_pos (hv.imp_right fun hv => ⟨hv.2.2, hv.1⟩)]
      · rw [if_neg hk, if_pos (hv.resolve_right fun hv => hk hv.2.1)]

theorem findBinAxis_eq_some {bins : Bins} {ire : Bool} {v : Rat} {i : Nat}
    (h : HN.findBinAxis bins ire v = some i) : leCount bins v = i + 1 ∧ i < bins.length := by
  obtain ⟨hk, _, _, hget, _⟩ := (findBinAxis_eq_some_iff bins ire v i).mp h
  exact ⟨hk, (List.getElem?_eq_some_iff.mp hget).1⟩

/-- **find_bin along an axis**, both right-edge conventions. -/
theorem findBinAxis_spec (bins : Bins) (hb : Rising bins) (ire : Bool) (v : Rat) (i : Nat) :
    HN.findBinAxis bins ire v = some i ↔ inBin bins ire i v = true := by
  rw [findBinAxis_eq_some_iff, inBin_iff]
  constructor
  · rintro ⟨hk, l, r, hget, hv⟩
    exact ⟨l, r, hget, (leCount_eq_succ_iff hb hget (hv.imp_right fun h => h.2.1)).mp hk, hv⟩
  · rintro ⟨l, r, hget, hl, hv⟩
    exact ⟨(leCount_eq_succ_iff hb hget (hv.imp_right fun h => h.2.1)).mpr hl, l, r, hget, hv⟩

/-- the 1-D `find_bin` answers a bin exactly when the search along a right-closed axis does -/
theorem findBinIn_bin_iff_axis (bins : Bins) (v : Rat) (i : Nat) :
    H1.findBinIn bins v = .bin i ↔ HN.findBinAxis bins true v = some i := by
  unfold HN.findBinAxis H1.findBinIn
  simp only [and_true, ← le_iff_lt_or_eq]
  generalize (bins.filter fun b => decide (b.1 ≤ v)).length = k
  generalize bins[k - 1]? = o
  rcases o with _ | ⟨l, r⟩
  · simp
  · by_cases h0 : k = 0
    · simp [h0]
    · by_cases hn : k = bins.length
      · subst hn
        by_cases hv : v ≤ r <;> simp [h0, hv]
      · by_cases hv : v < r <;> simp [h0, hn, hv]

/-- **find_bin.** For rising bins, `find_bin` returns bin `i` exactly when the value lies in bin
    `i` (`left ≤ v < right`, the last bin also contains its right edge). -/
theorem findBinIn_bin_iff (bins : Bins) (hb : Rising bins) (v : Rat) (i : Nat) :
    H1.findBinIn bins v = .bin i ↔ inBin bins true i v = true :=
  (findBinIn_bin_iff_axis bins v i).trans (findBinAxis_spec bins hb true v i)

end Physt
