import Physt.Model.DType
/-!
# The promotion lattice of the seven dtypes

`promote` (numpy `promote_types`) is a join: commutative, idempotent, associative.  These three laws, that an
integer result needs two integer operands, and that `canCast` (numpy `can_cast`, "safe") is the order of that join
(`canCast_iff_promote`) are the one place where the table is enumerated (`promote_laws`, evaluated by the kernel);
reflexivity, transitivity and absorption follow by rewriting, not by cases.
-/
namespace Physt
namespace DType

theorem mem_all (d : DType) : d ∈ DType.all := by cases d <;> decide

private theorem promote_laws :
    (∀ a ∈ all, ∀ b ∈ all, promote a b = promote b a) ∧ (∀ a ∈ all, promote a a = a) ∧
    (∀ a ∈ all, ∀ b ∈ all, ∀ c ∈ all, promote (promote a b) c = promote a (promote b c)) ∧
    (∀ a ∈ all, ∀ b ∈ all, (promote a b).isInt = (a.isInt && b.isInt)) ∧
    (∀ a ∈ all, ∀ b ∈ all, (canCast a b = true ↔ promote a b = b)) := by
  decide +kernel

theorem promote_comm (a b : DType) : promote a b = promote b a :=
  promote_laws.1 a (mem_all a) b (mem_all b)

theorem promote_idem (a : DType) : a.promote a = a :=
  promote_laws.2.1 a (mem_all a)

theorem promote_assoc (a b c : DType) : (a.promote b).promote c = a.promote (b.promote c) :=
  promote_laws.2.2.1 a (mem_all a) b (mem_all b) c (mem_all c)

theorem promote_right_comm (d a b : DType) : (d.promote a).promote b = (d.promote b).promote a := by
  rw [promote_assoc, promote_comm a b, ← promote_assoc]

theorem promote_promote_right (a b : DType) : promote (promote a b) b = promote a b := by
  rw [promote_assoc, promote_idem]

theorem promote_distrib (a b k : DType) : (a.promote b).promote k = (a.promote k).promote (b.promote k) := by
  rw [promote_assoc a k, ← promote_assoc k b k, promote_comm k b, promote_promote_right, promote_assoc]

theorem promote_isInt (a b : DType) : (promote a b).isInt = (a.isInt && b.isInt) :=
  promote_laws.2.2.2.1 a (mem_all a) b (mem_all b)

/-- safe castability is the order of the promotion join -/
theorem canCast_iff_promote (a b : DType) : canCast a b = true ↔ promote a b = b :=
  promote_laws.2.2.2.2 a (mem_all a) b (mem_all b)

theorem canCast_refl (a : DType) : canCast a a = true :=
  (canCast_iff_promote a a).mpr (promote_idem a)

theorem canCast_trans (a b c : DType) (hab : canCast a b = true) (hbc : canCast b c = true) : canCast a c = true := by
  rw [canCast_iff_promote] at *
  rw [← hbc, ← promote_assoc, hab]

theorem canCast_promote_left (a b : DType) : canCast a (promote a b) = true := by
  rw [canCast_iff_promote, ← promote_assoc, promote_idem]

theorem canCast_promote_right (a b : DType) : canCast b (promote a b) = true := by
  rw [promote_comm]; exact canCast_promote_left b a

/-- a float never casts safely to an integer -/
theorem canCast_float_int (a b : DType) (ha : a.isInt = false) (hb : b.isInt = true) : canCast a b = false := by
  cases h : canCast a b
  · rfl
  · have := promote_isInt a b
    rw [(canCast_iff_promote a b).mp h, ha, hb] at this
    cases this

end DType
end Physt
