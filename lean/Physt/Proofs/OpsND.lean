import Physt.Proofs.Ops
import Physt.Model.HistND
/-!
What the operations of the N-d model return, written as their chains of guards (by `rfl`); an accepted call
is taken apart with `guard_ok` / `bind_ok` (`Proofs/Ops.lean`).
-/
namespace Physt
open H1

abbrev AxesB := List (Bins × Bool)

/-- the per-axis (bins, include-right-edge) pairs `calcND` works with -/
def axesOf (fo : FloatOps) (axes : List Binning) : AxesB := axes.map fun b => (b.bins fo, b.ire)

/-- `h(data, bins, weights=…)`: the four validations in the order of the code, then the record -/
theorem HN.construct_eq (fo : FloatOps) (axes : List Binning) (rows : List (List (Option Rat)))
    (ws : Option (List Rat)) (wkind : DType) (dropna : Bool) (names : Option (List String)) :
    HN.construct fo axes rows ws wkind dropna names =
      if (rows.any fun r => r.length != axes.length) then .error "wrong number of columns"
      else if (!dropna && rows.any (fun r => r.any Option.isNone)) then .error "NaN with dropna=False"
      else if (ws.any fun w => w.length != rows.length) then .error "weights shape"
      else if (axes.any fun b => !risingB (b.bins fo)) then .error "bins not rising"
      else .ok { axes := axes, freq := (calcND (axesOf fo axes) (maskRows rows ws)).freq,
                 err2 := (calcND (axesOf fo axes) (maskRows rows ws)).err2,
                 missed := some (calcND (axesOf fo axes) (maskRows rows ws)).missing,
                 keep := true, dtype := if ws.isSome then wkind else .i64,
                 names := names.getD (HN.defaultNames axes.length) } := by
  cases ws <;> rfl

theorem HN.construct_ok_iff (fo : FloatOps) (axes : List Binning) (rows : List (List (Option Rat)))
    (ws : Option (List Rat)) (wkind : DType) (dropna : Bool) (names : Option (List String)) (c : HN) :
    HN.construct fo axes rows ws wkind dropna names = .ok c ↔
      (rows.any fun r => r.length != axes.length) = false ∧
      (!dropna && rows.any fun r => r.any Option.isNone) = false ∧
      (∀ w, ws = some w → w.length = rows.length) ∧
      (axes.any fun b => !risingB (b.bins fo)) = false ∧
      c = { axes := axes, freq := (calcND (axesOf fo axes) (maskRows rows ws)).freq,
            err2 := (calcND (axesOf fo axes) (maskRows rows ws)).err2,
            missed := some (calcND (axesOf fo axes) (maskRows rows ws)).missing, keep := true,
            dtype := if ws.isSome then wkind else .i64,
            names := names.getD (HN.defaultNames axes.length) } := by
  have h3 : ¬ (ws.any fun w => w.length != rows.length) = true ↔ ∀ w, ws = some w → w.length = rows.length := by
    cases ws <;> simp
  rw [HN.construct_eq, ite_error_eq_ok, ite_error_eq_ok, ite_error_eq_ok, ite_error_eq_ok, ok_eq_ok, h3,
    Bool.not_eq_true, Bool.not_eq_true, Bool.not_eq_true]

/-- the counting core of the N-d `fill_n`: add the batch histogram of `data` over the current axes -/
def HN.fillData (fo : FloatOps) (h : HN) (data : List Row) : HN :=
  { h with freq := Arr.zipWith (· + ·) h.freq (calcND (h.axesBins fo) data).freq,
           err2 := Arr.zipWith (· + ·) h.err2 (calcND (h.axesBins fo) data).err2,
           missed := if h.keep then nadd h.missed (some (calcND (h.axesBins fo) data).missing) else h.missed }

/-- `fill_n` validates, then promotes, then grows the axes, then counts -/
theorem HN.fillN_eq (fo : FloatOps) (fuel : Nat) (h : HN) (rows : List (List (Option Rat))) (ws : Option (List Rat))
    (wk : DType) :
    h.fillN fo fuel rows ws wk =
      if (rows.any fun r => r.length != h.axes.length) then .error "wrong number of columns"
      else if (ws.any fun w => w.length != rows.length) then .error "weights shape"
      else .ok (((if ws.isSome then h.coerce wk else h).adaptAxes fo fuel
        (HN.transposeCols ((maskRows rows ws).map (·.1)) h.axes.length) false).fillData fo (maskRows rows ws)) := by
  cases ws <;> rfl

def HN.scaled (h : HN) (p : Rat) (d : DType) : HN :=
  { h with
    dtype := d
    freq := h.freq.map (· * p)
    err2 := h.err2.map (· * (p * p))
    missed := nscale h.missed p }

theorem HN.imul_iff (h r : HN) (c : Rat) (k : NumKind) :
    h.imul c k = .ok r ↔
      (h.freq.map (· * c)).data.any (· < 0) = false ∧ r = h.scaled c (h.dtype.promote k.dtype) :=
  (ite_error_eq_ok (c := (h.freq.map (· * c)).data.any (· < 0) = true)).trans
    (and_congr Bool.eq_false_iff.symm (ok_eq_ok _ r))

theorem HN.idiv_iff (h r : HN) (c : Rat) :
    h.idiv c = .ok r ↔
      c ≠ 0 ∧ (h.freq.map (· * (1 / c))).data.any (· < 0) = false ∧
        r = h.scaled (1 / c) (h.dtype.promote .f64) := by
  rw [HN.scaled, mul_one_div_sq_eq, mul_one_div_eq]
  exact (ite_error_eq_ok (c := c = 0)).trans (and_congr Iff.rfl
    ((ite_error_eq_ok (c := (h.freq.map (· / c)).data.any (· < 0) = true)).trans
      (and_congr Bool.eq_false_iff.symm (ok_eq_ok _ r))))

/-- `normalize()` out of place: a division by the total, then a multiplication -/
theorem HN.normalize_false_iff (h r : HN) (percent : Bool) :
    h.normalize false percent = .ok r ↔
      ∃ d, h.idiv h.total = .ok d ∧ d.imul (if percent then 100 else 1) .pyInt = .ok r :=
  bind_eq_ok _ _ _

abbrev Plan := Grid × Grid.Reshape × Grid.Reshape

/-- the plan of one axis of an adapting `+=`: equal bins — nothing to do; otherwise `FixedWidthBinning._adapt` -/
def planOf (fo : FloatOps) (ab : Binning × Binning) : R Plan :=
  match ab.1, ab.2 with
  | .fixed g, .fixed og =>
    if g.bins fo == og.bins fo then pure (g, Grid.Reshape.noChange, Grid.Reshape.noChange)
    else H1.adaptGrids g og
  | _, _ => throw "cannot adapt"

/-- one axis of the reshaping loop: contents and squared errors of one operand onto the common grid -/
def planStep (which : Bool) (acc : Arr × Arr × Nat) (p : Plan) : Arr × Arr × Nat :=
  (HN.reshapeAxis acc.1 acc.2.2 p.1.count (if which then p.2.1 else p.2.2),
   HN.reshapeAxis acc.2.1 acc.2.2 p.1.count (if which then p.2.1 else p.2.2), acc.2.2 + 1)

/-- the growing branch of `__iadd__`, once the missed count of `o` has been looked at -/
def HN.iaddGrow (fo : FloatOps) (h o : HN) : R HN :=
  if (!(o.axes.all Binning.adaptiveAllowed)) = true then .error "other cannot be made adaptive"
  else ((h.axes.zip o.axes).mapM (planOf fo)).bind fun plans =>
    .ok { h with dtype := h.dtype.promote o.dtype, axes := plans.map fun p => .fixed p.1,
                 freq := Arr.zipWith (· + ·) (plans.foldl (planStep true) (h.freq, h.err2, 0)).1
                           (plans.foldl (planStep false) (o.freq, o.err2, 0)).1,
                 err2 := Arr.zipWith (· + ·) (plans.foldl (planStep true) (h.freq, h.err2, 0)).2.1
                           (plans.foldl (planStep false) (o.freq, o.err2, 0)).2.1 }

theorem HN.iadd_eq (fo : FloatOps) (h o : HN) :
    h.iadd fo o =
      if (h.axes.length != o.axes.length) = true then .error "different dimensions"
      else if h.sameBins fo o = true then
        .ok { h with dtype := h.dtype.promote o.dtype, freq := Arr.zipWith (· + ·) h.freq o.freq,
                     err2 := Arr.zipWith (· + ·) h.err2 o.err2, missed := nadd h.missed o.missed }
      else if h.axes.all Binning.isAdaptive = true then
        match o.missed with
        | some m => if 0 < m then .error "other has missed values" else HN.iaddGrow fo h o
        | none => HN.iaddGrow fo h o
      else .error "incompatible binning" :=
  rfl

theorem HN.sameBins_length {fo : FloatOps} {h o : HN} (hs : h.sameBins fo o = true) :
    h.axes.length = o.axes.length := by
  simpa using congrArg List.length (eq_of_beq hs)

theorem HN.iadd_same (fo : FloatOps) (h o : HN) (hs : h.sameBins fo o = true) :
    h.iadd fo o = .ok
      { h with
        dtype := h.dtype.promote o.dtype
        freq := Arr.zipWith (· + ·) h.freq o.freq
        err2 := Arr.zipWith (· + ·) h.err2 o.err2
        missed := nadd h.missed o.missed } := by
  rw [HN.iadd_eq, HN.sameBins_length hs, if_neg (by simp), if_pos hs]

theorem iaddN_same_ok (fo : FloatOps) (h o r : HN) (hs : h.sameBins fo o = true) (hr : h.iadd fo o = .ok r) :
    h.axes.length = o.axes.length ∧ r.axes = h.axes ∧ r.names = h.names ∧
    r.freq = Arr.zipWith (· + ·) h.freq o.freq ∧ r.err2 = Arr.zipWith (· + ·) h.err2 o.err2 := by
  cases (HN.iadd_same fo h o hs).symm.trans hr
  exact ⟨HN.sameBins_length hs, rfl, rfl, rfl, rfl⟩

theorem iaddN_adaptive_ok (fo : FloatOps) (h o r : HN) (hs : h.sameBins fo o = false) (hr : h.iadd fo o = .ok r) :
    h.axes.length = o.axes.length ∧
    ∃ plans, (h.axes.zip o.axes).mapM (planOf fo) = .ok plans ∧
      r.axes = plans.map (fun p => Binning.fixed p.1) ∧ r.names = h.names ∧
      r.freq = Arr.zipWith (· + ·) (plans.foldl (planStep true) (h.freq, h.err2, 0)).1
                                   (plans.foldl (planStep false) (o.freq, o.err2, 0)).1 ∧
      r.err2 = Arr.zipWith (· + ·) (plans.foldl (planStep true) (h.freq, h.err2, 0)).2.1
                                   (plans.foldl (planStep false) (o.freq, o.err2, 0)).2.1 := by
  rw [HN.iadd_eq] at hr
  obtain ⟨hl, hr⟩ := guard_ok hr
  rw [hs, if_neg Bool.false_ne_true] at hr
  cases ha : h.axes.all Binning.isAdaptive with
  | false => rw [ha, if_neg Bool.false_ne_true] at hr; cases hr
  | true =>
    rw [ha, if_pos rfl] at hr
    have hg : HN.iaddGrow fo h o = .ok r := by
      cases hm : o.missed with
      | none => simp only [hm] at hr; exact hr
      | some m => simp only [hm] at hr; exact (guard_ok hr).2
    obtain ⟨plans, hp, hg⟩ := bind_ok _ _ _ (guard_ok hg).2
    cases hg
    exact ⟨by simpa using hl, plans, hp, rfl, rfl, rfl, rfl⟩

theorem isubN_parts (fo : FloatOps) (h o r : HN) (hr : h.isub fo o = .ok r) :
    ∃ o0 h0 aS aO, o.imul 0 .pyInt = .ok o0 ∧ h.imul 0 .pyInt = .ok h0 ∧ h.iadd fo o0 = .ok aS ∧
      h0.iadd fo o = .ok aO ∧ aS.freq.shape = h.freq.shape ∧
      ((Arr.zipWith (· - ·) aS.freq aO.freq).data.any (· < 0)) = false ∧
      r = { h with dtype := h.dtype.promote o.dtype, freq := Arr.zipWith (· - ·) aS.freq aO.freq,
                   err2 := Arr.zipWith (· + ·) aS.err2 aO.err2, missed := nsub h.missed o.missed } := by
  obtain ⟨o0, e1, hr⟩ := bind_ok _ _ _ hr
  obtain ⟨h0, e2, hr⟩ := bind_ok _ _ _ hr
  obtain ⟨aS, e3, hr⟩ := bind_ok _ _ _ hr
  obtain ⟨aO, e4, hr⟩ := bind_ok _ _ _ hr
  obtain ⟨hsh, hr⟩ := guard_ok (c := (aS.freq.shape != h.freq.shape) = true) hr
  obtain ⟨hneg, hr⟩ := guard_ok (c := ((Arr.zipWith (· - ·) aS.freq aO.freq).data.any (· < 0)) = true) hr
  cases hr
  exact ⟨o0, h0, aS, aO, e1, e2, e3, e4, by simpa using hsh, Bool.eq_false_iff.mpr hneg, rfl⟩

end Physt
