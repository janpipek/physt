import Physt.Proofs.Span
import Physt.Proofs.Lists
/-! Growth of a fixed-width grid by `_force_bin_existence_single`: the new range is the hull of the old
    one and the cell of the value, and the reshape instruction is the right one for that growth
    (`ReshapeOK`, with what `_reshape_data` then does).  The bins of a grid (`binsFrom`) are rising and
    consecutive, and `find_bin` on them returns the cell of the value. -/
namespace Physt
namespace Grid

/-- the edge function of a grid is strictly increasing -/
def EdgeMono (fo : FloatOps) (w s : Rat) : Prop := ∀ a b : Int, a < b → fo.edge w s a < fo.edge w s b

/-- `k` is the cell of `v` -/
def CellOf (edge : Int → Rat) (v : Rat) (k : Int) : Prop := edge k ≤ v ∧ v < edge (k + 1)

theorem EdgeMono.strictMono {fo : FloatOps} {w s : Rat} (hm : EdgeMono fo w s) : StrictMono (fo.edge w s) :=
  fun _ _ h => hm _ _ h

/-- on which side of an edge a value lies is read off its cell -/
theorem cell_le_iff {edge : Int → Rat} (hm : ∀ a b : Int, a < b → edge a < edge b) {v : Rat} {k t : Int}
    (hk : CellOf edge v k) : edge t ≤ v ↔ t ≤ k := by
  have hs : StrictMono edge := fun _ _ h => hm _ _ h
  refine ⟨fun h => ?_, fun h => (hs.monotone h).trans hk.1⟩
  by_contra hn
  exact lt_irrefl _ (lt_of_lt_of_le hk.2 ((hs.monotone (show k + 1 ≤ t by omega)).trans h))

theorem cell_lt_iff {edge : Int → Rat} (hm : ∀ a b : Int, a < b → edge a < edge b) {v : Rat} {k t : Int}
    (hk : CellOf edge v k) : v < edge t ↔ k < t := by
  rw [← not_le, cell_le_iff hm hk, not_le]

theorem cell_ge_of_le {edge : Int → Rat} (hm : ∀ a b : Int, a < b → edge a < edge b) {v : Rat} {k t : Int}
    (hk : CellOf edge v k) (hv : edge t ≤ v) : t ≤ k :=
  (cell_le_iff hm hk).mp hv

theorem edgeAt_congr (fo : FloatOps) {g g' : Grid} (hw : g'.w = g.w) (hs : g'.shift = g.shift) :
    g'.edgeAt fo = g.edgeAt fo := by
  funext c; simp only [edgeAt, hw, hs]

end Grid
open Grid

/-- the reshape instruction `r` is the right one for the growth `g → g'` -/
def ReshapeOK (g g' : Grid) (r : Reshape) : Prop :=
  (g.count = 0 ∧ r = .fresh) ∨
  (r = .noChange ∧ g'.tmin = g.tmin ∧ g'.count = g.count) ∨
  (0 < g.count ∧ r = .shift (g.tmin - g'.tmin).toNat ∧ g'.tmin ≤ g.tmin ∧ g.tmin + g.count ≤ g'.tmin + g'.count)

theorem ReshapeOK.refl (g : Grid) : ReshapeOK g g .noChange := Or.inr (Or.inl ⟨rfl, rfl, rfl⟩)

/-- a growth contains the old range -/
theorem ReshapeOK.contains {g g' : Grid} {r : Reshape} (ok : ReshapeOK g g' r) (hp : 0 < g.count) :
    g'.tmin ≤ g.tmin ∧ g.tmin + g.count ≤ g'.tmin + g'.count := by
  rcases ok with ⟨h0, _⟩ | ⟨_, e1, e2⟩ | ⟨_, _, e1, e2⟩ <;> omega

/-- two growth steps in a row, with the instruction `_force_bin_existence` hands on: the first one unless
    it says "no change" -/
theorem ReshapeOK.comp {g g1 g2 : Grid} {r1 r2 : Reshape} (ok1 : ReshapeOK g g1 r1) (ok2 : ReshapeOK g1 g2 r2)
    (h1 : 0 < g1.count) (ht : g2.tmin = g1.tmin) : ReshapeOK g g2 (if r1 = .noChange then r2 else r1) := by
  rcases ok1 with ⟨h0, rfl⟩ | ⟨rfl, e1, e2⟩ | ⟨hp, rfl, e1, e2⟩
  · exact Or.inl ⟨h0, rfl⟩
  · rw [if_pos rfl]
    rcases ok2 with ⟨h0', _⟩ | ⟨rfl, f1, f2⟩ | ⟨hp', rfl, f1, f2⟩
    · omega
    · exact Or.inr (Or.inl ⟨rfl, by omega, by omega⟩)
    · exact Or.inr (Or.inr ⟨by omega, by rw [e1], by omega, by omega⟩)
  · have := ok2.contains h1
    exact Or.inr (Or.inr ⟨hp, by rw [if_neg (by simp), ht], by omega, by omega⟩)

/-- `_reshape_data` told to move the contents `k` cells to the right, when they fit -/
theorem reshape1_shift_eq (old : List Rat) (k newSize : Nat) (h : k + old.length ≤ newSize) :
    reshape1 old newSize (.shift k)
      = List.replicate k 0 ++ old ++ List.replicate (newSize - k - old.length) 0 :=
  List.take_of_length_le (by simp; omega)

/-- a right instruction moves the old contents by the cells added on the left, pads on the right -/
theorem reshape1_of_ok {g g' : Grid} {r : Reshape} (ok : ReshapeOK g g' r) (old : List Rat)
    (hold : old.length = g.count) :
    (g.count = 0 → reshape1 old g'.count r = List.replicate g'.count 0) ∧
    (0 < g.count → reshape1 old g'.count r
      = List.replicate (g.tmin - g'.tmin).toNat 0 ++ old ++
        List.replicate (g'.count - (g.tmin - g'.tmin).toNat - g.count) 0) := by
  rcases ok with ⟨h0, rfl⟩ | ⟨rfl, h1, h2⟩ | ⟨hp, rfl, h1, h2⟩
  · exact ⟨fun _ => rfl, fun hp => by omega⟩
  · constructor
    · intro h0
      have : old = [] := List.length_eq_zero_iff.mp (by omega)
      subst this
      simp [reshape1, h2, h0]
    · intro _
      have e1 : (g.tmin - g'.tmin).toNat = 0 := by omega
      have e2 : g'.count - g.count = 0 := by omega
      simp [reshape1, e1, e2]
  · constructor
    · intro h0; omega
    · intro _
      rw [reshape1_shift_eq _ _ _ (by omega), hold]

namespace Grid

/-- **`_force_bin_existence_single` on a grid that is aligned when empty, in terms of the cell `k` of the
    value**: an empty grid becomes the one cell; a cell left of the range extends it to the left, a cell
    right of it to the right — up to but without cell `k` itself when the value sits on its left edge and
    `includes_right_edge` is set; a cell inside changes nothing. -/
theorem forceSingle_eq (fo : FloatOps) (fuel : Nat) (g : Grid) (v : Rat) (k : Int) (ire : Bool)
    (halign : g.count = 0 → g.align = true) (hm : EdgeMono fo g.w g.shift) (hk : CellOf (g.edgeAt fo) v k)
    (hf : (fo.est g.w g.shift v - k).natAbs ≤ fuel) :
    g.forceSingle fo fuel v ire =
      if g.count = 0 then ({ g with tmin := k, count := 1 }, .fresh)
      else if k < g.tmin then
        ({ g with tmin := k, count := g.count + (g.tmin - k).toNat }, .shift (g.tmin - k).toNat)
      else if g.tmin + g.count ≤ k then
        if g.edgeAt fo k = v ∧ ire = true then
          if k = g.tmin + g.count then (g, .noChange) else ({ g with count := (k - g.tmin).toNat }, .shift 0)
        else ({ g with count := (k + 1 - g.tmin).toNat }, .shift 0)
      else (g, .noChange) := by
  have hloc : g.findIndex fo fuel v = k := locate_spec (g.edgeAt fo) v hm k _ fuel hk hf
  simp only [forceSingle, hloc, firstEdge, lastEdge, cell_lt_iff (edge := g.edgeAt fo) hm hk,
    cell_le_iff (edge := g.edgeAt fo) hm hk]
  by_cases h0 : g.count = 0
  · simp only [h0, halign h0, if_true]
  · by_cases h1 : k < g.tmin
    · have e : g.tmin - ((g.tmin - k).toNat : Int) = k := by omega
      simp only [h0, h1, if_false, if_true, e, if_neg (show ¬ (g.tmin - k).toNat = 0 by omega)]
    · by_cases h2 : g.tmin + g.count ≤ k
      · simp only [h0, h1, h2, if_false, if_true]
        by_cases hon : g.edgeAt fo k = v ∧ ire = true
        · have e : ((g.count : Int) + (k - g.tmin + 1 - 1 - g.count)).toNat = (k - g.tmin).toNat := by omega
          have e' : k - g.tmin + 1 - 1 - (g.count : Int) = 0 ↔ k = g.tmin + g.count := by omega
          simp only [hon, and_self, if_true, e, e']
        · have e : ((g.count : Int) + (k - g.tmin + 1 - 0 - g.count)).toNat = (k + 1 - g.tmin).toNat := by omega
          simp only [hon, if_false, e, if_neg (show ¬ k - g.tmin + 1 - 0 - (g.count : Int) = 0 by omega)]
      · simp only [h0, h1, h2, if_false]

/-- what "the new range is the hull of the old range and one cell" says about first cell and count -/
theorem span_hull_cell {g g' : Grid} {k : Int} :
    g'.span = hull g.span (some (k, k + 1)) ↔
    g'.tmin ≤ k ∧ k < g'.tmin + g'.count ∧
    (g.count = 0 → g'.tmin = k ∧ g'.count = 1) ∧
    (0 < g.count → g'.tmin = min g.tmin k ∧ g'.tmin + g'.count = max (g.tmin + g.count) (k + 1)) := by
  by_cases h0 : g.count = 0
  · rw [span_of_zero h0, hull_none_left, span_eq_some]
    simp only [h0, lt_self_iff_false, false_implies, true_implies, and_true]
    omega
  · have hp : 0 < g.count := Nat.pos_of_ne_zero h0
    rw [span_of_pos hp, hull_some_some, span_eq_some]
    simp only [h0, hp, false_implies, true_implies, true_and]
    omega

/-- one growth step of a right-open grid: flags, width and origin are kept, the reshape instruction is the
    right one, and the new range is the hull of the old range and the cell of the value -/
theorem forceSingle_spec (fo : FloatOps) (fuel : Nat) (g : Grid) (v : Rat) (k : Int)
    (halign : g.count = 0 → g.align = true) (hm : EdgeMono fo g.w g.shift) (hk : CellOf (g.edgeAt fo) v k)
    (hf : (fo.est g.w g.shift v - k).natAbs ≤ fuel) :
    ∃ g' r, g.forceSingle fo fuel v false = (g', r) ∧
      g'.w = g.w ∧ g'.shift = g.shift ∧ g'.align = g.align ∧ g'.adaptive = g.adaptive ∧ g'.ire = g.ire ∧
      ReshapeOK g g' r ∧ g'.span = hull g.span (some (k, k + 1)) := by
  rw [forceSingle_eq fo fuel g v k false halign hm hk hf]
  simp only [Bool.false_eq_true, and_false, if_false]
  split_ifs with h0 h1 h2
  · exact ⟨_, _, rfl, rfl, rfl, rfl, rfl, rfl, Or.inl ⟨h0, rfl⟩, span_hull_cell.mpr (by dsimp only; omega)⟩
  · exact ⟨_, _, rfl, rfl, rfl, rfl, rfl, rfl,
      Or.inr (Or.inr ⟨by omega, rfl, le_of_lt h1, by dsimp only; omega⟩), span_hull_cell.mpr (by dsimp only; omega)⟩
  · exact ⟨_, _, rfl, rfl, rfl, rfl, rfl, rfl,
      Or.inr (Or.inr ⟨by omega, by simp, le_refl _, by dsimp only; omega⟩), span_hull_cell.mpr (by dsimp only; omega)⟩
  · exact ⟨_, _, rfl, rfl, rfl, rfl, rfl, rfl, ReshapeOK.refl g, span_hull_cell.mpr (by omega)⟩

theorem forceSingle_reshapeOK (fo : FloatOps) (fuel : Nat) (g : Grid) (v : Rat) (k : Int)
    (hm : EdgeMono fo g.w g.shift) (hk : CellOf (g.edgeAt fo) v k)
    (hf : (fo.est g.w g.shift v - k).natAbs ≤ fuel) :
    ReshapeOK g (g.forceSingle fo fuel v false).1 (g.forceSingle fo fuel v false).2 := by
  by_cases h0 : g.count = 0
  · exact Or.inl ⟨h0, by simp [forceSingle, h0]⟩
  · obtain ⟨g', r, e, _, _, _, _, _, ok, _⟩ := forceSingle_spec fo fuel g v k (fun h => absurd h h0) hm hk hf
    rw [e]; exact ok

/-- **Growth covers the value and keeps the old range** (aligned grid, right-open). -/
theorem forceSingle_covers (fo : FloatOps) (fuel : Nat) (g : Grid) (v : Rat) (k : Int)
    (halign : g.align = true) (hm : EdgeMono fo g.w g.shift) (hk : CellOf (g.edgeAt fo) v k)
    (hf : (fo.est g.w g.shift v - k).natAbs ≤ fuel) :
    let g' := (g.forceSingle fo fuel v false).1
    g'.w = g.w ∧ g'.shift = g.shift ∧ g'.align = g.align ∧ g'.adaptive = g.adaptive ∧ g'.ire = g.ire ∧
    g'.tmin ≤ k ∧ k < g'.tmin + g'.count ∧
    (g.count = 0 → g'.tmin = k ∧ g'.count = 1) ∧
    (0 < g.count → g'.tmin = min g.tmin k ∧ g'.tmin + g'.count = max (g.tmin + g.count) (k + 1)) := by
  obtain ⟨g', r, e, hw, hs, hal, had, hire, _, hsp⟩ := forceSingle_spec fo fuel g v k (fun _ => halign) hm hk hf
  rw [e]
  exact ⟨hw, hs, hal, had, hire, span_hull_cell.mp hsp⟩

/-- bins of a grid, from cell `t`, `n` of them -/
def binsFrom (edge : Int → Rat) (t : Int) (n : Nat) : Bins :=
  (List.range n).map fun (i : Nat) => (edge (t + (i : Int)), edge (t + (i : Int) + 1))

theorem bins_eq_binsFrom (fo : FloatOps) (g : Grid) : g.bins fo = binsFrom (g.edgeAt fo) g.tmin g.count := rfl

theorem binsFrom_succ (edge : Int → Rat) (t : Int) (n : Nat) :
    binsFrom edge t (n + 1) = (edge t, edge (t + 1)) :: binsFrom edge (t + 1) n := by
  unfold binsFrom
  rw [List.range_succ_eq_map, List.map_cons, List.map_map]
  congr 1
  · simp
  · apply List.map_congr_left
    intro i _
    simp only [Function.comp, Nat.cast_succ]
    congr 2 <;> ring

theorem binsFrom_getElem? (edge : Int → Rat) (t : Int) (n i : Nat) (hi : i < n) :
    (binsFrom edge t n)[i]? = some (edge (t + (i : Int)), edge (t + (i : Int) + 1)) := by
  unfold binsFrom
  simp [List.getElem?_map, List.getElem?_range hi]

theorem binsFrom_length (edge : Int → Rat) (t : Int) (n : Nat) : (binsFrom edge t n).length = n := by
  simp [binsFrom]

theorem binsFrom_ends (edge : Int → Rat) (t : Int) (n : Nat) (hne : binsFrom edge t n ≠ []) :
    ((binsFrom edge t n).head hne).1 = edge t ∧ ((binsFrom edge t n).getLast hne).2 = edge (t + n) := by
  cases n with
  | zero => exact (hne rfl).elim
  | succ m =>
    constructor
    · simp only [binsFrom_succ, List.head_cons]
    · simp only [binsFrom, List.range_succ, List.map_append, List.map_cons, List.map_nil,
        List.getLast_append_singleton, Nat.cast_succ, add_assoc]

theorem binsFrom_rising (edge : Int → Rat) (hm : ∀ a b : Int, a < b → edge a < edge b) (t : Int) (n : Nat) :
    Rising (binsFrom edge t n) := by
  have hs : StrictMono edge := fun _ _ h => hm _ _ h
  rw [rising_iff, binsFrom, List.pairwise_map]
  constructor
  · intro b hb
    obtain ⟨i, _, rfl⟩ := List.mem_map.mp hb
    exact hm _ _ (by omega)
  · exact List.pairwise_lt_range.imp fun h => hs.monotone (by omega)

theorem binsFrom_consecutive (edge : Int → Rat) (t : Int) (n : Nat) : consecutiveB (binsFrom edge t n) = true := by
  rw [consecutiveB_iff_isChain, List.isChain_iff_getElem]
  intro i h
  simp only [binsFrom, List.getElem_map, List.getElem_range]
  rw [Nat.cast_succ, add_assoc]

theorem bins_rising (fo : FloatOps) (g : Grid) (hm : EdgeMono fo g.w g.shift) : Rising (g.bins fo) :=
  binsFrom_rising _ hm _ _

theorem bins_length (fo : FloatOps) (g : Grid) : (g.bins fo).length = g.count :=
  binsFrom_length _ _ _

/-- in a grid whose range contains the cell of `v`, `find_bin` returns that cell's bin -/
theorem findBinIn_grid (edge : Int → Rat) (hm : ∀ a b : Int, a < b → edge a < edge b) (t : Int) (n : Nat)
    (v : Rat) (k : Int) (hk : CellOf edge v k) (h1 : t ≤ k) (h2 : k < t + n) :
    H1.findBinIn (binsFrom edge t n) v = .bin (k - t).toNat := by
  rw [findBinIn_bin_iff _ (binsFrom_rising edge hm t n)]
  unfold inBin
  have hi : (k - t).toNat < n := by omega
  rw [binsFrom_getElem? edge t n _ hi]
  have : t + ((k - t).toNat : Int) = k := by omega
  simp only [this]
  simp [hk.1, hk.2]

theorem findBinIn_bins (fo : FloatOps) (g : Grid) {v : Rat} {k : Int} (hm : EdgeMono fo g.w g.shift)
    (hk : CellOf (g.edgeAt fo) v k) (h1 : g.tmin ≤ k) (h2 : k < g.tmin + g.count) :
    H1.findBinIn (g.bins fo) v = .bin (k - g.tmin).toNat :=
  findBinIn_grid _ hm _ _ v k hk h1 h2

end Grid
end Physt
