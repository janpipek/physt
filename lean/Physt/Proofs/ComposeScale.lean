import Physt.Proofs.ScaleND
import Physt.Proofs.DType
/-!
# Composition of scalings with one another and with the linear operations (C06)

Every accepted `*= c` / `/= c` returns `h.scaled p d`: `h` with contents and missed slots × p, squared errors
× p², statistics scaled by p, and dtype `d` (`imul_iff`, `idiv_iff`, `scaleOp_iff`).  Two scalings compose to one
(`scaled_scaled`), so a chain of them is one scaling by the product.
The linear operations commute with `scaled` as functions (`iadd_scaled`, `mergeWithMap_scaled`,
`getSlice_scaled`, and their N-d counterparts); the theorems of `Theorems/C06_Commute.lean` read that off.
-/
namespace Physt
open H1

/-! ## Missed slots, statistics, lists under a factor -/

theorem nscale_mul (a : NRat) (c d : Rat) : nscale (nscale a c) d = nscale a (c * d) := by
  cases a with
  | none => rfl
  | some x => simp only [nscale, Option.map_some, mul_assoc]

theorem nscale_one (a : NRat) : nscale a 1 = a := by
  cases a with
  | none => rfl
  | some x => simp [nscale]

theorem nscale_nadd (a b : NRat) (c : Rat) : nscale (nadd a b) c = nadd (nscale a c) (nscale b c) := by
  cases a <;> cases b <;> simp [nscale, nadd, bind, Option.bind, add_mul]

theorem Stats.scale_scale (a : Stats) (c d : Rat) : (a.scale c).scale d = a.scale (c * d) := by
  cases hv : a.valid with
  | false => simp [Stats.scale, hv, Stats.invalid]
  | true => simp [Stats.scale, hv, mul_assoc]

theorem Stats.scale_add (a b : Stats) (c : Rat) : (a.add b).scale c = (a.scale c).add (b.scale c) := by
  cases ha : a.valid <;> cases hb : b.valid <;>
    simp [Stats.scale, Stats.add, ha, hb, Stats.invalid, add_mul]

theorem map_mul_mul (l : List Rat) (p q : Rat) : (l.map (· * p)).map (· * q) = l.map (· * (p * q)) := by
  simp only [List.map_map, Function.comp_def, mul_assoc]

theorem map_mul_one (l : List Rat) : l.map (· * (1 : Rat)) = l := by
  simp only [mul_one, List.map_id']

theorem any_neg_eq_false (l : List Rat) : l.any (· < 0) = false ↔ ∀ x ∈ l, 0 ≤ x := by
  simp only [List.any_eq_false, decide_eq_true_eq, not_lt]

/-! ## 1-D: what a scaling returns -/

theorem H1.scaled_freq (h : H1) (p : Rat) (d : DType) : (h.scaled p d).freq = h.freq.map (· * p) := rfl

theorem H1.scaled_dtype (h : H1) (p : Rat) (d : DType) : (h.scaled p d).dtype = d := rfl

theorem H1.scaled_scaled (h : H1) (p q : Rat) (d e : DType) : (h.scaled p d).scaled q e = h.scaled (p * q) e := by
  simp only [H1.scaled, map_mul_mul, nscale_mul, Stats.scale_scale, mul_mul_mul_comm p q]

/-- `r` is `h` with contents and missed counts × p, squared errors × p² (bins and `keep_missed` untouched) -/
structure ScaledBy (h r : H1) (p : Rat) : Prop where
  freq : r.freq = h.freq.map (· * p)
  err2 : r.err2 = h.err2.map (· * (p * p))
  under : r.under = nscale h.under p
  over : r.over = nscale h.over p
  inner : r.inner = nscale h.inner p
  binning : r.binning = h.binning
  keep : r.keep = h.keep

theorem scaledBy_scaled (h : H1) (p : Rat) (d : DType) : ScaledBy h (h.scaled p d) p :=
  ⟨rfl, rfl, rfl, rfl, rfl, rfl, rfl⟩

theorem ScaledBy.refl (h : H1) : ScaledBy h h 1 :=
  ⟨(map_mul_one _).symm, by rw [one_mul]; exact (map_mul_one _).symm, (nscale_one _).symm, (nscale_one _).symm,
    (nscale_one _).symm, rfl, rfl⟩

theorem ScaledBy.congr {h r : H1} {p q : Rat} (a : ScaledBy h r p) (e : p = q) : ScaledBy h r q := e ▸ a

theorem ScaledBy.one {h r : H1} (a : ScaledBy h r 1) :
    r.freq = h.freq ∧ r.err2 = h.err2 ∧ r.under = h.under ∧ r.over = h.over ∧ r.inner = h.inner ∧
    r.binning = h.binning ∧ r.keep = h.keep :=
  ⟨a.freq.trans (map_mul_one _), a.err2.trans (by rw [one_mul]; exact map_mul_one _),
    a.under.trans (nscale_one _), a.over.trans (nscale_one _), a.inner.trans (nscale_one _), a.binning, a.keep⟩

/-! ## Chains of scalings -/

/-- one step of a chain: `h *= c` (with the kind of the scalar) or `h /= c` -/
inductive ScaleOp
  | mul (c : Rat) (k : NumKind)
  | div (c : Rat)

namespace ScaleOp
def factor : ScaleOp → Rat
  | mul c _ => c
  | div c => 1 / c
/-- the dtype the step promotes the contents with -/
def dtype : ScaleOp → DType
  | mul _ k => k.dtype
  | div _ => .f64
/-- a division by zero is never accepted -/
def defined : ScaleOp → Prop
  | mul _ _ => True
  | div c => c ≠ 0
end ScaleOp

def H1.scaleOp (h : H1) : ScaleOp → R H1
  | .mul c k => h.imul c k
  | .div c => h.idiv c

/-- `((h op₁) op₂) … opₙ`, in place or copying (the model's operations are values) -/
def H1.scaleChain (h : H1) : List ScaleOp → R H1
  | [] => pure h
  | op :: ops => do let h' ← h.scaleOp op; h'.scaleChain ops

def chainFactor : List ScaleOp → Rat
  | [] => 1
  | op :: ops => op.factor * chainFactor ops

/-- the dtype a chain starting from `d` ends in -/
def chainDType (d : DType) : List ScaleOp → DType
  | [] => d
  | op :: ops => chainDType (d.promote op.dtype) ops

theorem scaleOp_iff (h r : H1) (op : ScaleOp) :
    h.scaleOp op = .ok r ↔ op.defined ∧ (h.freq.map (· * op.factor)).any (· < 0) = false ∧
      r = h.scaled op.factor (h.dtype.promote op.dtype) := by
  cases op with
  | mul c k => exact (imul_iff h r c k).trans ⟨fun x => ⟨trivial, x⟩, fun x => x.2⟩
  | div c => exact idiv_iff h r c

theorem scaleOp_scaled (h r : H1) (p : Rat) (d : DType) (op : ScaleOp) :
    (h.scaled p d).scaleOp op = .ok r ↔ op.defined ∧ (h.freq.map (· * (p * op.factor))).any (· < 0) = false ∧
      r = h.scaled (p * op.factor) (d.promote op.dtype) := by
  rw [scaleOp_iff, H1.scaled_scaled, H1.scaled_freq, map_mul_mul, H1.scaled_dtype]

theorem idiv_scaled (h r : H1) (p c : Rat) (d : DType) :
    (h.scaled p d).idiv c = .ok r ↔ c ≠ 0 ∧ (h.freq.map (· * (p * (1 / c)))).any (· < 0) = false ∧
      r = h.scaled (p * (1 / c)) (d.promote .f64) :=
  scaleOp_scaled h r p d (.div c)

theorem imul_scaled (h r : H1) (p c : Rat) (d : DType) (k : NumKind) :
    (h.scaled p d).imul c k = .ok r ↔ (h.freq.map (· * (p * c))).any (· < 0) = false ∧
      r = h.scaled (p * c) (d.promote k.dtype) :=
  (scaleOp_scaled h r p d (.mul c k)).trans ⟨fun x => x.2, fun x => ⟨trivial, x⟩⟩

theorem scaleChain_scaled (ops : List ScaleOp) : ∀ (h r : H1) (p : Rat) (d : DType),
    (h.freq.map (· * p)).any (· < 0) = false → (h.scaled p d).scaleChain ops = .ok r →
    r = h.scaled (p * chainFactor ops) (chainDType d ops) ∧ r.freq.any (· < 0) = false ∧
      ∀ op ∈ ops, op.defined := by
  induction ops with
  | nil =>
    intro h r p d hneg hr
    cases hr
    exact ⟨by rw [chainFactor, mul_one]; rfl, hneg, fun _ h => nomatch h⟩
  | cons op ops ih =>
    intro h r p d _ hr
    obtain ⟨m, hm, hr⟩ := (bind_eq_ok _ _ _).mp hr
    obtain ⟨hdef, hneg, rfl⟩ := (scaleOp_scaled h m p d op).mp hm
    obtain ⟨e, hn, hd⟩ := ih h r _ _ hneg hr
    exact ⟨by rw [e, chainFactor, mul_assoc]; rfl, hn, List.forall_mem_cons.mpr ⟨hdef, hd⟩⟩

/-- **A chain of scalings is one scaling by the product.** -/
theorem scaleChain_ok (ops : List ScaleOp) (hne : ops ≠ []) (h r : H1) (hr : h.scaleChain ops = .ok r) :
    r = h.scaled (chainFactor ops) (chainDType h.dtype ops) ∧ r.freq.any (· < 0) = false ∧
      ∀ op ∈ ops, op.defined := by
  cases ops with
  | nil => exact absurd rfl hne
  | cons op ops =>
    obtain ⟨m, hm, hr⟩ := (bind_eq_ok _ _ _).mp hr
    obtain ⟨hdef, hneg, rfl⟩ := (scaleOp_iff h m op).mp hm
    obtain ⟨e, hn, hd⟩ := scaleChain_scaled ops h r _ _ hneg hr
    exact ⟨e, hn, List.forall_mem_cons.mpr ⟨hdef, hd⟩⟩

theorem chainFactor_perm {a b : List ScaleOp} (h : a.Perm b) : chainFactor a = chainFactor b := by
  induction h with
  | nil => rfl
  | cons x _ ih => simp only [chainFactor, ih]
  | swap x y l => exact mul_left_comm _ _ _
  | trans _ _ ih1 ih2 => exact ih1.trans ih2

theorem chainDType_perm {a b : List ScaleOp} (h : a.Perm b) : ∀ d, chainDType d a = chainDType d b := by
  induction h with
  | nil => intro d; rfl
  | cons x _ ih => intro d; simp only [chainDType, ih]
  | swap x y l => intro d; simp only [chainDType, DType.promote_right_comm]
  | trans _ _ ih1 ih2 => intro d; exact (ih1 d).trans (ih2 d)

/-! ## 1-D: `+=`, `merge_bins` and slicing commute with `scaled` -/

theorem zipAdd_map_mul (a b : List Rat) (q : Rat) :
    zipAdd (a.map (· * q)) (b.map (· * q)) = (zipAdd a b).map (· * q) := by
  induction a generalizing b with
  | nil => simp [zipAdd]
  | cons x xs ih =>
    cases b with
    | nil => simp [zipAdd]
    | cons y ys =>
      have := ih ys
      simp only [zipAdd, List.map_cons, List.zipWith_cons_cons, List.cons.injEq] at this ⊢
      exact ⟨(add_mul x y q).symm, this⟩

theorem iadd_scaled (fo : FloatOps) (a b s : H1) (c : Rat) (d e : DType) (hs : a.sameBins fo b = true)
    (h : a.iadd fo b = .ok s) : (a.scaled c d).iadd fo (b.scaled c e) = .ok (s.scaled c (d.promote e)) := by
  have hs' : (a.scaled c d).sameBins fo (b.scaled c e) = true := hs
  cases (iadd_same_eq fo a b hs).symm.trans h
  rw [iadd_same_eq fo _ _ hs']
  simp only [H1.scaled, zipAdd_map_mul, nscale_nadd, Stats.scale_add]

theorem mergeVals_map_mul (vals : List Rat) (map : List Nat) (n : Nat) (q : Rat) :
    mergeVals (vals.map (· * q)) map n = (mergeVals vals map n).map (· * q) := by
  unfold mergeVals
  rw [List.map_map]
  apply List.map_congr_left
  intro j _
  simp only [Function.comp]
  rw [← sum_map_mul]
  congr 1
  rw [List.zip_map_left, List.filter_map, List.map_map, List.map_map]
  rfl

/-- merging does not look at the dtype: whatever rule `g` the scaling sets it by, before or after -/
theorem mergeWithMap_scaled (fo : FloatOps) (h : H1) (map : List Nat) (c : Rat) (g : DType → DType) :
    mergeWithMap fo (h.scaled c (g h.dtype)) map = (mergeWithMap fo h map).map fun m => m.scaled c (g m.dtype) := by
  simp only [mergeWithMap, H1.bins, H1.scaled, bind, Except.bind, pure, Except.pure, Except.map]
  split
  · rfl
  · cases mergeBinsAux ((h.binning.bins fo).zip map) none with
    | error e => rfl
    | ok nb => simp only [mergeVals_map_mul]

theorem mergeAmount_scaled (fo : FloatOps) (h : H1) (amount : Nat) (c : Rat) (g : DType → DType) :
    mergeAmount fo (h.scaled c (g h.dtype)) amount
      = (mergeAmount fo h amount).map fun m => m.scaled c (g m.dtype) := by
  unfold mergeAmount
  rw [H1.scaled_freq, List.length_map]
  by_cases ha : amount = 0
  · subst ha
    rfl
  · simp only [ha, if_false, bind, Except.bind]
    exact mergeWithMap_scaled fo h _ c g

theorem sliceList_map {α β} (f : α → β) (l : List α) (start stop : Option Int) :
    sliceList (l.map f) start stop = (sliceList l start stop).map f := by
  simp only [sliceList, List.length_map, pySlice, List.map_take, List.map_drop]

theorem ite_zero_mul (p : Prop) [Decidable p] (x c : Rat) : (if p then 0 else x * c) = (if p then 0 else x) * c := by
  rw [ite_mul, zero_mul]

/-- the weight cut off on either side is added to underflow / overflow before or after scaling alike -/
theorem getSlice_scaled (fo : FloatOps) (h : H1) (start stop : Option Int) (c : Rat) (d : DType) :
    getSlice fo (h.scaled c d) start stop = (getSlice fo h start stop).scaled c d := by
  simp only [getSlice, H1.scaled, H1.bins, H1.underflow, H1.overflow, sliceList_map, sum_map_mul]
  have hi : nscale (some 0) c = some 0 := congrArg some (zero_mul c)
  have hst : Stats.invalid.scale c = Stats.invalid := rfl
  rw [hi, hst]
  by_cases hk : h.keep = true
  · simp only [hk, if_true, nscale_nadd]
    congr 3
    · cases start with
      | none => exact (zero_mul c).symm
      | some s => exact ite_zero_mul _ _ c
    · cases stop with
      | none => exact (zero_mul c).symm
      | some s => exact ite_zero_mul _ _ c
  · simp only [hk, Bool.false_eq_true, if_false, hi]

/-! # N dimensions -/

theorem Arr.map_mul_mul (a : Arr) (p q : Rat) : (a.map (· * p)).map (· * q) = a.map (· * (p * q)) := by
  rw [Arr.map_map]
  exact congrArg a.map (funext fun x => mul_assoc x p q)

theorem HN.scaled_freq (h : HN) (p : Rat) (d : DType) : (h.scaled p d).freq = h.freq.map (· * p) := rfl

theorem HN.scaled_dtype (h : HN) (p : Rat) (d : DType) : (h.scaled p d).dtype = d := rfl

theorem HN.total_scaled (h : HN) (p : Rat) (d : DType) : (h.scaled p d).total = h.total * p :=
  Arr.total_map_mul h.freq p

theorem HN.scaled_scaled (h : HN) (p q : Rat) (d e : DType) : (h.scaled p d).scaled q e = h.scaled (p * q) e := by
  simp only [HN.scaled, Arr.map_mul_mul, nscale_mul, mul_mul_mul_comm p q]

/-- `r` is `h` with contents and the missed count × p, squared errors × p² (bins, names, `keep_missed` untouched) -/
structure ScaledByN (h r : HN) (p : Rat) : Prop where
  freq : r.freq = h.freq.map (· * p)
  err2 : r.err2 = h.err2.map (· * (p * p))
  missed : r.missed = nscale h.missed p
  axes : r.axes = h.axes
  keep : r.keep = h.keep
  names : r.names = h.names

theorem scaledByN_scaled (h : HN) (p : Rat) (d : DType) : ScaledByN h (h.scaled p d) p :=
  ⟨rfl, rfl, rfl, rfl, rfl, rfl⟩

theorem ScaledByN.refl (h : HN) : ScaledByN h h 1 :=
  ⟨(Arr.map_id' _ _ fun x => mul_one x).symm, (Arr.map_id' _ _ fun x => by rw [one_mul, mul_one]).symm,
    (nscale_one _).symm, rfl, rfl, rfl⟩

def HN.scaleOp (h : HN) : ScaleOp → R HN
  | .mul c k => h.imul c k
  | .div c => h.idiv c

def HN.scaleChain (h : HN) : List ScaleOp → R HN
  | [] => pure h
  | op :: ops => do let h' ← h.scaleOp op; h'.scaleChain ops

theorem HN.scaleOp_iff (h r : HN) (op : ScaleOp) :
    h.scaleOp op = .ok r ↔ op.defined ∧ (h.freq.map (· * op.factor)).data.any (· < 0) = false ∧
      r = h.scaled op.factor (h.dtype.promote op.dtype) := by
  cases op with
  | mul c k => exact (HN.imul_iff h r c k).trans ⟨fun x => ⟨trivial, x⟩, fun x => x.2⟩
  | div c => exact HN.idiv_iff h r c

theorem HN.scaleOp_scaled (h r : HN) (p : Rat) (d : DType) (op : ScaleOp) :
    (h.scaled p d).scaleOp op = .ok r ↔
      op.defined ∧ (h.freq.map (· * (p * op.factor))).data.any (· < 0) = false ∧
        r = h.scaled (p * op.factor) (d.promote op.dtype) := by
  rw [HN.scaleOp_iff, HN.scaled_scaled, HN.scaled_freq, Arr.map_mul_mul, HN.scaled_dtype]

theorem HN.idiv_scaled (h r : HN) (p c : Rat) (d : DType) :
    (h.scaled p d).idiv c = .ok r ↔ c ≠ 0 ∧ (h.freq.map (· * (p * (1 / c)))).data.any (· < 0) = false ∧
      r = h.scaled (p * (1 / c)) (d.promote .f64) :=
  HN.scaleOp_scaled h r p d (.div c)

theorem HN.imul_scaled (h r : HN) (p c : Rat) (d : DType) (k : NumKind) :
    (h.scaled p d).imul c k = .ok r ↔ (h.freq.map (· * (p * c))).data.any (· < 0) = false ∧
      r = h.scaled (p * c) (d.promote k.dtype) :=
  (HN.scaleOp_scaled h r p d (.mul c k)).trans ⟨fun x => x.2, fun x => ⟨trivial, x⟩⟩

theorem HN.scaleChain_scaled (ops : List ScaleOp) : ∀ (h r : HN) (p : Rat) (d : DType),
    (h.freq.map (· * p)).data.any (· < 0) = false → (h.scaled p d).scaleChain ops = .ok r →
    r = h.scaled (p * chainFactor ops) (chainDType d ops) ∧ r.freq.data.any (· < 0) = false ∧
      ∀ op ∈ ops, op.defined := by
  induction ops with
  | nil =>
    intro h r p d hneg hr
    cases hr
    exact ⟨by rw [chainFactor, mul_one]; rfl, hneg, fun _ h => nomatch h⟩
  | cons op ops ih =>
    intro h r p d _ hr
    obtain ⟨m, hm, hr⟩ := (bind_eq_ok _ _ _).mp hr
    obtain ⟨hdef, hneg, rfl⟩ := (HN.scaleOp_scaled h m p d op).mp hm
    obtain ⟨e, hn, hd⟩ := ih h r _ _ hneg hr
    exact ⟨by rw [e, chainFactor, mul_assoc]; rfl, hn, List.forall_mem_cons.mpr ⟨hdef, hd⟩⟩

/-- **A chain of scalings of an N-d histogram is one scaling by the product.** -/
theorem HN.scaleChain_ok (ops : List ScaleOp) (hne : ops ≠ []) (h r : HN) (hr : h.scaleChain ops = .ok r) :
    r = h.scaled (chainFactor ops) (chainDType h.dtype ops) ∧ r.freq.data.any (· < 0) = false ∧
      ∀ op ∈ ops, op.defined := by
  cases ops with
  | nil => exact absurd rfl hne
  | cons op ops =>
    obtain ⟨m, hm, hr⟩ := (bind_eq_ok _ _ _).mp hr
    obtain ⟨hdef, hneg, rfl⟩ := (HN.scaleOp_iff h m op).mp hm
    obtain ⟨e, hn, hd⟩ := HN.scaleChain_scaled ops h r _ _ hneg hr
    exact ⟨e, hn, List.forall_mem_cons.mpr ⟨hdef, hd⟩⟩

theorem Arr.zipWith_map_mul (a b : Arr) (q : Rat) :
    Arr.zipWith (· + ·) (a.map (· * q)) (b.map (· * q)) = (Arr.zipWith (· + ·) a b).map (· * q) := by
  unfold Arr.zipWith Arr.map
  simp only [Arr.mk.injEq, true_and]
  exact zipAdd_map_mul a.data b.data q

/-! ## N-d: the array operations behind projection, selection and merging are linear -/

theorem Arr.ofFn_map (shape : List Nat) (g : List Nat → Rat) (f : Rat → Rat) :
    (Arr.ofFn shape g).map f = Arr.ofFn shape (fun i => f (g i)) := by
  simp [Arr.ofFn, Arr.map, List.map_map, Function.comp_def]

theorem Arr.gather_map_mul (a : Arr) (axis newN : Nat) (src : Nat → List Nat) (q : Rat) :
    (a.map (· * q)).gather axis newN src = (a.gather axis newN src).map (· * q) := by
  unfold Arr.gather
  rw [Arr.ofFn_map]
  show Arr.ofFn (Arr.setAt a.shape axis newN) _ = _
  congr 1
  funext idx
  rw [← sum_map_mul_fn]
  congr 1
  apply List.map_congr_left
  intro k _
  exact Arr.get_map a (· * q) (zero_mul q) _

theorem Arr.squeeze_map_mul (a : Arr) (axis : Nat) (q : Rat) :
    (a.map (· * q)).squeeze axis = (a.squeeze axis).map (· * q) := by
  unfold Arr.squeeze
  rw [Arr.ofFn_map]
  show Arr.ofFn (Arr.removeAt a.shape axis) _ = _
  congr 1
  funext idx
  exact Arr.get_map a (· * q) (zero_mul q) _

theorem Arr.sumAxis_map_mul (a : Arr) (axis : Nat) (q : Rat) :
    (a.map (· * q)).sumAxis axis = (a.sumAxis axis).map (· * q) := by
  unfold Arr.sumAxis
  rw [show (a.map (· * q)).shape = a.shape from rfl, Arr.gather_map_mul, Arr.squeeze_map_mul]

theorem Arr.sumAxes_map_mul (l : List Nat) : ∀ (a : Arr) (q : Rat),
    (a.map (· * q)).sumAxes l = (a.sumAxes l).map (· * q) := by
  induction l with
  | nil => intro a q; rfl
  | cons x xs ih =>
    intro a q
    rw [Arr.sumAxes_cons, Arr.sumAxes_cons, Arr.sumAxis_map_mul, ih]

theorem Arr.selectSlice_map_mul (a : Arr) (axis lo hi : Nat) (q : Rat) :
    (a.map (· * q)).selectSlice axis lo hi = (a.selectSlice axis lo hi).map (· * q) :=
  Arr.gather_map_mul a axis (hi - lo) _ q

theorem Arr.selectInt_map_mul (a : Arr) (axis i : Nat) (q : Rat) :
    (a.map (· * q)).selectInt axis i = (a.selectInt axis i).map (· * q) := by
  unfold Arr.selectInt
  rw [Arr.gather_map_mul, Arr.squeeze_map_mul]

theorem Arr.mergeAxis_map_mul (a : Arr) (axis : Nat) (map : List Nat) (newN : Nat) (q : Rat) :
    (a.map (· * q)).mergeAxis axis map newN = (a.mergeAxis axis map newN).map (· * q) :=
  Arr.gather_map_mul a axis newN _ q

/-! ## N-d: `+=`, slicing, merging and projection commute with `scaled` -/

theorem HN.iadd_scaled (fo : FloatOps) (a b s : HN) (c : Rat) (d e : DType) (hs : a.sameBins fo b = true)
    (h : a.iadd fo b = .ok s) : (a.scaled c d).iadd fo (b.scaled c e) = .ok (s.scaled c (d.promote e)) := by
  have hs' : (a.scaled c d).sameBins fo (b.scaled c e) = true := hs
  rw [HN.iadd_same fo a b hs] at h
  rw [← Except.ok.inj h, HN.iadd_same fo _ _ hs']
  simp only [HN.scaled, Arr.zipWith_map_mul, nscale_nadd]

theorem HN.selectSlice_dtype (fo : FloatOps) (h : HN) (axis : Nat) (start stop : Option Int) :
    (h.selectSlice fo axis start stop).dtype = h.dtype := by
  unfold HN.selectSlice
  cases h.axes[axis]? <;> rfl

theorem HN.selectSlice_scaled (fo : FloatOps) (h : HN) (axis : Nat) (start stop : Option Int) (c : Rat)
    (d : DType) : (h.scaled c d).selectSlice fo axis start stop = (h.selectSlice fo axis start stop).scaled c d := by
  simp only [HN.selectSlice, HN.scaled, Arr.shape_map]
  cases h.axes[axis]? with
  | none => rfl
  | some bn =>
    simp only [Arr.selectSlice_map_mul]
    rfl

/-- merging does not look at the dtype: whatever rule `g` the scaling sets it by, before or after -/
theorem HN.mergeAxisWithMap_scaled (fo : FloatOps) (h : HN) (axis : Nat) (map : List Nat) (c : Rat)
    (g : DType → DType) :
    (h.scaled c (g h.dtype)).mergeAxisWithMap fo axis map
      = (h.mergeAxisWithMap fo axis map).map fun m => m.scaled c (g m.dtype) := by
  simp only [HN.mergeAxisWithMap, HN.scaled, bind, Except.bind, pure, Except.pure, Except.map]
  split
  · rfl
  · cases h.axes[axis]? with
    | none => rfl
    | some bn =>
      dsimp only
      cases mergeBinsAux ((bn.bins fo).zip map) none with
      | error e => rfl
      | ok nb => simp only [Arr.mergeAxis_map_mul]

/-- the dtype of `projection(h) * c` and of `projection(h * c)` agree unless an `int16` histogram meets a
    `float16` / `float32` scalar (see the counter-example in `Theorems/C06_Commute.lean`) -/
theorem DType.projection_promote (d kd : DType) (hok : d = .i16 → kd ≠ .f16 ∧ kd ≠ .f32) :
    (if d.isInt then DType.i64 else d).promote kd
      = if (d.promote kd).isInt then DType.i64 else d.promote kd := by
  cases d <;> cases kd <;> first | rfl | (exfalso; have := hok rfl; simp at this)

end Physt
