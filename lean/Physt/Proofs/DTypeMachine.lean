import Physt.Model.DTypeMachine
import Physt.Proofs.DType
/-!
# Lemmas about the dtype machine (`Model/DTypeMachine.lean`)

What each primitive of the machine (`setAll`, `coerce`, the two setters, `reshape`, …) does to the
invariants `Consistent` and `MissedInv`, then the operations.  Two observations carry most of it:
the repaired setter is `_coerce_dtype` followed by a store (`assignFreq_eq`), so a property of
`_dtype` and `_missed` that `_coerce_dtype` keeps survives every setter (`Outside.assign`); and on a
consistent histogram two assignments that stay in the content type change nothing (`assign_pair`).
-/
namespace Physt
open DType

namespace DType

theorem canCast_sumType (a : DType) : canCast a a.sumType = true := by cases a <;> decide

theorem sumType_isInt (a : DType) : a.sumType.isInt = a.isInt := by cases a <;> decide

theorem sumType_eq_iff (a : DType) : a.sumType = a ↔ (a ≠ i16 ∧ a ≠ i32) := by cases a <;> decide

theorem weakFloat_float (a : DType) : a.isInt = false → a.weakFloat = a := by
  intro h; simp [weakFloat, h]

theorem weakFloat_isInt (a : DType) : a.weakFloat.isInt = false := by cases a <;> decide

/-- after `_coerce_dtype(np.float64)` the type is float64 or float128 -/
theorem promote_f64 (a : DType) : promote a f64 = f64 ∨ promote a f64 = f128 := by cases a <;> decide

theorem promote_f64_isInt (a : DType) : (promote a f64).isInt = false := by
  rw [promote_isInt]; exact Bool.and_false _

theorem promote_f128 (a : DType) : promote a f128 = f128 := by cases a <;> rfl

end DType

namespace DScalar

/-- `array * c` after `_coerce_dtype(dtype of c)` stays in the coerced type -/
theorem mulType_coerced (r : DType) (c : DScalar) : c.mulType (promote r c.dtype) = promote r c.dtype := by
  cases c with
  | pyInt => rfl
  | pyFloat => exact weakFloat_float _ (promote_f64_isInt r)
  | np k => exact promote_promote_right r k

/-- `array / c` after `_coerce_dtype(np.float64)` stays in the coerced type — **except** for a
    float128 numpy scalar under a narrower histogram -/
theorem divType_coerced (r : DType) (c : DScalar) :
    c.divType (promote r f64) = promote r f64 ↔ ¬ (c = .np f128 ∧ r ≠ f128) := by
  cases c with
  | pyInt | pyFloat => exact iff_of_true (weakFloat_float _ (promote_f64_isInt r)) (fun h => nomatch h.1)
  | np k =>
    exact (by decide +kernel : ∀ r ∈ all, ∀ k ∈ all,
      (DScalar.np k).divType (promote r f64) = promote r f64 ↔ ¬ (DScalar.np k = .np f128 ∧ r ≠ f128))
      r (mem_all r) k (mem_all k)

/-- a float array divided by anything is a float array -/
theorem divType_float (a : DType) (c : DScalar) (ha : a.isInt = false) : (c.divType a).isInt = false := by
  cases c with
  | pyInt | pyFloat => exact weakFloat_isInt a
  | np k => simp [divType, ha, promote_isInt]

theorem divType_coerced_isInt (r : DType) (c : DScalar) : (c.divType (promote r f64)).isInt = false :=
  divType_float _ c (promote_f64_isInt r)

/-- a float128 divisor: the quotient is float128 -/
theorem divType_f128 (a : DType) : (DScalar.np f128).divType a = f128 := by cases a <;> decide

theorem mulType_float (a : DType) (c : DScalar) : a.isInt = false → (c.mulType a).isInt = false := by
  cases c with
  | pyInt => exact id
  | pyFloat => intro h; simpa [mulType, weakFloat_float a h] using h
  | np k => intro h; rw [mulType, promote_isInt, h]; rfl

/-- `array * c` is the array's type or a float type -/
theorem mulType_py (a : DType) (c : DScalar) (hc : ∀ k, c ≠ .np k) : c.mulType a = a ∨ (c.mulType a).isInt = false := by
  cases c with
  | pyInt => exact .inl rfl
  | pyFloat => exact .inr (weakFloat_isInt a)
  | np k => exact absurd rfl (hc k)

end DScalar

/-! ## `Consistent`: the reported dtype is the element type of `frequencies` and `errors2` -/

/-- **The invariant of C13's first sentence.** -/
def Consistent (s : DState) : Prop := s.freq = s.reported ∧ s.err2 = s.reported

instance (s : DState) : Decidable (Consistent s) := by unfold Consistent; infer_instance

/-- what can be said about the type of `_missed`: it is the reported dtype or some float type, and
    a float type whenever it holds a NaN -/
def MInv (r m : DType) (n : Bool) : Prop := (n = true → m.isInt = false) ∧ (m = r ∨ m.isInt = false)

def MissedInv (s : DState) : Prop := MInv s.reported s.missed s.missedNaN

theorem MInv.of_float {r m : DType} {n : Bool} (h : m.isInt = false) : MInv r m n := ⟨fun _ => h, .inr h⟩

/-- the `_missed` of the constructors: float64 if a NaN has to go into an integer histogram -/
theorem MInv.ctor (r : DType) (n : Bool) : MInv r (if n && r.isInt then f64 else r) n := by
  cases n
  · exact ⟨nofun, .inl rfl⟩
  · cases hr : r.isInt
    · exact .of_float hr
    · exact .of_float rfl

/-- `_missed += other._missed`, the other histogram's dtype being absorbed by this one's -/
theorem MInv.promote {r m r' m' : DType} {n n' : Bool} (h : MInv r m n) (h' : MInv r' m' n')
    (habs : canCast r' r = true) : MInv r (promote m m') (n || n') := by
  refine ⟨fun hn => ?_, ?_⟩
  · rw [promote_isInt]
    rcases Bool.or_eq_true_iff.1 hn with e | e
    · rw [h.1 e]; rfl
    · rw [h'.1 e]; exact Bool.and_false _
  · rcases h.2 with rfl | e
    · rcases h'.2 with rfl | e'
      · rw [promote_comm, (canCast_iff_promote _ _).1 habs]; exact .inl rfl
      · right; rw [promote_isInt, e']; exact Bool.and_false _
    · right; rw [promote_isInt, e]; rfl

/-- `_missed * c`, after `_coerce_dtype(dtype of c)` -/
theorem MInv.mulType {r m : DType} {n : Bool} (h : MInv r m n) (c : DScalar) (hc : canCast c.dtype r = true) :
    MInv r (c.mulType m) n := by
  cases c with
  | pyInt => exact h
  | pyFloat => exact .of_float (weakFloat_isInt m)
  | np k =>
    have := h.promote (⟨nofun, .inl rfl⟩ : MInv k k false) hc
    rwa [Bool.or_false] at this

/-- histogram operands whose consistency matters for the consistency of the result (`h -= o`
    stores `.astype(self.dtype)`, so there `o` does not matter) -/
def DOp.addends : DOp → List DState
  | .add o _ => [o]
  | _ => []

def DOp.operands : DOp → List DState
  | .add o _ => [o]
  | .sub o => [o]
  | _ => []

theorem DOp.addends_subset (op : DOp) : ∀ o ∈ op.addends, o ∈ op.operands := by
  intro o ho
  unfold DOp.addends at ho
  split at ho
  · exact ho
  · cases ho

/-- **Where the three types diverge** (on a consistent histogram):
    * `HistogramND.accumulate` of an int16 / int32 histogram (`np.cumsum` widens to int64) —
      unless the result is assigned through the repaired setter (both switches on);
    * division by a float128 numpy scalar of a narrower histogram — only with the setter of
      d3f2ae4 (`castOnAssign = false`). -/
def DOp.diverges (cfg : Cfg) (s : DState) : DOp → Bool
  | .accumulate => !(cfg.castOnAssign && cfg.accumulateViaSetter) && (s.reported == i16 || s.reported == i32)
  | .div (.np k) => !cfg.castOnAssign && k == f128 && s.reported != f128
  | _ => false

theorem DOp.diverges_div (cfg : Cfg) (s : DState) (c : DScalar) :
    (DOp.div c).diverges cfg s = false ↔ ¬ (cfg.castOnAssign = false ∧ c = .np f128 ∧ s.reported ≠ f128) := by
  cases c with
  | pyInt | pyFloat => exact iff_of_true rfl (fun h => nomatch h.2.1)
  | np k => simp [DOp.diverges]

namespace DState

theorem setAll_consistent (s : DState) (v : DType) : Consistent (s.setAll v) := ⟨rfl, rfl⟩

@[simp] theorem setAll_reported (s : DState) (v : DType) : (s.setAll v).reported = v := rfl
@[simp] theorem setAll_freq (s : DState) (v : DType) : (s.setAll v).freq = v := rfl
@[simp] theorem setAll_err2 (s : DState) (v : DType) : (s.setAll v).err2 = v := rfl
@[simp] theorem setAll_missedNaN (s : DState) (v : DType) : (s.setAll v).missedNaN = s.missedNaN := rfl

theorem setAll_missedInv {s : DState} (h : MissedInv s) (v : DType) : MissedInv (s.setAll v) := by
  show MInv v (if v.isInt && s.missedNaN then s.missed else v) s.missedNaN
  cases hv : v.isInt
  · exact .of_float hv
  · cases hn : s.missedNaN
    · exact ⟨nofun, .inl rfl⟩
    · exact .of_float (h.1 hn)

/-- `_coerce_dtype(k)` does nothing if `k` is absorbed, and is `setAll` of the promoted type if not -/
theorem coerce_ind (P : DState → Prop) (s : DState) (k : DType) (h1 : promote s.reported k = s.reported → P s)
    (h2 : P (s.setAll (promote s.reported k))) : P (s.coerce k) := by
  simp only [coerce]
  split
  · exact h1 ‹_›
  · exact h2

theorem coerce_reported (s : DState) (k : DType) : (s.coerce k).reported = promote s.reported k :=
  coerce_ind (fun x => x.reported = promote s.reported k) s k Eq.symm rfl

theorem coerce_missedNaN (s : DState) (k : DType) : (s.coerce k).missedNaN = s.missedNaN :=
  coerce_ind (fun x => x.missedNaN = s.missedNaN) s k (fun _ => rfl) rfl

theorem coerce_consistent {s : DState} (h : Consistent s) (k : DType) : Consistent (s.coerce k) :=
  coerce_ind Consistent s k (fun _ => h) (setAll_consistent _ _)

theorem coerce_missedInv (s : DState) (k : DType) (h : MissedInv s) : MissedInv (s.coerce k) :=
  coerce_ind MissedInv s k (fun _ => h) (setAll_missedInv h _)

/-- coercion by a type that is already absorbed does nothing -/
theorem coerce_of_above (s : DState) (k : DType) (h : promote s.reported k = s.reported) : s.coerce k = s := by
  simp [coerce, h]

/-- `set_dtype(d)` is refused or is `setAll d` -/
theorem setDType_ind (P : DState → Prop) (s : DState) (d : DType) (fit : Bool) (h1 : P s) (h2 : P (s.setAll d)) :
    P (s.setDType d fit) := by
  simp only [setDType]
  split
  · exact h1
  · split
    · exact h2
    · exact h1

theorem reshape_consistent {s : DState} (h : Consistent s) : Consistent s.reshape := ⟨h.1, h.1⟩

@[simp] theorem reshape_reported (s : DState) : s.reshape.reported = s.reported := rfl
@[simp] theorem reshape_freq (s : DState) : s.reshape.freq = s.freq := rfl
@[simp] theorem reshape_err2 (s : DState) : s.reshape.err2 = s.freq := rfl

theorem reshape_of_consistent {s : DState} (hc : Consistent s) : s.reshape = s := by
  obtain ⟨r, fr, e, m, n⟩ := s
  obtain ⟨h1, h2⟩ := hc
  simp only at h1 h2
  subst h1 h2
  rfl

/-- `_reshape_data` before or after `_coerce_dtype`: the same types -/
theorem coerce_reshape (s : DState) (k : DType) : s.reshape.coerce k = (s.coerce k).reshape := by
  simp only [coerce, reshape_reported, apply_ite reshape]
  rfl

/- From here on `_coerce_dtype` is used through the lemmas above.  Sealing it keeps `exact` and `rw`
   from unfolding it whenever two states are compared, which is slow to check and never needed. -/
attribute [local irreducible] coerce

/-- the repaired setter is `_coerce_dtype(t)` and a store in the content type; the setter of
    d3f2ae4 stores the array as it comes -/
theorem assignFreq_eq (cfg : Cfg) (s : DState) (t : DType) : s.assignFreq cfg t =
    if cfg.castOnAssign then { s.coerce t with freq := (s.coerce t).reported } else { s with freq := t } := by
  simp only [assignFreq]
  split
  · split
    · rename_i h; subst h; rw [coerce_of_above _ _ (promote_idem _)]
    · rfl
  · rfl

theorem assignErr2_eq (cfg : Cfg) (s : DState) (t : DType) : s.assignErr2 cfg t =
    if cfg.castOnAssign then { s.coerce t with err2 := (s.coerce t).reported } else { s with err2 := t } := by
  simp only [assignErr2]
  split
  · split
    · rename_i h; subst h; rw [coerce_of_above _ _ (promote_idem _)]
    · rfl
  · rfl

/-- the repaired setters re-establish consistency whatever is assigned to whatever histogram -/
theorem assign_patched {cfg : Cfg} (hcfg : cfg.castOnAssign = true) (s : DState) (t t' : DType) :
    Consistent ((s.assignFreq cfg t).assignErr2 cfg t') := by
  rw [assignErr2_eq, assignFreq_eq, if_pos hcfg, if_pos hcfg]
  exact ⟨coerce_ind (fun x => x.freq = x.reported) _ t' (fun _ => rfl) rfl, rfl⟩

/-- a property of `_dtype` and `_missed` alone: of what the setters do not store into -/
def Outside (P : DType → DType → Bool → Prop) (s : DState) : Prop := P s.reported s.missed s.missedNaN

/-- whatever of `_dtype` and `_missed` survives `_coerce_dtype` survives `self.frequencies = …`
    and `self.errors2 = …` (either setter) -/
theorem Outside.assign (cfg : Cfg) {s : DState} {P : DType → DType → Bool → Prop}
    (hP : ∀ x k, Outside P x → Outside P (x.coerce k))
    (h : Outside P s) (t t' : DType) : Outside P ((s.assignFreq cfg t).assignErr2 cfg t') := by
  rw [assignErr2_eq, assignFreq_eq]
  split
  · exact hP _ t' (hP s t h)
  · exact h

theorem assign_missedInv (cfg : Cfg) {s : DState} (h : MissedInv s) (t t' : DType) :
    MissedInv ((s.assignFreq cfg t).assignErr2 cfg t') :=
  Outside.assign cfg (P := MInv) coerce_missedInv h t t'

/-- `a` casts safely to the reported dtype -/
def Holds (a : DType) (s : DState) : Prop := canCast a s.reported = true

theorem coerce_holds {a : DType} (s : DState) (k : DType) (h : Holds a s) : Holds a (s.coerce k) := by
  simp only [Holds, coerce_reported]
  exact canCast_trans _ _ _ h (canCast_promote_left _ _)

theorem coerce_holds_self (s : DState) (k : DType) : Holds k (s.coerce k) := by
  simp only [Holds, coerce_reported]
  exact canCast_promote_right _ _

theorem assign_holds (cfg : Cfg) {s : DState} {a : DType} (h : Holds a s) (t t' : DType) :
    Holds a ((s.assignFreq cfg t).assignErr2 cfg t') :=
  Outside.assign cfg (P := fun r _ _ => canCast a r = true) coerce_holds h t t'

/-- a float type casts safely only to float types -/
theorem Holds.float {s : DState} {a : DType} (h : Holds a s) (ha : a.isInt = false) : s.reported.isInt = false := by
  cases hr : s.reported.isInt
  · rfl
  · have := canCast_float_int a _ ha hr
    rw [h] at this
    cases this

/-- after `_coerce_dtype(k)` of a consistent histogram, the two assignments
    `self.frequencies = f(self.frequencies)`, `self.errors2 = g(self.errors2)` change nothing when
    both expressions stay in the coerced type (with either setter) -/
theorem assign_pair (cfg : Cfg) {s : DState} (h : Consistent s) (k : DType) (f g : DType → DType)
    (hf : f (promote s.reported k) = promote s.reported k) (hg : g (promote s.reported k) = promote s.reported k) :
    ((s.coerce k).assignFreq cfg (f (s.coerce k).freq)).assignErr2 cfg
      (g ((s.coerce k).assignFreq cfg (f (s.coerce k).freq)).err2) = s.coerce k := by
  have hc := coerce_consistent h k
  rw [← coerce_reported s k] at hf hg
  generalize s.coerce k = x at hc hf hg ⊢
  obtain ⟨r, fr, e, m, n⟩ := x
  obtain ⟨h1, h2⟩ := hc
  simp only at h1 h2 hf hg
  subst h1 h2
  simp [assignFreq, assignErr2, hf, hg]

/-- `self._missed += other._missed` -/
abbrev addMissed (s o : DState) : DState :=
  { s with missed := promote s.missed o.missed, missedNaN := s.missedNaN || o.missedNaN }

theorem addMissed_missedInv {s o : DState} (h : MissedInv s) (ho : MissedInv o) (habs : Holds o.reported s) :
    MissedInv (s.addMissed o) :=
  MInv.promote h ho habs

/-- `h *= c` on a consistent histogram (either setter): `_coerce_dtype(dtype of c)`, contents
    unchanged in type, `_missed * c` -/
theorem mulStep_eq (cfg : Cfg) {s : DState} (h : Consistent s) (c : DScalar) :
    s.mulStep cfg c = { s.coerce c.dtype with missed := c.mulType (s.coerce c.dtype).missed } := by
  simp only [mulStep]
  rw [assign_pair cfg h _ c.mulType c.mulType (DScalar.mulType_coerced _ _) (DScalar.mulType_coerced _ _)]

theorem mulStep_spec (cfg : Cfg) {s : DState} (h : Consistent s) (c : DScalar) :
    (s.mulStep cfg c).reported = promote s.reported c.dtype ∧ Consistent (s.mulStep cfg c) := by
  rw [mulStep_eq cfg h c]
  exact ⟨coerce_reported s c.dtype, coerce_consistent h c.dtype⟩

theorem mulStep_missedInv (cfg : Cfg) {s : DState} (h : MissedInv s) (c : DScalar) : MissedInv (s.mulStep cfg c) :=
  MInv.mulType (assign_missedInv cfg (coerce_missedInv s _ h) _ _) c
    (assign_holds cfg (coerce_holds_self s c.dtype) _ _)

/-- `h /= c` on a consistent histogram, `c` not a float128 scalar under a narrower histogram
    (either setter): just `_coerce_dtype(np.float64)` as far as types go -/
theorem divStep_eq (cfg : Cfg) {s : DState} (h : Consistent s) (c : DScalar)
    (hc128 : ¬ (c = .np f128 ∧ s.reported ≠ f128)) : s.divStep cfg c = s.coerce f64 := by
  have hd := (DScalar.divType_coerced s.reported c).2 hc128
  simp only [divStep]
  rw [assign_pair cfg h _ c.divType c.divType hd hd]

/-- the setter of d3f2ae4 stores the quotients as they come -/
theorem divStep_head {cfg : Cfg} (hcfg : cfg.castOnAssign = false) (s : DState) (c : DScalar) :
    s.divStep cfg c =
      { s.coerce f64 with freq := c.divType (s.coerce f64).freq, err2 := c.divType (s.coerce f64).err2 } := by
  simp only [divStep, assignFreq_eq, assignErr2_eq, hcfg, Bool.false_eq_true, if_false]

/-- **before the fix** (setter of d3f2ae4): `h /= np.longdouble(x)` on a histogram narrower than
    float128 reports float64 over float128 arrays -/
theorem divStep_head_f128 {s : DState} {cfg : Cfg} (hcfg : cfg.castOnAssign = false) (hs : s.reported ≠ f128) :
    (s.divStep cfg (.np f128)).reported = f64 ∧ (s.divStep cfg (.np f128)).freq = f128 ∧
    (s.divStep cfg (.np f128)).err2 = f128 := by
  rw [divStep_head hcfg]
  refine ⟨(coerce_reported s f64).trans ?_, DScalar.divType_f128 _, DScalar.divType_f128 _⟩
  revert hs
  cases s.reported <;> decide

/-- **after the fix** (`_as_contents`): the same division promotes the histogram to float128 -/
theorem divStep_patched_f128 {cfg : Cfg} (hcfg : cfg.castOnAssign = true) (s : DState) :
    (s.divStep cfg (.np f128)).reported = f128 ∧ Consistent (s.divStep cfg (.np f128)) := by
  refine ⟨?_, assign_patched hcfg _ _ _⟩
  simp only [divStep, assignErr2_eq, if_pos hcfg, DScalar.divType_f128]
  exact (coerce_reported _ _).trans (promote_f128 _)

/-- division is consistent exactly when it is not (old setter, float128 scalar, narrower histogram) -/
theorem div_consistent_iff (cfg : Cfg) {s : DState} (h : Consistent s) (c : DScalar) :
    Consistent (s.divStep cfg c) ↔ ¬ (cfg.castOnAssign = false ∧ c = .np f128 ∧ s.reported ≠ f128) := by
  cases hcfg : cfg.castOnAssign
  · have hc := coerce_consistent h f64
    rw [divStep_head hcfg]
    simp only [Consistent, hc.1, hc.2, coerce_reported, and_self, DScalar.divType_coerced, true_and]
  · exact iff_of_true (assign_patched hcfg _ _ _) (fun hh => nomatch hh.1)

/-- `h += o` on consistent histograms (either setter, same or adapted bins) -/
theorem addStep_eq (cfg : Cfg) {s o : DState} (h : Consistent s) (ho : Consistent o) (adaptive : Bool) :
    s.addStep cfg o adaptive = if adaptive then s.coerce o.reported else (s.coerce o.reported).addMissed o := by
  have habs := promote_promote_right s.reported o.reported
  cases adaptive with
  | false =>
    simp only [addStep, Bool.false_eq_true, if_false, ho.1, ho.2]
    rw [assign_pair cfg h _ (promote · o.reported) (promote · o.reported) habs habs]
  | true =>
    simp only [addStep, if_true, reshape_of_consistent (coerce_consistent h _), reshape_freq, reshape_err2, ho.1]
    rw [assign_pair cfg h _ (promote · o.reported) (promote · o.reported) habs habs]

theorem addStep_spec (cfg : Cfg) {s o : DState} (h : Consistent s) (ho : Consistent o) (adaptive : Bool) :
    (s.addStep cfg o adaptive).reported = promote s.reported o.reported ∧
    Consistent (s.addStep cfg o adaptive) := by
  rw [addStep_eq cfg h ho]
  cases adaptive <;> exact ⟨coerce_reported s o.reported, coerce_consistent h o.reported⟩

/-- `h -= o` on a consistent histogram (either setter; `o` need not be consistent: the results
    are stored `.astype(self.dtype)`) -/
theorem subStep_eq (cfg : Cfg) {s : DState} (h : Consistent s) (o : DState) :
    s.subStep cfg o = (s.coerce o.reported).addMissed o := by
  have key := assign_pair cfg h o.reported (fun _ => (s.coerce o.reported).reported)
    (fun _ => (s.coerce o.reported).reported) (coerce_reported s _) (coerce_reported s _)
  have e2 : ((s.coerce o.reported).assignFreq cfg (s.coerce o.reported).reported).reported
      = (s.coerce o.reported).reported := by simp [assignFreq]
  simp only [subStep]
  rw [e2, key]

theorem subStep_spec (cfg : Cfg) {s : DState} (h : Consistent s) (o : DState) :
    (s.subStep cfg o).reported = promote s.reported o.reported ∧ Consistent (s.subStep cfg o) := by
  rw [subStep_eq cfg h o]
  exact ⟨coerce_reported s o.reported, coerce_consistent h o.reported⟩

/-- `fill_n`, on types: `_coerce_dtype` of the weights' type (no weights: nothing to coerce to),
    before or after the reshaping, which rebuilds `errors2` in the type of `frequencies`; a value
    in a gap puts a NaN into `_missed`.  `fill` is the case `some w.dtype`, by `rfl`. -/
theorem fillN_eq (cfg : Cfg) (s : DState) (w : Option DType) (reshaped nd gap : Bool) :
    s.step cfg (.fillN w reshaped nd gap) =
      let x := s.coerce (w.getD s.reported)
      let y := if reshaped then x.reshape else x
      if gap then y.missNaN else y := by
  cases w with
  | none =>
    simp only [Option.getD_none, coerce_of_above s _ (promote_idem _)]
    cases nd <;> rfl
  | some k =>
    cases nd
    · cases reshaped
      · rfl
      · show (if gap then (s.reshape.coerce k).missNaN else s.reshape.coerce k) = _
        rw [coerce_reshape]
        rfl
    · rfl

theorem fillN_reported (cfg : Cfg) (s : DState) (w : Option DType) (reshaped nd gap : Bool) :
    (s.step cfg (.fillN w reshaped nd gap)).reported = promote s.reported (w.getD s.reported) := by
  rw [fillN_eq]
  cases reshaped <;> cases gap <;> exact coerce_reported s _

theorem fillN_consistent (cfg : Cfg) {s : DState} (h : Consistent s) (w : Option DType) (reshaped nd gap : Bool) :
    Consistent (s.step cfg (.fillN w reshaped nd gap)) := by
  have hc := coerce_consistent h (w.getD s.reported)
  rw [fillN_eq]
  cases reshaped
  · cases gap <;> exact hc
  · cases gap <;> exact (reshape_consistent hc :)

theorem fillN_missedInv (cfg : Cfg) {s : DState} (h : MissedInv s) (w : Option DType) (reshaped nd gap : Bool) :
    MissedInv (s.step cfg (.fillN w reshaped nd gap)) := by
  rw [fillN_eq]
  cases gap
  · cases reshaped <;> exact coerce_missedInv s _ h
  · exact .of_float (weakFloat_isInt _)

/-- **Normalisation gives a float type and stays consistent** (in place or not, either setter). -/
theorem normalize_spec (cfg : Cfg) {s : DState} (h : Consistent s) (inplace : Bool) :
    (s.step cfg (.normalize inplace)).reported.isInt = false ∧ Consistent (s.step cfg (.normalize inplace)) := by
  have hc := coerce_consistent h f64
  have hf : (s.coerce f64).reported.isInt = false := (coerce_holds_self s f64).float rfl
  -- the python scalar `self.total` is no float128
  have ht : s.divStep cfg s.totalKind = s.coerce f64 := by
    refine divStep_eq cfg h _ (fun hh => ?_)
    have := hh.1
    simp only [totalKind] at this
    split at this <;> cases this
  simp only [step, ht]
  cases inplace
  · obtain ⟨h1, h2⟩ := mulStep_spec cfg hc .pyInt
    refine ⟨?_, h2⟩
    show (mulStep cfg (s.coerce f64) .pyInt).reported.isInt = false
    rw [h1, promote_isInt, hf]
    rfl
  · exact ⟨hf, hc⟩

theorem construct_consistent (arr explicit : Option DType) (nan : Bool) :
    Consistent (construct arr explicit nan) := ⟨rfl, rfl⟩

/-- `accumulate`: the cumulative sums pass through `_as_contents` only with both repairs -/
theorem accumulate_eq (cfg : Cfg) (s : DState) : s.step cfg .accumulate =
    if cfg.castOnAssign && cfg.accumulateViaSetter
    then { s.coerce s.freq.sumType with freq := (s.coerce s.freq.sumType).reported }
    else { s with freq := s.freq.sumType } := by
  simp only [step, assignFreq_eq]
  cases cfg.castOnAssign <;> cases cfg.accumulateViaSetter <;> rfl

theorem accumulate_consistent_iff (cfg : Cfg) {s : DState} (h : Consistent s) :
    Consistent (s.step cfg .accumulate) ↔ DOp.accumulate.diverges cfg s = false := by
  rw [accumulate_eq]
  show _ ↔ (!(cfg.castOnAssign && cfg.accumulateViaSetter) && (s.reported == i16 || s.reported == i32)) = false
  cases cfg.castOnAssign && cfg.accumulateViaSetter
  · show s.freq.sumType = s.reported ∧ s.err2 = s.reported ↔ (s.reported == i16 || s.reported == i32) = false
    rw [h.1, and_iff_left h.2, sumType_eq_iff, Bool.or_eq_false_iff, beq_eq_false_iff_ne, beq_eq_false_iff_ne]
  · exact iff_of_true ⟨rfl, (coerce_consistent h _).2⟩ rfl

/-- **One step.**  On a consistent histogram, with consistent histogram operands of `+`, the
    result of any operation is consistent *exactly* when the operation is not one of the two
    diverging ones (`DOp.diverges`). -/
theorem step_consistent_iff (cfg : Cfg) {s : DState} (op : DOp) (h : Consistent s)
    (ho : ∀ o ∈ op.addends, Consistent o) :
    Consistent (s.step cfg op) ↔ op.diverges cfg s = false := by
  cases op with
  | construct arr explicit nan => exact iff_of_true (construct_consistent _ _ _) rfl
  | fill w reshaped gap => exact iff_of_true (fillN_consistent cfg h (some w.dtype) reshaped true gap) rfl
  | fillN w reshaped nd gap => exact iff_of_true (fillN_consistent cfg h w reshaped nd gap) rfl
  | add o adaptive => exact iff_of_true (addStep_spec cfg h (ho o (.head _)) adaptive).2 rfl
  | sub o => exact iff_of_true (subStep_spec cfg h o).2 rfl
  | mul c => exact iff_of_true (mulStep_spec cfg h c).2 rfl
  | div c => exact (div_consistent_iff cfg h c).trans (DOp.diverges_div cfg s c).symm
  | normalize inplace => exact iff_of_true (normalize_spec cfg h inplace).2 rfl
  | merge | reshape => exact iff_of_true (reshape_consistent h) rfl
  | setDType d fit => exact iff_of_true (setDType_ind Consistent s d fit h (setAll_consistent _ _)) rfl
  | copy | selectNDSlice => exact iff_of_true h rfl
  | projection | select1D | selectNDInt => exact iff_of_true ⟨rfl, rfl⟩ rfl
  | accumulate => exact accumulate_consistent_iff cfg h
  | partialNormalize | refusedAfterCoerce => exact iff_of_true (coerce_consistent h _) rfl

/-- **`_missed` over one step**: whatever the operation (consistent or not, either setter), if
    the invariant holds of the histogram and of its histogram operands it holds afterwards.
    (A projection, a selection and a fresh histogram are constructor calls.) -/
theorem step_missedInv (cfg : Cfg) {s : DState} (op : DOp) (h : MissedInv s)
    (ho : ∀ o ∈ op.operands, MissedInv o) : MissedInv (s.step cfg op) := by
  have hc : ∀ k, MissedInv (s.coerce k) := fun k => coerce_missedInv s k h
  cases op with
  | construct arr explicit nan => exact MInv.ctor _ nan
  | fill w reshaped gap => exact fillN_missedInv cfg h (some w.dtype) reshaped true gap
  | fillN w reshaped nd gap => exact fillN_missedInv cfg h w reshaped nd gap
  | add o adaptive =>
    have hr : MissedInv (s.coerce o.reported).reshape := hc _
    cases adaptive
    · exact addMissed_missedInv (assign_missedInv cfg (hc _) _ _) (ho o (.head _))
        (assign_holds cfg (coerce_holds_self s _) _ _)
    · exact assign_missedInv cfg hr _ _
  | sub o =>
    exact addMissed_missedInv (assign_missedInv cfg (hc _) _ _) (ho o (.head _))
      (assign_holds cfg (coerce_holds_self s _) _ _)
  | mul c => exact mulStep_missedInv cfg h c
  | div c => exact assign_missedInv cfg (hc _) _ _
  | normalize inplace =>
    have hd : MissedInv (s.divStep cfg s.totalKind) := assign_missedInv cfg (hc _) _ _
    cases inplace
    · exact mulStep_missedInv cfg hd _
    · exact hd
  | merge | reshape | selectNDSlice => exact h
  | setDType d fit => exact setDType_ind MissedInv s d fit h (setAll_missedInv h _)
  | copy withFreq => exact ⟨fun hn => h.1 (Bool.and_eq_true_iff.1 hn).1, h.2⟩
  | projection | select1D | selectNDInt => exact MInv.ctor _ _
  | accumulate =>
    rw [accumulate_eq]
    split
    · exact hc _
    · exact h
  | partialNormalize | refusedAfterCoerce => exact hc _

/-- operations that state the new dtype themselves -/
def _root_.Physt.DOp.explicit : DOp → Bool
  | .construct .. => true
  | .setDType .. => true
  | _ => false

/-- **Never narrower.**  Every operation other than a constructor and an explicit `set_dtype`
    leaves a reported dtype to which the previous one casts safely (`np.can_cast`, "safe"): no
    implicit conversion can truncate or wrap a content.  (`freq = reported` is needed for
    projections and integer selections, which take the type of the array.) -/
theorem step_lossless (cfg : Cfg) (s : DState) (op : DOp) (hf : s.freq = s.reported) (he : op.explicit = false) :
    canCast s.reported (s.step cfg op).reported = true := by
  have h0 : Holds s.reported s := canCast_refl _
  have hc : ∀ k, Holds s.reported (s.coerce k) := fun k => coerce_holds s k h0
  cases op with
  | construct | setDType => cases he
  | fill w reshaped gap =>
    show canCast s.reported (s.step cfg (.fillN (some w.dtype) reshaped true gap)).reported = true
    rw [fillN_reported]
    exact canCast_promote_left _ _
  | fillN w reshaped nd gap => rw [fillN_reported]; exact canCast_promote_left _ _
  | add o adaptive =>
    have hr : Holds s.reported (s.coerce o.reported).reshape := hc _
    cases adaptive
    · exact assign_holds cfg (hc _) _ _
    · exact assign_holds cfg hr _ _
  | sub | mul | div => exact assign_holds cfg (hc _) _ _
  | normalize inplace =>
    have hd : Holds s.reported (s.divStep cfg s.totalKind) := assign_holds cfg (hc _) _ _
    cases inplace
    · exact assign_holds cfg (coerce_holds _ _ hd) _ _
    · exact hd
  | merge | reshape | copy | select1D | selectNDSlice => exact h0
  | projection => rw [← hf]; exact canCast_sumType _
  | selectNDInt => rw [← hf]; exact canCast_refl _
  | accumulate =>
    rw [accumulate_eq]
    split
    · exact hc _
    · exact h0
  | partialNormalize | refusedAfterCoerce => exact hc _

/-- a history none of whose steps is a diverging operation (in the state it is applied to) and
    whose `+` operands are consistent -/
def Admissible (cfg : Cfg) : DState → List DOp → Prop
  | _, [] => True
  | s, op :: ops =>
      op.diverges cfg s = false ∧ (∀ o ∈ op.addends, Consistent o) ∧ Admissible cfg (s.step cfg op) ops

/-- a history of operations that diverge in no state is admissible from every state -/
theorem admissible_of_not_diverges (cfg : Cfg) (ops : List DOp)
    (hsafe : ∀ op ∈ ops, ∀ s, op.diverges cfg s = false)
    (hops : ∀ op ∈ ops, ∀ o ∈ op.addends, Consistent o) : ∀ s : DState, Admissible cfg s ops := by
  induction ops with
  | nil => intro s; trivial
  | cons op ops ih =>
    intro s
    exact ⟨hsafe op (.head _) s, hops op (.head _),
      ih (fun o ho => hsafe o (.tail _ ho)) (fun o ho => hops o (.tail _ ho)) _⟩

theorem run_append (cfg : Cfg) (s : DState) (a b : List DOp) : run cfg s (a ++ b) = run cfg (run cfg s a) b := by
  simp [run, List.foldl_append]

end DState

/-- the states produced by a constructor followed by any operations — histogram operands being
    themselves such products — none of the steps being a diverging operation -/
inductive Reachable (cfg : Cfg) : DState → Prop
  | construct (arr explicit : Option DType) (nan : Bool) : Reachable cfg (DState.construct arr explicit nan)
  | step {s : DState} (op : DOp) : Reachable cfg s → (∀ o ∈ op.operands, Reachable cfg o) →
      op.diverges cfg s = false → Reachable cfg (s.step cfg op)

theorem Reachable.inv {cfg : Cfg} {s : DState} (h : Reachable cfg s) : Consistent s ∧ MissedInv s := by
  induction h with
  | construct arr explicit nan => exact ⟨DState.construct_consistent _ _ _, MInv.ctor _ nan⟩
  | step op _ _ hd ih iho =>
    refine ⟨?_, ?_⟩
    · exact (DState.step_consistent_iff cfg op ih.1 (fun o ho => (iho o (op.addends_subset o ho)).1)).2 hd
    · exact DState.step_missedInv cfg op ih.2 (fun o ho => (iho o ho).2)

end Physt
