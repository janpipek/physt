import Physt.Proofs.AdaptiveHistory
import Physt.Theorems.C05
/-!
# Adding adaptive fixed-width histograms (C05, adaptive clause)

"For adaptive fixed-width histograms the bins are first extended to the union of both ranges on the
common grid and nothing is lost."  With the invariant `GridTracks fo h g pts` of
`Proofs/AdaptiveHistory.lean` (the state `h` on the adaptive grid `g` holds the batch histogram of
`pts` over its own bins, nothing missed, every point in a cell of the grid):

`a.iadd fo b` is accepted (both branches of `__iadd__`: equal bins, and the adapting branch via `adaptGrids`)
and the result tracks `A ++ B` on the union grid (`SpanUnion`, as an equation between ranges:
`g'.span = hull ga.span gb.span`, so that the sum is commutative and associative in its bins by `hull_comm` /
`hull_assoc`); folding `iadd` over any list of adaptive chunk histograms gives the histogram of the
concatenated data on the hull of all ranges — the adaptive `C05_chunks`.

Side condition: `__iadd__` (adapting branch only) refuses an operand whose
`missed = underflow + overflow + inner_missed` is positive.  `GridTracks` fixes underflow and overflow
at `0` but says nothing about the inner-missed slot, so the right operand needs `InnerOK`
(`inner` is NaN or `≤ 0`; in particular `inner = some 0`).  Kernel-checked examples at the end.
-/
namespace Physt
open Grid H1

/-- the inner-missed slot of the right operand does not make `missed` positive: it is NaN or `≤ 0`
    (every histogram built by `h1` / `fill` / `fill_n` has `inner = some 0`) -/
def InnerOK (h : H1) : Prop := ∀ m, h.inner = some m → m ≤ 0

theorem innerOK_of_zero {h : H1} (hz : h.inner = some 0) : InnerOK h := by
  intro m hm
  rw [hz] at hm
  cases hm
  exact le_refl _

theorem innerOK_nadd {x y : NRat} (hx : ∀ m, x = some m → m ≤ 0) (hy : ∀ m, y = some m → m ≤ 0) :
    ∀ m, nadd x y = some m → m ≤ 0 := by
  intro m hm
  cases x with
  | none => simp [nadd] at hm
  | some u =>
    cases y with
    | none => simp [nadd] at hm
    | some v =>
      have h1 := hx u rfl
      have h2 := hy v rfl
      have : u + v = m := by simpa [nadd] using hm
      linarith

/-- `other.missed` is not positive: what `__iadd__` checks before it adapts -/
theorem missed_not_pos {fo : FloatOps} {b : H1} {gb : Grid} {B : List Pt} (tb : GridTracks fo b gb B)
    (hin : InnerOK b) : ∀ m, b.missed = some m → ¬ 0 < m := by
  intro m hm
  unfold H1.missed at hm
  rw [tb.under, tb.over] at hm
  exact not_lt.mpr (innerOK_nadd (fun _ h => by cases h; exact (zero_add (0 : Rat)).le) hin m hm)

/-- **The range after the addition is the union of both ranges on the common grid**: both non-empty —
    from the lower first cell to the higher last cell; the right one empty — the left range; the left
    one empty — the right range. -/
structure SpanUnion (ga gb g' : Grid) : Prop where
  both : 0 < ga.count → 0 < gb.count →
    g'.tmin = min ga.tmin gb.tmin ∧ g'.tmin + g'.count = max (ga.tmin + ga.count) (gb.tmin + gb.count)
  rightEmpty : gb.count = 0 → g'.tmin = ga.tmin ∧ g'.count = ga.count
  leftEmpty : ga.count = 0 → 0 < gb.count → g'.tmin = gb.tmin ∧ g'.count = gb.count

/-- as an equation between ranges; the one place where the four cases of emptiness are looked at -/
theorem SpanUnion.span {ga gb g' : Grid} (su : SpanUnion ga gb g') : g'.span = hull ga.span gb.span := by
  by_cases ha : ga.count = 0 <;> by_cases hb : gb.count = 0
  · rw [span_of_zero ha, span_of_zero hb, hull_none_left, span_eq_none]
    have := su.rightEmpty hb; omega
  · have := su.leftEmpty ha (Nat.pos_of_ne_zero hb)
    rw [span_of_zero ha, span_of_pos (g := gb) (by omega), hull_none_left, span_eq_some]
    omega
  · have := su.rightEmpty hb
    rw [span_of_zero hb, span_of_pos (g := ga) (by omega), hull_none_right, span_eq_some]
    omega
  · have := su.both (Nat.pos_of_ne_zero ha) (Nat.pos_of_ne_zero hb)
    rw [span_of_pos (g := ga) (by omega), span_of_pos (g := gb) (by omega), hull_some_some, span_eq_some]
    omega

theorem Grid.le_of_within {g g' : Grid} (h : Within g.span g'.span) (hp : 0 < g.count) :
    g'.tmin ≤ g.tmin ∧ g.tmin + g.count ≤ g'.tmin + g'.count := by
  obtain ⟨lo, hi, e, h1, h2⟩ := h _ _ (span_of_pos hp)
  rw [span_eq_some] at e
  omega

theorem SpanUnion.left_le {ga gb g' : Grid} (su : SpanUnion ga gb g') (hp : 0 < ga.count) :
    g'.tmin ≤ ga.tmin ∧ ga.tmin + ga.count ≤ g'.tmin + g'.count :=
  Grid.le_of_within (su.span ▸ within_hull_left _ _) hp

theorem SpanUnion.right_le {ga gb g' : Grid} (su : SpanUnion ga gb g') (hp : 0 < gb.count) :
    g'.tmin ≤ gb.tmin ∧ gb.tmin + gb.count ≤ g'.tmin + g'.count :=
  Grid.le_of_within (su.span ▸ within_hull_right _ _) hp

/-- both ends of a non-empty union are ends of a non-empty operand -/
theorem SpanUnion.attained {ga gb g' : Grid} (su : SpanUnion ga gb g') (hp : 0 < g'.count) :
    ((0 < ga.count ∧ ga.tmin = g'.tmin) ∨ (0 < gb.count ∧ gb.tmin = g'.tmin)) ∧
    ((0 < ga.count ∧ ga.tmin + ga.count = g'.tmin + g'.count) ∨
      (0 < gb.count ∧ gb.tmin + gb.count = g'.tmin + g'.count)) := by
  obtain ⟨h1, h2⟩ := hull_attained (su.span.symm.trans (span_of_pos hp))
  simp only [span_eq_some] at h1 h2
  constructor
  · exact h1.imp (fun ⟨_, p, q, _⟩ => ⟨p, q⟩) (fun ⟨_, p, q, _⟩ => ⟨p, q⟩)
  · exact h2.imp (fun ⟨_, p, _, q⟩ => ⟨p, q⟩) (fun ⟨_, p, _, q⟩ => ⟨p, q⟩)

theorem SpanUnion.pos_iff {ga gb gm : Grid} (su : SpanUnion ga gb gm) :
    0 < gm.count ↔ (0 < ga.count ∨ 0 < gb.count) := by
  have : gm.count = 0 ↔ ga.count = 0 ∧ gb.count = 0 := by
    rw [← span_eq_none, su.span, hull_eq_none, span_eq_none, span_eq_none]
  omega

/-- grids with the same cells (or both without cells): the union is the left one -/
theorem SpanUnion.of_same {ga gb : Grid} (hc : ga.count = gb.count) (ht : 0 < ga.count → ga.tmin = gb.tmin) :
    SpanUnion ga gb ga :=
  ⟨fun hp _ => by have := ht hp; omega, fun _ => ⟨rfl, rfl⟩, fun h0 hp => by omega⟩

/-- the instruction `_adapt` computes for an operand inside the common range `[g'.tmin, hi)` -/
theorem reshapeOK_of_contains {g g' : Grid} {hi : Int} (hp : 0 < g.count) (hhi : g'.tmin + g'.count = hi)
    (h1 : g'.tmin ≤ g.tmin) (h2 : g.tmin + g.count ≤ hi) :
    ReshapeOK g g' (if g'.tmin < g.tmin ∨ g.tmin + g.count < hi then .shift (g.tmin - g'.tmin).toNat
      else .noChange) := by
  split_ifs with hc
  · exact Or.inr (Or.inr ⟨hp, rfl, h1, by omega⟩)
  · exact Or.inr (Or.inl ⟨rfl, by omega, by omega⟩)

/-- `FixedWidthBinning._adapt` for two grids of the same width and origin: accepted; the common grid is
    the union of the ranges; both reshape instructions are the right ones. -/
theorem adaptGrids_spec (ga gb : Grid) (hw : ga.w = gb.w) (hs : ga.shift = gb.shift) :
    ∃ g' r1 r2, adaptGrids ga gb = .ok (g', r1, r2) ∧ g'.w = ga.w ∧ g'.shift = ga.shift ∧
      g'.align = ga.align ∧ g'.adaptive = ga.adaptive ∧ g'.ire = ga.ire ∧
      ReshapeOK ga g' r1 ∧ ReshapeOK gb g' r2 ∧ SpanUnion ga gb g' := by
  rw [adaptGrids_eq, if_neg (by simp [hw]), if_neg (by simp [hs])]
  by_cases h2 : gb.count = 0
  · rw [if_pos h2]
    exact ⟨_, _, _, rfl, rfl, rfl, rfl, rfl, rfl, ReshapeOK.refl ga, Or.inl ⟨h2, rfl⟩,
      fun _ hp => by omega, fun _ => ⟨rfl, rfl⟩, fun _ hp => by omega⟩
  · rw [if_neg h2]
    by_cases h1 : ga.count = 0
    · rw [if_pos h1]
      exact ⟨_, _, _, rfl, rfl, rfl, rfl, rfl, rfl, Or.inl ⟨h1, rfl⟩, Or.inr (Or.inl ⟨rfl, rfl, rfl⟩),
        fun hp _ => by omega, fun h0 => by omega, fun _ _ => ⟨rfl, rfl⟩⟩
    · rw [if_neg h1]
      have hhi : min ga.tmin gb.tmin +
          ((max (ga.tmin + ga.count) (gb.tmin + gb.count) - min ga.tmin gb.tmin).toNat : Int)
            = max (ga.tmin + ga.count) (gb.tmin + gb.count) := by omega
      exact ⟨_, _, _, rfl, rfl, rfl, rfl, rfl, rfl,
        reshapeOK_of_contains (Nat.pos_of_ne_zero h1) hhi (min_le_left _ _) (le_max_left _ _),
        reshapeOK_of_contains (Nat.pos_of_ne_zero h2) hhi (min_le_right _ _) (le_max_right _ _),
        fun _ _ => ⟨rfl, hhi⟩, fun h0 => absurd h0 h2, fun h0 _ => absurd h0 h1⟩

/-- `FixedWidthBinning._adapt` complains about a width or origin mismatch, and about nothing else -/
theorem adaptGrids_error_iff (g1 g2 : Grid) (e : String) :
    adaptGrids g1 g2 = .error e ↔
      (g1.w ≠ g2.w ∧ e = "different widths") ∨ (g1.w = g2.w ∧ g1.shift ≠ g2.shift ∧ e = "different shifts") := by
  by_cases hw : g1.w = g2.w
  · by_cases hs : g1.shift = g2.shift
    · obtain ⟨g', r1, r2, h, _⟩ := adaptGrids_spec g1 g2 hw hs
      simp [h, hw, hs]
    · rw [adaptGrids_eq, if_neg (by simp [hw]), if_pos (by simpa using hs)]
      simp [hw, hs, eq_comm]
  · rw [adaptGrids_eq, if_pos (by simpa using hw)]
    simp [hw, eq_comm]

/-- two grids on the same lattice with the same bins: the same number of cells, and — unless they are
    empty — the same first cell -/
theorem grids_of_same_bins {fo : FloatOps} {ga gb : Grid} (hm : EdgeMono fo ga.w ga.shift) (hw : ga.w = gb.w)
    (hs : ga.shift = gb.shift) (hb : ga.bins fo = gb.bins fo) :
    ga.count = gb.count ∧ (0 < ga.count → ga.tmin = gb.tmin) := by
  have hc : ga.count = gb.count := by rw [← bins_length fo ga, hb, bins_length]
  refine ⟨hc, fun hp => ?_⟩
  have h0 : (ga.bins fo)[0]? = (gb.bins fo)[0]? := by rw [hb]
  rw [bins_eq_binsFrom, bins_eq_binsFrom, binsFrom_getElem? _ _ _ 0 hp,
    binsFrom_getElem? _ _ _ 0 (by omega), edgeAt_congr fo hw.symm hs.symm] at h0
  have := hm.strictMono.injective (congrArg Prod.fst (Option.some.inj h0))
  omega

/-- grids on the same lattice with the same range (or both empty) have the same bins -/
theorem bins_eq_of_range (fo : FloatOps) {g h : Grid} (hw : g.w = h.w) (hs : g.shift = h.shift)
    (hr : (g.count = 0 ∧ h.count = 0) ∨ (g.tmin = h.tmin ∧ g.count = h.count)) : g.bins fo = h.bins fo := by
  rw [bins_eq_binsFrom, bins_eq_binsFrom, edgeAt_congr fo hw hs]
  rcases hr with ⟨h1, h2⟩ | ⟨h1, h2⟩
  · rw [h1, h2]; rfl
  · rw [h1, h2]

theorem bins_eq_of_span (fo : FloatOps) {g h : Grid} (hw : g.w = h.w) (hs : g.shift = h.shift)
    (hr : g.span = h.span) : g.bins fo = h.bins fo :=
  bins_eq_of_range fo hw hs (span_eq_span.mp hr)

/-- a state whose contents are the two operands' contents, each moved onto the common grid `g'` as
    instructed, and added, tracks the concatenated data on `g'` -/
theorem gridTracks_merge (fo : FloatOps) (a b r : H1) (ga gb g' : Grid) (A B : List Pt) (r1 r2 : Reshape)
    (ta : GridTracks fo a ga A) (tb : GridTracks fo b gb B) (hm : EdgeMono fo ga.w ga.shift)
    (hwab : ga.w = gb.w) (hsab : ga.shift = gb.shift)
    (hw : g'.w = ga.w) (hs : g'.shift = ga.shift) (hal : g'.align = ga.align)
    (had : g'.adaptive = ga.adaptive) (hire : g'.ire = ga.ire)
    (ok1 : ReshapeOK ga g' r1) (ok2 : ReshapeOK gb g' r2)
    (hbin : r.binning = .fixed g') (hkeep : r.keep = true)
    (hf : r.freq = zipAdd (reshape1 a.freq g'.count r1) (reshape1 b.freq g'.count r2))
    (he : r.err2 = zipAdd (reshape1 a.err2 g'.count r1) (reshape1 b.err2 g'.count r2))
    (hu : r.under = some 0) (ho : r.over = some 0) :
    GridTracks fo r g' (A ++ B) := by
  have hmb : EdgeMono fo gb.w gb.shift := by rw [← hwab, ← hsab]; exact hm
  have t1 := gridTracks_regrid fo a ga A ta hm g' r1 hw hs hal had hire ok1
  have t2 := gridTracks_regrid fo b gb B tb hmb g' r2 (hw.trans hwab) (hs.trans hsab)
    (by rw [hal, ta.state.align, tb.state.align]) (by rw [had, ta.state.adaptive, tb.state.adaptive])
    (by rw [hire, ta.state.ire, tb.state.ire]) ok2
  exact t1.append (by rw [hw, hs]; exact hm) t2.inside hbin (hkeep.trans ta.state.keep.symm)
    (hf.trans (congrArg _ t2.freq)) (he.trans (congrArg _ t2.err2)) hu ho

/-- a state on a grid with the same bins as `ga` (same lattice) is a state on `ga` -/
theorem gridTracks_rebase {fo : FloatOps} {b : H1} {ga gb : Grid} {B : List Pt} (tb : GridTracks fo b gb B)
    (hm : EdgeMono fo ga.w ga.shift) (hw : ga.w = gb.w) (hs : ga.shift = gb.shift)
    (hb : ga.bins fo = gb.bins fo) (had : ga.adaptive = true) (hal : ga.align = true) (hire : ga.ire = false) :
    GridTracks fo { b with binning := .fixed ga } ga B := by
  obtain ⟨hc, ht⟩ := grids_of_same_bins hm hw hs hb
  refine ⟨⟨rfl, had, hal, hire, tb.state.keep, tb.state.flen.trans hc.symm, tb.state.elen.trans hc.symm⟩,
    hb ▸ tb.freq, hb ▸ tb.err2, tb.under, tb.over, ?_⟩
  by_cases h0 : gb.count = 0
  · rw [tb.nil_of_empty h0]; exact Inside.nil _ _ _
  · rw [edgeAt_congr fo hw hs, ht (by omega), hc]; exact tb.inside

/-- **h(A) + h(B) = h(A and B together), adaptive operands** (all fields).  Both branches of
    `__iadd__`: equal bins (pointwise sums) and different bins (extend both to the union range on the
    common grid, then add). -/
theorem gridTracks_iadd_full (fo : FloatOps) (a b : H1) (ga gb : Grid) (A B : List Pt)
    (ta : GridTracks fo a ga A) (tb : GridTracks fo b gb B) (hw : ga.w = gb.w) (hs : ga.shift = gb.shift)
    (hm : EdgeMono fo ga.w ga.shift) (hin : InnerOK b) :
    ∃ (r : H1) (g' : Grid), a.iadd fo b = .ok r ∧ GridTracks fo r g' (A ++ B) ∧
      g'.w = ga.w ∧ g'.shift = ga.shift ∧ SpanUnion ga gb g' ∧
      r.stats = a.stats.add b.stats ∧ r.dtype = a.dtype.promote b.dtype ∧
      (r.inner = a.inner ∨ r.inner = nadd a.inner b.inner) := by
  have sa := ta.state
  cases hsb : a.sameBins fo b with
  | true =>
    have hb : ga.bins fo = gb.bins fo := by
      rw [← ta.bins_eq, ← tb.bins_eq]; simpa [sameBins] using hsb
    obtain ⟨hc, ht⟩ := grids_of_same_bins hm hw hs hb
    refine ⟨_, ga, iadd_same_eq fo a b hsb, ?_, rfl, rfl, SpanUnion.of_same hc ht, rfl, rfl, Or.inr rfl⟩
    -- both operands live on `ga`: nothing moves
    refine gridTracks_merge fo a _ _ ga ga ga A B .noChange .noChange ta
      (gridTracks_rebase tb hm hw hs hb sa.adaptive sa.align sa.ire) hm rfl rfl rfl rfl rfl rfl rfl
      (ReshapeOK.refl ga) (ReshapeOK.refl ga) sa.binning sa.keep rfl rfl ?_ ?_
    · show nadd a.under b.under = some 0
      rw [ta.under, tb.under]; exact nadd_zero _
    · show nadd a.over b.over = some 0
      rw [ta.over, tb.over]; exact nadd_zero _
  | false =>
    obtain ⟨g', r1, r2, hag, hw', hs', hal, had, hire, ok1, ok2, sp⟩ := adaptGrids_spec ga gb hw hs
    refine ⟨_, g', iadd_adapt_eq fo a b ga gb g' r1 r2 hsb sa.binning sa.adaptive tb.state.binning
      (missed_not_pos tb hin) hag, ?_, hw', hs', sp, rfl, rfl, Or.inl rfl⟩
    exact gridTracks_merge fo a b _ ga gb g' A B r1 r2 ta tb hm hw hs hw' hs' hal had hire ok1 ok2 rfl sa.keep
      rfl rfl ta.under ta.over

/-- two states that track the same data (up to the order of two blocks) over the same bins agree -/
theorem gridTracks_agree_swap {fo : FloatOps} {r1 r2 : H1} {g1 g2 : Grid} {A B : List Pt}
    (t1 : GridTracks fo r1 g1 (A ++ B)) (t2 : GridTracks fo r2 g2 (B ++ A))
    (hm : EdgeMono fo g1.w g1.shift) (hb : g1.bins fo = g2.bins fo) :
    r1.bins fo = r2.bins fo ∧ r1.freq = r2.freq ∧ r1.err2 = r2.err2 ∧ r1.under = r2.under ∧ r1.over = r2.over ∧
      r1.total = r2.total ∧ r1.keep = r2.keep := by
  have hrise := bins_rising fo g1 hm
  have hf : r1.freq = r2.freq := by
    rw [t1.freq, t2.freq, ← hb, calc1d_append_freq _ hrise, calc1d_append_freq _ hrise, zipAdd_comm]
  refine ⟨by rw [t1.bins_eq, t2.bins_eq, hb], hf, ?_,
    by rw [t1.under, t2.under], by rw [t1.over, t2.over], by unfold H1.total; rw [hf],
    by rw [t1.state.keep, t2.state.keep]⟩
  rw [t1.err2, t2.err2, ← hb, calc1d_append_err2 _ hrise, calc1d_append_err2 _ hrise, zipAdd_comm]

/-- **The range of a sum is the hull of all non-empty ranges**: every non-empty range is contained,
    and both ends are attained by one of them (so with only empty operands the result is empty). -/
structure SpanList (gs : List Grid) (g' : Grid) : Prop where
  covers : ∀ g ∈ gs, 0 < g.count → g'.tmin ≤ g.tmin ∧ g.tmin + g.count ≤ g'.tmin + g'.count
  loTight : 0 < g'.count → ∃ g ∈ gs, 0 < g.count ∧ g.tmin = g'.tmin
  hiTight : 0 < g'.count → ∃ g ∈ gs, 0 < g.count ∧ g.tmin + g.count = g'.tmin + g'.count

theorem SpanList.single (g : Grid) : SpanList [g] g := by
  refine ⟨?_, fun hp => ⟨g, List.mem_cons_self .., hp, rfl⟩, fun hp => ⟨g, List.mem_cons_self .., hp, rfl⟩⟩
  intro x hx _
  rw [List.mem_singleton.mp hx]
  exact ⟨le_refl _, le_refl _⟩

/-- a grid whose range is the hull of the ranges of a list of grids -/
theorem SpanList.of_span {gs : List Grid} {g' : Grid} (h : g'.span = hullAll (gs.map Grid.span)) :
    SpanList gs g' := by
  refine ⟨fun g hg hp => ?_, fun hp => ?_, fun hp => ?_⟩
  · obtain ⟨lo, hi, e, h1, h2⟩ := within_hullAll (List.mem_map_of_mem hg) _ _ (span_of_pos hp)
    rw [← h, span_eq_some] at e
    omega
  · obtain ⟨⟨b, hb⟩, _⟩ := hullAll_attained (h ▸ span_of_pos hp)
    obtain ⟨g, hg, e⟩ := List.mem_map.mp hb
    rw [span_eq_some] at e
    exact ⟨g, hg, e.1, e.2.1⟩
  · obtain ⟨_, ⟨a, ha⟩⟩ := hullAll_attained (h ▸ span_of_pos hp)
    obtain ⟨g, hg, e⟩ := List.mem_map.mp ha
    rw [span_eq_some] at e
    exact ⟨g, hg, e.1, e.2.2⟩

/-- … and `SpanList` says no more than that -/
theorem SpanList.span_eq {gs : List Grid} {g' : Grid} (sl : SpanList gs g') :
    g'.span = hullAll (gs.map Grid.span) := by
  cases hh : hullAll (gs.map Grid.span) with
  | none =>
    rw [span_eq_none]
    by_contra h0
    obtain ⟨g, hg, hp, _⟩ := sl.loTight (Nat.pos_of_ne_zero h0)
    obtain ⟨lo, hi, e, _⟩ := within_hullAll (List.mem_map_of_mem hg) _ _ (span_of_pos hp)
    rw [hh] at e
    cases e
  | some s =>
    obtain ⟨lo, hi⟩ := s
    obtain ⟨⟨b, hb⟩, ⟨a, ha⟩⟩ := hullAll_attained hh
    obtain ⟨x, hx, ex⟩ := List.mem_map.mp hb
    obtain ⟨y, hy, ey⟩ := List.mem_map.mp ha
    rw [span_eq_some] at ex ey
    have cx := sl.covers x hx ex.1
    have cy := sl.covers y hy ey.1
    have hp : 0 < g'.count := by omega
    obtain ⟨x', hx', px', ex'⟩ := sl.loTight hp
    obtain ⟨y', hy', py', ey'⟩ := sl.hiTight hp
    obtain ⟨lo1, hi1, e1, _, _⟩ := within_hullAll (List.mem_map_of_mem hx') _ _ (span_of_pos px')
    obtain ⟨lo2, hi2, e2, _, _⟩ := within_hullAll (List.mem_map_of_mem hy') _ _ (span_of_pos py')
    rw [hh] at e1 e2
    cases e1
    cases e2
    rw [span_eq_some]
    omega

theorem SpanList.union {l1 l2 : List Grid} {g1 g2 g : Grid} (s1 : SpanList l1 g1) (s2 : SpanList l2 g2)
    (su : SpanUnion g1 g2 g) : SpanList (l1 ++ l2) g :=
  .of_span (by rw [List.map_append, hullAll_append, ← s1.span_eq, ← s2.span_eq, su.span])

/-- `SpanList` mentions the list through membership only -/
theorem SpanList.congr_mem {l l' : List Grid} {g : Grid} (s : SpanList l g) (hmem : ∀ x, x ∈ l ↔ x ∈ l') :
    SpanList l' g :=
  ⟨fun x hx => s.covers x ((hmem x).mpr hx),
   fun hp => let ⟨x, hx, h⟩ := s.loTight hp; ⟨x, (hmem x).mp hx, h⟩,
   fun hp => let ⟨x, hx, h⟩ := s.hiTight hp; ⟨x, (hmem x).mp hx, h⟩⟩

/-- the hull of a collection of ranges is unique (and does not depend on order or repetitions) -/
theorem SpanList.unique {l l' : List Grid} {g g' : Grid} (s : SpanList l g) (s' : SpanList l' g')
    (hmem : ∀ x, x ∈ l ↔ x ∈ l') : (g.count = 0 ∧ g'.count = 0) ∨ (g.tmin = g'.tmin ∧ g.count = g'.count) :=
  span_eq_span.mp ((s.congr_mem hmem).span_eq.trans s'.span_eq.symm)

/-- **`sum()` over any partition into adaptive chunk histograms** (a list, dask chunks): every
    chunk histogram `p.1` holds the histogram of its own data `p.2.2` on its own grid `p.2.1` (same width
    and origin).  Folding `+=` over the chunks is accepted at every step and gives the histogram of all
    the data, over the hull of all the chunk ranges — the adaptive version of `C05_chunks`. -/
theorem gridTracks_sum_span (fo : FloatOps) (w s : Rat) (hm : EdgeMono fo w s)
    (rest : List (H1 × Grid × List Pt))
    (hrest : ∀ p ∈ rest, GridTracks fo p.1 p.2.1 p.2.2 ∧ p.2.1.w = w ∧ p.2.1.shift = s ∧ InnerOK p.1)
    (first : H1) (gf : Grid) (F : List Pt) (tf : GridTracks fo first gf F) (hw : gf.w = w) (hs : gf.shift = s) :
    ∃ (r : H1) (g' : Grid), rest.foldlM (fun acc p => acc.iadd fo p.1) first = .ok r ∧
      GridTracks fo r g' (F ++ (rest.map (·.2.2)).flatten) ∧ g'.w = w ∧ g'.shift = s ∧
      g'.span = hullAll ((gf :: rest.map (·.2.1)).map Grid.span) := by
  induction rest generalizing first gf F with
  | nil => exact ⟨first, gf, rfl, by simpa using tf, hw, hs, (hull_none_right _).symm⟩
  | cons p ps ih =>
    obtain ⟨tp, hwp, hsp, hip⟩ := hrest p (List.mem_cons_self ..)
    obtain ⟨m, gm, em, tm, hwm, hsm, su, _⟩ :=
      gridTracks_iadd_full fo first p.1 gf p.2.1 F p.2.2 tf tp (by rw [hw, hwp]) (by rw [hs, hsp])
        (by rw [hw, hs]; exact hm) hip
    obtain ⟨r, g', er, tr, hwr, hsr, sl⟩ := ih (fun q hq => hrest q (List.mem_cons_of_mem _ hq)) m gm (F ++ p.2.2) tm
      (hwm.trans hw) (hsm.trans hs)
    refine ⟨r, g', ?_, ?_, hwr, hsr, ?_⟩
    · simp only [List.foldlM_cons, bind, Except.bind, em]
      exact er
    · rw [List.map_cons, List.flatten_cons, ← List.append_assoc]; exact tr
    · simp only [List.map_cons, hullAll_cons] at sl ⊢
      rw [sl, su.span, hull_assoc]

theorem wsum_chunks (fo : FloatOps) (w s : Rat) (hm : EdgeMono fo w s) (rest : List (H1 × Grid × List Pt))
    (hrest : ∀ p ∈ rest, GridTracks fo p.1 p.2.1 p.2.2 ∧ p.2.1.w = w ∧ p.2.1.shift = s ∧ InnerOK p.1) :
    wsum (rest.map (·.2.2)).flatten = (rest.map (·.1.total)).sum := by
  induction rest with
  | nil => rfl
  | cons p ps ih =>
    obtain ⟨tp, hwp, hsp, _⟩ := hrest p (List.mem_cons_self ..)
    simp only [List.map_cons, List.flatten_cons, List.sum_cons, wsum_append]
    rw [ih (fun q hq => hrest q (List.mem_cons_of_mem _ hq)), tp.total (by rw [hwp, hsp]; exact hm)]

/-- the sum over chunks: nothing lost — the total is the sum of all totals, the result is the fixed-bin
    histogram of all the data over the final bins, underflow = overflow = 0 -/
theorem gridTracks_sum_nothing_lost (fo : FloatOps) (w s : Rat) (hm : EdgeMono fo w s)
    (rest : List (H1 × Grid × List Pt))
    (hrest : ∀ p ∈ rest, GridTracks fo p.1 p.2.1 p.2.2 ∧ p.2.1.w = w ∧ p.2.1.shift = s ∧ InnerOK p.1)
    (first : H1) (gf : Grid) (F : List Pt) (tf : GridTracks fo first gf F) (hw : gf.w = w) (hs : gf.shift = s) :
    ∃ r : H1, rest.foldlM (fun acc p => acc.iadd fo p.1) first = .ok r ∧
      r.total = wsum (F ++ (rest.map (·.2.2)).flatten) ∧
      r.total = first.total + (rest.map (·.1.total)).sum ∧
      r.freq = (calc1d (r.bins fo) (F ++ (rest.map (·.2.2)).flatten)).freq ∧
      r.err2 = (calc1d (r.bins fo) (F ++ (rest.map (·.2.2)).flatten)).err2 ∧
      r.underflow = some 0 ∧ r.overflow = some 0 := by
  obtain ⟨r, g', er, tr, hwr, hsr, _⟩ := gridTracks_sum_span fo w s hm rest hrest first gf F tf hw hs
  obtain ⟨e1, e2, _, _, e5, e6, e7, _⟩ := tr.report hwr hsr hm
  refine ⟨r, er, e5, ?_, e1, e2, e6, e7⟩
  rw [e5, wsum_append, (tf.report hw hs hm).2.2.2.2.1, wsum_chunks fo w s hm rest hrest]

theorem innerOK_iadd {a b r : H1} (ha : InnerOK a) (hb : InnerOK b)
    (hr : r.inner = a.inner ∨ r.inner = nadd a.inner b.inner) : InnerOK r := by
  intro m hm
  rcases hr with h | h
  · rw [h] at hm; exact ha m hm
  · rw [h] at hm; exact innerOK_nadd ha hb m hm

/-- **The model computes what the theorems say** (exact arithmetic, width 1/2).  One adaptive histogram
    filled with 1/4 and 3 (cells 0 and 6: range `[0, 7)`), another with -2 and 7/4 (cells -4 and 3: range
    `[-4, 4)`).  Added either way: accepted, range `[-4, 7)` = the union, the four weights in the bins of
    cells -4, 0, 3, 6, total 4 = 2 + 2, nothing missed — and both orders give the same record. -/
example :
    let g : Grid := { w := 1 / 2, adaptive := true }
    let e := H1.empty FloatOps.exact (.fixed g) true none
    let a := fillAll FloatOps.exact 4 e [((1 / 4, 1), .pyInt), ((3, 1), .pyInt)]
    let b := fillAll FloatOps.exact 4 e [((-2, 1), .pyInt), ((7 / 4, 1), .pyInt)]
    a.binning = .fixed { w := 1 / 2, tmin := 0, count := 7, adaptive := true } ∧
    b.binning = .fixed { w := 1 / 2, tmin := -4, count := 8, adaptive := true } ∧
    a.sameBins FloatOps.exact b = false ∧
    (a.iadd FloatOps.exact b).map (fun r => (r.binning, r.freq, r.err2))
      = .ok (.fixed { w := 1 / 2, tmin := -4, count := 11, adaptive := true },
             [1, 0, 0, 0, 1, 0, 0, 1, 0, 0, 1], [1, 0, 0, 0, 1, 0, 0, 1, 0, 0, 1]) ∧
    (a.iadd FloatOps.exact b).map (fun r => (r.under, r.over, r.inner, r.total)) = .ok (some 0, some 0, some 0, 4) ∧
    a.iadd FloatOps.exact b = b.iadd FloatOps.exact a ∧
    (a.iadd FloatOps.exact b).map (fun r => r.freq)
      = .ok (calc1d ((Grid.bins FloatOps.exact { w := 1 / 2, tmin := -4, count := 11 }))
          [(1 / 4, 1), (3, 1), (-2, 1), (7 / 4, 1)]).freq := by
  decide +kernel

/-- The hypotheses of `C05_adaptive` / `C05_adaptive_comm` hold for these two operands. -/
example :
    let g : Grid := { w := 1 / 2, adaptive := true }
    let e := H1.empty FloatOps.exact (.fixed g) true none
    let a := fillAll FloatOps.exact 4 e [((1 / 4, 1), .pyInt), ((3, 1), .pyInt)]
    let b := fillAll FloatOps.exact 4 e [((-2, 1), .pyInt), ((7 / 4, 1), .pyInt)]
    ∃ ga gb : Grid, GridTracks FloatOps.exact a ga [(1 / 4, 1), (3, 1)] ∧
      GridTracks FloatOps.exact b gb [(-2, 1), (7 / 4, 1)] ∧ ga.w = gb.w ∧ ga.shift = gb.shift ∧
      EdgeMono FloatOps.exact ga.w ga.shift ∧ InnerOK a ∧ InnerOK b := by
  intro g e a b
  have hm : EdgeMono FloatOps.exact g.w g.shift := C04_exact_mono _ _ (by norm_num)
  obtain ⟨ga, ta, sa⟩ := gridTracks_history FloatOps.exact 4 g.w g.shift hm
    [((1 / 4, 1), .pyInt), ((3, 1), .pyInt)] (fun x _ => reach_exact _ _ (by norm_num) _ _) e g [] rfl rfl
    (gridTracks_empty _ _ rfl rfl rfl rfl _)
  obtain ⟨gb, tb, sb⟩ := gridTracks_history FloatOps.exact 4 g.w g.shift hm
    [((-2, 1), .pyInt), ((7 / 4, 1), .pyInt)] (fun x _ => reach_exact _ _ (by norm_num) _ _) e g [] rfl rfl
    (gridTracks_empty _ _ rfl rfl rfl rfl _)
  refine ⟨ga, gb, ta, tb, by rw [sa.w, sb.w], by rw [sa.shift, sb.shift], by rw [sa.w, sa.shift]; exact hm,
    innerOK_of_zero (by decide +kernel), innerOK_of_zero (by decide +kernel)⟩

/-- Empty operands: adding an empty adaptive histogram on either side changes nothing (the `.fresh`
    reshape instruction of `adaptGrids`: the empty side is replaced by zeros of the other's length). -/
example :
    let g : Grid := { w := 1 / 2, adaptive := true }
    let e := H1.empty FloatOps.exact (.fixed g) true none
    let b := fillAll FloatOps.exact 4 e [((-2, 1), .pyInt), ((7 / 4, 1), .pyInt)]
    (e.iadd FloatOps.exact b).map (fun r => (r.binning, r.freq, r.err2)) = .ok (b.binning, b.freq, b.err2) ∧
    (b.iadd FloatOps.exact e).map (fun r => (r.binning, r.freq, r.err2)) = .ok (b.binning, b.freq, b.err2) := by
  decide +kernel

/-- **Why commutativity is stated for bins, not for the `binning` record**: two EMPTY adaptive histograms
    whose (unobservable) first-cell numbers differ have equal bins (`[]`), the equal-bins branch keeps the
    left operand's grid, so `a + b` and `b + a` carry different `tmin` — with identical bins, contents,
    errors and missed counts. -/
example :
    let a := H1.empty FloatOps.exact (.fixed { w := 1 / 2, adaptive := true }) true none
    let b := H1.empty FloatOps.exact (.fixed { w := 1 / 2, tmin := 5, adaptive := true }) true none
    (a.iadd FloatOps.exact b).map (·.binning) = .ok (.fixed { w := 1 / 2, tmin := 0, adaptive := true }) ∧
    (b.iadd FloatOps.exact a).map (·.binning) = .ok (.fixed { w := 1 / 2, tmin := 5, adaptive := true }) ∧
    (a.iadd FloatOps.exact b).map (fun r => (r.bins FloatOps.exact, r.freq, r.err2, r.under, r.over))
      = (b.iadd FloatOps.exact a).map (fun r => (r.bins FloatOps.exact, r.freq, r.err2, r.under, r.over)) := by
  decide +kernel

/-- **The side condition `InnerOK` is needed, and only in the adapting branch.**  With a positive
    inner-missed slot on the right operand `__iadd__` refuses when the bins differ ("other has missed
    values"); with equal bins the same operand is accepted and the slot is added. -/
example :
    let g : Grid := { w := 1 / 2, adaptive := true }
    let e := H1.empty FloatOps.exact (.fixed g) true none
    let a := fillAll FloatOps.exact 4 e [((1 / 4, 1), .pyInt), ((3, 1), .pyInt)]
    let b := fillAll FloatOps.exact 4 e [((-2, 1), .pyInt), ((7 / 4, 1), .pyInt)]
    a.iadd FloatOps.exact { b with inner := some 1 } = .error "other has missed values" ∧
    (a.iadd FloatOps.exact { a with inner := some 1 }).map (fun r => (r.freq, r.inner))
      = .ok ([2, 0, 0, 0, 0, 0, 2], some 1) := by
  decide +kernel

/-- **Counterexample for `includes_right_edge` grids (`ire = true`, excluded by `GridTracks`; physt refuses
    to build such an adaptive binning).**  Width 1.  `a` filled with 1/2 and 1: the value 1 ON the last
    edge goes into the right-closed last bin `[0, 1]`, contents `[2]`.  `b` filled with 5/2: bin `[2, 3]`.
    `a + b` is accepted with contents `[2, 0, 1]` over `[0,1) [1,2) [2,3]`, but the histogram of the same
    three values over those bins is `[1, 1, 1]`: with `ire = true` "h(A) + h(B) = h(A and B together)"
    fails for adaptive operands. -/
example :
    let g : Grid := { w := 1, adaptive := true, ire := true }
    let e := H1.empty FloatOps.exact (.fixed g) true none
    let a := fillAll FloatOps.exact 4 e [((1 / 2, 1), .pyInt), ((1, 1), .pyInt)]
    let b := fillAll FloatOps.exact 4 e [((5 / 2, 1), .pyInt)]
    a.freq = [2] ∧ b.freq = [1] ∧
    (a.iadd FloatOps.exact b).map (fun r => (r.binning, r.freq))
      = .ok (.fixed { w := 1, tmin := 0, count := 3, adaptive := true, ire := true }, [2, 0, 1]) ∧
    (calc1d (Grid.bins FloatOps.exact { w := 1, tmin := 0, count := 3 }) [(1 / 2, 1), (1, 1), (5 / 2, 1)]).freq
      = [1, 1, 1] := by
  decide +kernel

/-- Different widths (or origins) are refused: the hypotheses `ga.w = gb.w`, `ga.shift = gb.shift` are
    what `FixedWidthBinning._adapt` checks. -/
example :
    let a := fillAll FloatOps.exact 4 (H1.empty FloatOps.exact (.fixed { w := 1 / 2, adaptive := true }) true none)
      [((1 / 4, 1), .pyInt)]
    let b := fillAll FloatOps.exact 4 (H1.empty FloatOps.exact (.fixed { w := 1, adaptive := true }) true none)
      [((7 / 4, 1), .pyInt)]
    let c := fillAll FloatOps.exact 4
      (H1.empty FloatOps.exact (.fixed { w := 1 / 2, shift := 1 / 8, adaptive := true }) true none) [((7 / 4, 1), .pyInt)]
    a.iadd FloatOps.exact b = .error "different widths" ∧ a.iadd FloatOps.exact c = .error "different shifts" := by
  decide +kernel

end Physt
