import Physt.Proofs.FindBin
import Physt.Model.HistND
/-!
# `to_numpy_bins_with_mask` + `histogramdd` + mask lookup finds the bin that contains the value

`axisCell` (the route taken by `calculate_nd_frequencies`) and `HN.findBinAxis` (the route taken by
`find_bin`) both return bin `i` exactly when `inBin bins ire i x`, for every rising binning, every
value and both right-edge conventions; hence they agree.
-/
namespace Physt

/-- the mask lookup `ix_(mask)` on a duplicate-free mask -/
theorem idxOf_lookup (ms : List Nat) (hnd : ms.Nodup) (nb i : Nat) :
    (if ms.idxOf nb < ms.length then some (ms.idxOf nb) else none) = some i ↔ ms[i]? = some nb := by
  constructor
  · intro h
    by_cases hlt : ms.idxOf nb < ms.length
    · simp only [hlt, if_true, Option.some.injEq] at h
      subst h
      rw [List.getElem?_eq_getElem hlt, List.getElem_idxOf hlt]
    · simp [hlt] at h
  · intro h
    obtain ⟨hi, hget⟩ := List.getElem?_eq_some_iff.mp h
    have := hnd.idxOf_getElem i hi
    rw [hget] at this
    rw [this]
    simp [hi]

theorem maskedEdgesAux_cons₂ (l r l' r' : Rat) (rest : Bins) (j : Nat) :
    maskedEdgesAux ((l, r) :: (l', r') :: rest) j =
      if r = l' then
        (r :: (maskedEdgesAux ((l', r') :: rest) (j + 1)).1,
          j :: (maskedEdgesAux ((l', r') :: rest) (j + 1)).2)
      else
        (r :: l' :: (maskedEdgesAux ((l', r') :: rest) (j + 2)).1,
          j :: (maskedEdgesAux ((l', r') :: rest) (j + 2)).2) := by
  rw [maskedEdgesAux]

/-- The invariant connecting a binning, the list `E` of all its edges (gaps included) and the
    mask `ms` of the real bins, numbered from `j`. -/
structure MaskInv (bins : Bins) (j : Nat) (E : List Rat) (ms : List Nat) : Prop where
  len : ms.length = bins.length
  ge : ∀ m ∈ ms, j ≤ m
  incr : ms.Pairwise (· < ·)
  sorted : E.Pairwise (· < ·)
  pos : ∀ i a b, bins[i]? = some (a, b) →
    ∃ m, ms[i]? = some m ∧ j ≤ m ∧ E[m - j]? = some a ∧ E[m - j + 1]? = some b ∧
      (i + 1 = bins.length → m + 2 = j + E.length)

theorem MaskInv.single (l r : Rat) (h : l < r) (j : Nat) : MaskInv [(l, r)] j [l, r] [j] where
  len := rfl
  ge := fun m hm => List.mem_singleton.mp hm ▸ Nat.le_refl j
  incr := List.pairwise_singleton _ _
  sorted := List.pairwise_cons.mpr ⟨fun e he => List.mem_singleton.mp he ▸ h, List.pairwise_singleton _ _⟩
  pos := by
    intro i a b hi
    cases i with
    | zero =>
      obtain ⟨rfl, rfl⟩ : l = a ∧ r = b := by simpa using hi
      exact ⟨j, rfl, Nat.le_refl _, by rw [Nat.sub_self]; rfl, by rw [Nat.sub_self]; rfl, fun _ => rfl⟩
    | succ i => simp at hi

theorem pairwise_lt_cons {l a : Rat} {es : List Rat} (hl : l < a) (h : (a :: es).Pairwise (· < ·)) :
    (l :: a :: es).Pairwise (· < ·) := by
  refine List.pairwise_cons.mpr ⟨fun e he => ?_, h⟩
  rcases List.mem_cons.mp he with rfl | he
  · exact hl
  · exact lt_trans hl ((List.pairwise_cons.mp h).1 e he)

/-- One more bin `(l, r)` in front: its edges `pre` (just `l` when the next bin starts at `r`, else
    `l, r`) go in front of the edges, and the numbering starts `pre.length` earlier. -/
theorem MaskInv.cons {l r : Rat} {bins : Bins} {j : Nat} {E : List Rat} {ms : List Nat} (pre : List Rat)
    (h : MaskInv bins (j + pre.length) E ms) (hpre : 0 < pre.length) (hne : 0 < bins.length)
    (hs : (pre ++ E).Pairwise (· < ·)) (h0 : (pre ++ E)[0]? = some l) (h1 : (pre ++ E)[1]? = some r) :
    MaskInv ((l, r) :: bins) j (pre ++ E) (j :: ms) where
  len := congrArg Nat.succ h.len
  ge := by
    intro m hm
    rcases List.mem_cons.mp hm with rfl | hm
    · exact Nat.le_refl _
    · exact Nat.le_trans (Nat.le_add_right _ _) (h.ge m hm)
  incr := List.pairwise_cons.mpr
    ⟨fun m hm => Nat.lt_of_lt_of_le (Nat.lt_add_of_pos_right hpre) (h.ge m hm), h.incr⟩
  sorted := hs
  pos := by
    intro i a b hi
    cases i with
    | zero =>
      obtain ⟨rfl, rfl⟩ := Prod.mk.inj (Option.some.inj hi)
      refine ⟨j, rfl, Nat.le_refl _, by rwa [Nat.sub_self], by rwa [Nat.sub_self], fun hlen => ?_⟩
      exact absurd (Nat.succ.inj hlen) (Nat.ne_of_lt hne)
    | succ i =>
      obtain ⟨m, hm, hjm, ha, hb, hlast⟩ := h.pos i a b hi
      have e : m - j = pre.length + (m - (j + pre.length)) := by omega
      refine ⟨m, hm, Nat.le_trans (Nat.le_add_right _ _) hjm, ?_, ?_, fun hlen => ?_⟩
      · rwa [e, List.getElem?_append_right (Nat.le_add_right _ _), Nat.add_sub_cancel_left]
      · rwa [e, Nat.add_assoc, List.getElem?_append_right (Nat.le_add_right _ _), Nat.add_sub_cancel_left]
      · rw [List.length_append, ← Nat.add_assoc]
        exact hlast (Nat.succ.inj hlen)

theorem maskInv_aux (rest : Bins) : ∀ (l r : Rat) (j : Nat), Rising ((l, r) :: rest) →
    MaskInv ((l, r) :: rest) j (l :: (maskedEdgesAux ((l, r) :: rest) j).1)
      (maskedEdgesAux ((l, r) :: rest) j).2 := by
  induction rest with
  | nil => intro l r j h; exact MaskInv.single l r h j
  | cons c rest ih =>
    obtain ⟨l', r'⟩ := c
    intro l r j h
    have hl : l < r := h.1
    have hr : r ≤ l' := h.2.1
    have ht : Rising ((l', r') :: rest) := h.2.2
    rw [maskedEdgesAux_cons₂]
    by_cases heq : r = l'
    · subst heq
      rw [if_pos rfl]
      have inv := ih r r' (j + 1) ht
      exact inv.cons [l] Nat.one_pos (Nat.succ_pos _) (pairwise_lt_cons hl inv.sorted) rfl rfl
    · rw [if_neg heq]
      have inv := ih l' r' (j + 2) ht
      exact inv.cons [l, r] Nat.two_pos (Nat.succ_pos _)
        (pairwise_lt_cons hl (pairwise_lt_cons (lt_of_le_of_ne hr heq) inv.sorted)) rfl rfl

theorem maskedEdges_cons (l r : Rat) (rest : Bins) :
    maskedEdges ((l, r) :: rest) =
      (l :: (maskedEdgesAux ((l, r) :: rest) 0).1, (maskedEdgesAux ((l, r) :: rest) 0).2) := rfl

theorem maskInv_maskedEdges (bins : Bins) (hb : Rising bins) (hne : bins ≠ []) :
    MaskInv bins 0 (maskedEdges bins).1 (maskedEdges bins).2 := by
  cases bins with
  | nil => exact (hne rfl).elim
  | cons c rest =>
    obtain ⟨l, r⟩ := c
    rw [maskedEdges_cons]
    exact maskInv_aux rest l r 0 hb

theorem axisCell_eq (bins : Bins) (ire : Bool) (x : Rat) :
    axisCell bins ire x =
      match numpyBinOf (maskedEdges bins).1 ire x with
      | none => none
      | some nb =>
        if (maskedEdges bins).2.idxOf nb < (maskedEdges bins).2.length
          then some ((maskedEdges bins).2.idxOf nb) else none := rfl

theorem numpyBinOf_eq_some_iff (E : List Rat) (ire : Bool) (x : Rat) (m : Nat) :
    numpyBinOf E ire x = some m ↔
      ((E.filter fun e => decide (e ≤ x)).length = m + 1 ∧ m + 1 < E.length) ∨
      ((E.filter fun e => decide (e ≤ x)).length = E.length ∧ ire = true ∧ E.getLast? = some x ∧
        m + 2 = E.length) := by
  have hkle : (E.filter fun e => decide (e ≤ x)).length ≤ E.length := List.length_filter_le _ _
  unfold numpyBinOf
  simp only
  generalize (E.filter fun e => decide (e ≤ x)).length = k at *
  constructor
  · intro h
    split at h
    · cases h
    · split at h
      · split at h
        · rename_i hkn hc
          cases h
          exact Or.inr ⟨hkn, hc.1, hc.2.1, Nat.sub_add_cancel hc.2.2⟩
        · cases h
      · rename_i hk0 hkn
        cases h
        have hk : k = k - 1 + 1 := (Nat.succ_pred_eq_of_ne_zero hk0).symm
        exact Or.inl ⟨hk, hk ▸ Nat.lt_of_le_of_ne hkle hkn⟩
  · rintro (⟨hk, hlt⟩ | ⟨hk, hire, hlast, hm⟩)
    · rw [if_neg (hk ▸ Nat.succ_ne_zero m), if_neg (hk ▸ Nat.ne_of_lt hlt), hk, Nat.add_sub_cancel]
    · rw [if_neg (hk ▸ hm ▸ Nat.succ_ne_zero (m + 1)), if_pos hk,
        if_pos ⟨hire, hlast, hm ▸ Nat.le_add_left 2 m⟩, ← hm, Nat.add_sub_cancel]

theorem numpyBinOf_spec (E : List Rat) (hs : E.Pairwise (· < ·)) (ire : Bool) (x : Rat) (m : Nat)
    (a b : Rat) (ha : E[m]? = some a) (hb : E[m + 1]? = some b) :
    numpyBinOf E ire x = some m ↔
      a ≤ x ∧ (x < b ∨ (ire = true ∧ m + 2 = E.length ∧ x = b)) := by
  have sa : m < (E.filter fun e => decide (e ≤ x)).length ↔ a ≤ x :=
    countLe_spec (fun e => e) E (hs.imp le_of_lt) x m a ha
  have sb : m + 1 < (E.filter fun e => decide (e ≤ x)).length ↔ b ≤ x :=
    countLe_spec (fun e => e) E (hs.imp le_of_lt) x (m + 1) b hb
  have hkle : (E.filter fun e => decide (e ≤ x)).length ≤ E.length := List.length_filter_le _ _
  have hm1 : m + 1 < E.length := (List.getElem?_eq_some_iff.mp hb).1
  rw [numpyBinOf_eq_some_iff]
  generalize (E.filter fun e => decide (e ≤ x)).length = k at *
  constructor
  · rintro (⟨hk, _⟩ | ⟨hk, hire, hlast, hm⟩)
    · exact ⟨sa.mp (hk ▸ Nat.lt_succ_self m),
        Or.inl (not_le.mp fun hbx => Nat.lt_irrefl _ (hk ▸ sb.mpr hbx))⟩
    · have hbx : b = x := by
        rw [List.getLast?_eq_getElem?, ← hm, show m + 2 - 1 = m + 1 from rfl, hb] at hlast
        exact Option.some.inj hlast
      exact ⟨sa.mp (by omega), Or.inr ⟨hire, hm, hbx.symm⟩⟩
  · rintro ⟨hax, hxb | ⟨hire, hm, hxb⟩⟩
    · exact Or.inl ⟨Nat.le_antisymm (Nat.not_lt.mp (mt sb.mp (not_le.mpr hxb))) (sa.mpr hax), hm1⟩
    · have hk : E.length ≤ k := hm ▸ sb.mpr (le_of_eq hxb.symm)
      refine Or.inr ⟨Nat.le_antisymm hkle hk, hire, ?_, hm⟩
      rw [List.getLast?_eq_getElem?, ← hm, show m + 2 - 1 = m + 1 from rfl, hb, hxb]

/-- if `numpyBinOf` answers `m` then `m` is a numpy bin: both its edges exist -/
theorem numpyBinOf_lt (E : List Rat) (ire : Bool) (x : Rat) (m : Nat)
    (h : numpyBinOf E ire x = some m) : m + 1 < E.length := by
  rcases (numpyBinOf_eq_some_iff E ire x m).mp h with ⟨_, h⟩ | ⟨_, _, _, h⟩
  · exact h
  · omega

theorem MaskInv.last_of {bins : Bins} {E : List Rat} {ms : List Nat} (h : MaskInv bins 0 E ms)
    (i m : Nat) (hm : ms[i]? = some m) (hlast : m + 2 = E.length) : i + 1 = bins.length := by
  have hi : i < ms.length := (List.getElem?_eq_some_iff.mp hm).1
  have hlen := h.len
  by_contra hne
  have hi1 : i + 1 < bins.length := by omega
  obtain ⟨a', b'⟩ := bins[i + 1]'hi1
  obtain ⟨m', hm', _, _, hb', _⟩ := h.pos (i + 1) _ _ (List.getElem?_eq_getElem hi1)
  have hm'lt : m' + 1 < E.length := by
    have := (List.getElem?_eq_some_iff.mp hb').1
    omega
  have hi1' : i + 1 < ms.length := by omega
  have hlt := List.pairwise_iff_getElem.mp h.incr i (i + 1) hi hi1' (by omega)
  rw [(List.getElem?_eq_some_iff.mp hm).2, (List.getElem?_eq_some_iff.mp hm').2] at hlt
  omega

/-- **`to_numpy_bins_with_mask` + `histogramdd` + mask lookup.**  For a rising binning the cell
    search of `calculate_nd_frequencies` along one axis finds bin `i` exactly when
    `left_i ≤ x < right_i` (the last bin right-closed iff `ire`). -/
theorem axisCell_spec (bins : Bins) (hb : Rising bins) (ire : Bool) (x : Rat) (i : Nat) :
    axisCell bins ire x = some i ↔ inBin bins ire i x = true := by
  by_cases hne : bins = []
  · subst hne
    simp [axisCell_eq, maskedEdges, numpyBinOf, inBin]
  have inv := maskInv_maskedEdges bins hb hne
  rw [axisCell_eq, inBin_iff]
  generalize (maskedEdges bins).1 = E at *
  generalize (maskedEdges bins).2 = ms at *
  have hnd : ms.Nodup := inv.incr.imp (fun h => Nat.ne_of_lt h)
  constructor
  · intro h
    cases hnb : numpyBinOf E ire x with
    | none => simp [hnb] at h
    | some nb =>
      simp only [hnb] at h
      have hmi : ms[i]? = some nb := (idxOf_lookup ms hnd nb i).mp h
      have hi : i < bins.length := inv.len ▸ (List.getElem?_eq_some_iff.mp hmi).1
      obtain ⟨m, hm, _, ha, hbb, _⟩ := inv.pos i _ _ (List.getElem?_eq_getElem hi)
      obtain rfl : nb = m := Option.some.inj (hmi.symm.trans hm)
      obtain ⟨hax, hx⟩ := (numpyBinOf_spec E inv.sorted ire x nb _ _ ha hbb).mp hnb
      exact ⟨_, _, List.getElem?_eq_getElem hi, hax,
        hx.imp_right fun h => ⟨h.1, inv.last_of i nb hmi h.2.1, h.2.2⟩⟩
  · rintro ⟨a, b, hget, hax, hx⟩
    obtain ⟨m, hm, _, ha, hbb, hlast⟩ := inv.pos i a b hget
    have hnb : numpyBinOf E ire x = some m :=
      (numpyBinOf_spec E inv.sorted ire x m a b ha hbb).mpr
        ⟨hax, hx.imp_right fun h => ⟨h.1, by simpa using hlast h.2.1, h.2.2⟩⟩
    simp only [hnb]
    exact (idxOf_lookup ms hnd m i).mpr hm

/-- The cell search of `calculate_nd_frequencies` and `find_bin` agree along every rising axis. -/
theorem axisCell_eq_findBinAxis (bins : Bins) (hb : Rising bins) (ire : Bool) (x : Rat) :
    axisCell bins ire x = HN.findBinAxis bins ire x :=
  Option.ext fun i => (axisCell_spec bins hb ire x i).trans (findBinAxis_spec bins hb ire x i).symm

end Physt
