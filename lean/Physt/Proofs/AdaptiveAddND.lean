import Physt.Proofs.AdaptiveND
import Physt.Proofs.AdaptiveAdd
/-!
# Adding N-dimensional histograms with adaptive fixed-width axes (C05, adaptive clause, N-d)

The N-d counterpart of `Proofs/AdaptiveAdd.lean` (1-D, `GridTracks`), on top of the invariant
`TracksA fo h grids rows` of `Proofs/AdaptiveND.lean` (all axes adaptive, aligned, right-open grids; contents
and squared errors are the batch histogram of `rows` over the current bins; nothing missed; every row inside
every axis).  The object of study is the adapting branch of `HN.iadd`: per axis a plan (`planOf`:
`FixedWidthBinning.adapt` / `_adapt`, i.e. "equal bins: nothing to do", otherwise `H1.adaptGrids`), then both
operands' arrays are carried to the common grids axis by axis (`planStep`, `HN.reshapeAxis`), then added.

For operands on the same lattice (`lattice`: width and origin of every axis) no axis is refused, the common
grid of every axis is the union of both ranges (`UnionN`, per axis the `SpanUnion` of the 1-D theory), and the
reshaping loop turns the batch histogram of an operand's rows over its own bins into the batch histogram of the
same rows over the common bins (by `calcND_regrid`, one axis at a time).  For sums of many chunks: `SumTree`, a
bracketing of chunks, and `HullAll` (per axis `SpanList`), the hull of all the chunk ranges.  A union with grids
filled from empty grids is the hull of their rows (`UnionN.toHullN`), which is why `a + b` is what filling the
rows of `b` into `a` gives.  The theorems are in `Theorems/C05_AdaptiveND.lean`.
-/
namespace Physt
open Grid H1

/-- different bins, all axes of `h` adaptive, no positive missed count in `o`: the growing branch -/
theorem iaddN_grow (fo : FloatOps) (h o : HN) (hl : h.axes.length = o.axes.length)
    (hs : h.sameBins fo o = false) (ha : h.axes.all Binning.isAdaptive = true)
    (hmiss : ∀ m, o.missed = some m → ¬ 0 < m) : h.iadd fo o = HN.iaddGrow fo h o := by
  rw [HN.iadd_eq, if_neg (by simp [hl]), if_neg (by simp [hs]), if_pos ha]
  cases hm : o.missed with
  | none => rfl
  | some m => exact if_neg (hmiss m hm)

/-! ## One axis: the plan `FixedWidthBinning._adapt` makes for a pair of grids -/

/-- the instruction `r` is the right one for carrying contents from the grid `g` to the grid `g'`: as in one
    dimension (`ReshapeOK`), or there is nothing to do because the bins are the same -/
def PlanOK (fo : FloatOps) (g g' : Grid) (r : Reshape) : Prop :=
  ReshapeOK g g' r ∨ (r = .noChange ∧ g'.bins fo = g.bins fo)

/-- the plan of one axis: accepted for two grids of the same width and origin; the common grid keeps the
    left operand's flags, its range is the union of both ranges, both instructions are right -/
theorem planOf_spec (fo : FloatOps) (g1 g2 : Grid) (hw : g1.w = g2.w) (hs : g1.shift = g2.shift)
    (hm : EdgeMono fo g1.w g1.shift) :
    ∃ p : Plan, planOf fo (.fixed g1, .fixed g2) = .ok p ∧ p.1.w = g1.w ∧ p.1.shift = g1.shift ∧
      p.1.align = g1.align ∧ p.1.adaptive = g1.adaptive ∧ p.1.ire = g1.ire ∧
      PlanOK fo g1 p.1 p.2.1 ∧ PlanOK fo g2 p.1 p.2.2 ∧ SpanUnion g1 g2 p.1 := by
  by_cases hb : g1.bins fo = g2.bins fo
  · obtain ⟨hc, ht⟩ := grids_of_same_bins hm hw hs hb
    refine ⟨(g1, .noChange, .noChange), by simp [planOf, hb, pure, Except.pure], rfl, rfl, rfl, rfl, rfl,
      Or.inl (Or.inr (Or.inl ⟨rfl, rfl, rfl⟩)), Or.inr ⟨rfl, hb⟩, .of_same hc ht⟩
  · obtain ⟨g', r1, r2, hag, hw', hs', hal, had, hire, ok1, ok2, sp⟩ := adaptGrids_spec g1 g2 hw hs
    refine ⟨(g', r1, r2), ?_, hw', hs', hal, had, hire, Or.inl ok1, Or.inl ok2, sp⟩
    simp [planOf, hb, hag]

/-- width and origin of every axis -/
def lattice (gs : List Grid) : List (Rat × Rat) := gs.map fun g => (g.w, g.shift)

theorem lattice_length (gs : List Grid) : (lattice gs).length = gs.length := by simp [lattice]

theorem lattice_getElem? {ga gb : List Grid} (h : lattice ga = lattice gb) (i : Nat) (g1 g2 : Grid)
    (h1 : ga[i]? = some g1) (h2 : gb[i]? = some g2) : g1.w = g2.w ∧ g1.shift = g2.shift := by
  have := congrArg (·[i]?) h
  simp only [lattice, List.getElem?_map, h1, h2, Option.map_some, Option.some.injEq, Prod.mk.injEq] at this
  exact this

theorem lattice_len_eq {ga gb : List Grid} (h : lattice ga = lattice gb) : ga.length = gb.length := by
  rw [← lattice_length ga, ← lattice_length gb, h]

/-- **Per axis the grid of the sum is the union of both operands' ranges on the common grid**: same width,
    origin and flags as the left operand's axis; `SpanUnion` (both non-empty: from the lower first cell to the
    higher last cell; one of them empty: the other one's range). -/
structure UnionN (ga gb gr : List Grid) : Prop where
  len : gr.length = ga.length
  lenb : gb.length = ga.length
  each : ∀ (i : Nat) (g1 g2 g' : Grid), ga[i]? = some g1 → gb[i]? = some g2 → gr[i]? = some g' →
    g'.w = g1.w ∧ g'.shift = g1.shift ∧ g'.align = g1.align ∧ g'.adaptive = g1.adaptive ∧ g'.ire = g1.ire ∧
    SpanUnion g1 g2 g'

/-- what one side of the plans promises: the common grid is on the lattice of this operand's grid and the
    instruction for this operand is right -/
def SideOK (fo : FloatOps) (g g' : Grid) (r : Reshape) : Prop :=
  g'.w = g.w ∧ g'.shift = g.shift ∧ PlanOK fo g g' r

/-- all axes: the plans exist (nothing is refused), and they are right for both operands -/
theorem plans_spec (fo : FloatOps) (ga gb : List Grid) (hlat : lattice ga = lattice gb) (hm : MonoGrids fo ga) :
    ∃ plans : List Plan, ((ga.map Binning.fixed).zip (gb.map Binning.fixed)).mapM (planOf fo) = .ok plans ∧
      List.Forall₂ (fun g (p : Plan) => SideOK fo g p.1 p.2.1) ga plans ∧
      List.Forall₂ (fun g (p : Plan) => SideOK fo g p.1 p.2.2) gb plans ∧
      UnionN ga gb (plans.map (·.1)) := by
  have hf : List.Forall₂ (fun g1 g2 : Grid => g1.w = g2.w ∧ g1.shift = g2.shift) ga gb := by
    have : List.Forall₂ (· = ·) (lattice ga) (lattice gb) := by rw [List.forall₂_eq_eq_eq]; exact hlat
    simpa [lattice, List.forall₂_map_left_iff, List.forall₂_map_right_iff] using this
  clear hlat
  induction hf with
  | nil => exact ⟨[], rfl, .nil, .nil, ⟨rfl, rfl, fun i g1 _ _ h => by simp at h⟩⟩
  | @cons g1 g2 ga gb hg _ ih =>
    obtain ⟨hw, hs⟩ := hg
    obtain ⟨p, hp, pw, ps, pal, pad, pire, ok1, ok2, sp⟩ :=
      planOf_spec fo g1 g2 hw hs (hm g1 (List.mem_cons_self ..))
    obtain ⟨plans, hpl, f1, f2, un⟩ := ih (fun g hg => hm g (List.mem_cons_of_mem _ hg))
    refine ⟨p :: plans, ?_, .cons ⟨pw, ps, ok1⟩ f1, .cons ⟨pw.trans hw, ps.trans hs, ok2⟩ f2, ?_⟩
    · simp only [List.map_cons, List.zip_cons_cons, List.mapM_cons, hp, hpl, bind, Except.bind, pure, Except.pure]
    · refine ⟨by simp [un.len], by simp [un.lenb], ?_⟩
      intro i x1 x2 x' h1 h2 h'
      cases i with
      | zero =>
        simp only [List.getElem?_cons_zero, List.map_cons, Option.some.injEq] at h1 h2 h'
        subst h1 h2 h'
        exact ⟨pw, ps, pal, pad, pire, sp⟩
      | succ i =>
        simp only [List.getElem?_cons_succ, List.map_cons] at h1 h2 h'
        exact un.each i x1 x2 x' h1 h2 h'

/-! ## The reshaping loop of `__iadd__` carries a batch histogram to the common grids -/

/-- `calcND_regrid` for the instructions of a plan (also: "no change" because the bins are equal) -/
theorem calcND_replan (fo : FloatOps) (axes : List Binning) (i : Nat) (g g' : Grid) (r : Reshape)
    (hi : axes[i]? = some (.fixed g)) (hm : EdgeMono fo g.w g.shift) (hw : g'.w = g.w) (hs : g'.shift = g.shift)
    (hire : g.ire = false) (hire' : g'.ire = false) (ok : PlanOK fo g g' r) (rows : List Row)
    (hrows : ∀ r ∈ rows, r.1.length = axes.length ∧ ∃ x, r.1[i]? = some x ∧ InGrid fo g x) :
    (calcND (axesOf fo (axes.set i (.fixed g'))) rows).freq
      = HN.reshapeAxis (calcND (axesOf fo axes) rows).freq i g'.count r ∧
    (calcND (axesOf fo (axes.set i (.fixed g'))) rows).err2
      = HN.reshapeAxis (calcND (axesOf fo axes) rows).err2 i g'.count r := by
  rcases ok with ok | ⟨rfl, hb⟩
  · obtain ⟨h1, h2, _⟩ := calcND_regrid fo axes i g g' r hi hm hw hs hire hire' ok rows hrows
    exact ⟨h1, h2⟩
  · rw [axesOf_set_same fo axes i _ (.fixed g') hi hb (hire'.trans hire.symm)]
    exact ⟨rfl, rfl⟩

/-- the instruction of a plan for the left (`true`) or the right (`false`) operand -/
def Plan.side (which : Bool) (p : Plan) : Reshape := if which then p.2.1 else p.2.2

/-- **The reshaping loop.**  The arrays hold the batch histogram of `rows` over the axes `pre ++ gs`; the
    loop walks over the grids `gs` with plans that are right for them (`SideOK`); every row lies inside
    every grid of `gs`.  Afterwards the arrays hold the batch histogram of the same rows over
    `pre ++` the common grids. -/
theorem planFold_calcND (fo : FloatOps) (which : Bool) (rows : List Row) (gs : List Grid) (ps : List Plan)
    (hf2 : List.Forall₂ (fun g (p : Plan) => SideOK fo g p.1 (p.side which)) gs ps)
    (hg : ∀ g ∈ gs, g.ire = false ∧ EdgeMono fo g.w g.shift) (hp : ∀ p ∈ ps, p.1.ire = false) :
    ∀ (pre : List Binning) (f e : Arr),
      f = (calcND (axesOf fo (pre ++ gs.map Binning.fixed)) rows).freq →
      e = (calcND (axesOf fo (pre ++ gs.map Binning.fixed)) rows).err2 →
      (∀ r ∈ rows, r.1.length = pre.length + gs.length ∧
        ∀ (j : Nat) (g : Grid) (x : Rat), gs[j]? = some g → r.1[pre.length + j]? = some x → InGrid fo g x) →
      (ps.foldl (planStep which) (f, e, pre.length)).1
        = (calcND (axesOf fo (pre ++ ps.map fun p => Binning.fixed p.1)) rows).freq ∧
      (ps.foldl (planStep which) (f, e, pre.length)).2.1
        = (calcND (axesOf fo (pre ++ ps.map fun p => Binning.fixed p.1)) rows).err2 := by
  induction hf2 with
  | nil =>
    intro pre f e hf he _
    exact ⟨hf, he⟩
  | @cons g p gs ps hgp _ ih =>
    intro pre f e hf he hrows
    obtain ⟨pw, psft, ok⟩ := hgp
    obtain ⟨gire, gm⟩ := hg g (List.mem_cons_self ..)
    have hi : (pre ++ (g :: gs).map Binning.fixed)[pre.length]? = some (Binning.fixed g) := by simp
    have rg := calcND_replan fo (pre ++ (g :: gs).map Binning.fixed) pre.length g p.1 (p.side which) hi gm pw psft gire
      (hp p (List.mem_cons_self ..)) ok rows (by
        intro r hr
        obtain ⟨hl, hin⟩ := hrows r hr
        have hlt : pre.length < r.1.length := by rw [hl]; simp
        refine ⟨by rw [hl]; simp, r.1[pre.length], List.getElem?_eq_getElem hlt, ?_⟩
        exact hin 0 g _ rfl (by simp))
    have hset : (pre ++ (g :: gs).map Binning.fixed).set pre.length (Binning.fixed p.1)
        = (pre ++ [Binning.fixed p.1]) ++ gs.map Binning.fixed := by
      simp
    rw [hset] at rg
    have := ih (fun x hx => hg x (List.mem_cons_of_mem _ hx)) (fun x hx => hp x (List.mem_cons_of_mem _ hx))
      (pre ++ [Binning.fixed p.1]) (HN.reshapeAxis f pre.length p.1.count (p.side which))
      (HN.reshapeAxis e pre.length p.1.count (p.side which)) (by rw [hf]; exact rg.1.symm) (by rw [he]; exact rg.2.symm) (by
        intro r hr
        obtain ⟨hl, hin⟩ := hrows r hr
        refine ⟨by rw [hl]; simp; omega, ?_⟩
        intro j x y hx hy
        refine hin (j + 1) x y (by simpa using hx) ?_
        rw [← hy]
        congr 1
        simp; omega)
    simp only [List.length_append, List.length_cons, List.length_nil, Nat.zero_add] at this
    simpa [List.foldl_cons, planStep, Plan.side, List.append_assoc] using this

/-- the loop run on a whole operand: its arrays become the batch histogram of its rows over the common grids -/
theorem planFold_tracksA (fo : FloatOps) (which : Bool) {h : HN} {gs : List Grid} {rows : List Row}
    (t : TracksA fo h gs rows) (hm : MonoGrids fo gs) (ps : List Plan)
    (hf2 : List.Forall₂ (fun g (p : Plan) => SideOK fo g p.1 (p.side which)) gs ps) (hp : ∀ p ∈ ps, p.1.ire = false) :
    (ps.foldl (planStep which) (h.freq, h.err2, 0)).1
      = (calcND (axesOf fo (ps.map fun p => Binning.fixed p.1)) rows).freq ∧
    (ps.foldl (planStep which) (h.freq, h.err2, 0)).2.1
      = (calcND (axesOf fo (ps.map fun p => Binning.fixed p.1)) rows).err2 := by
  have := planFold_calcND fo which rows gs ps hf2 (fun g hg => ⟨(t.flags g hg).2.2, hm g hg⟩) hp [] h.freq h.err2
    (by rw [t.freq, t.axesBins]; rfl) (by rw [t.err2, t.axesBins]; rfl)
    (fun r hr => ⟨by simpa using (t.inside r hr).1, fun j g x hg hx => (t.inside r hr).2 j g x hg (by simpa using hx)⟩)
  simpa using this

theorem all_isAdaptive_map_fixed (gs : List Grid) :
    (gs.map Binning.fixed).all Binning.isAdaptive = true ↔ ∀ g ∈ gs, g.adaptive = true := by
  simp only [List.all_map, List.all_eq_true, Function.comp]
  rfl

theorem all_adaptiveAllowed_map_fixed (gs : List Grid) :
    (gs.map Binning.fixed).all Binning.adaptiveAllowed = true := by
  simp [List.all_map, Binning.adaptiveAllowed]

/-- axes with the same bins and the same right-edge rule, position by position, are the same axes for
    `calculate_nd_frequencies` -/
theorem axesOf_eq_of_bins (fo : FloatOps) (ga gb : List Grid) (hl : ga.length = gb.length)
    (h : ∀ (i : Nat) (g1 g2 : Grid), ga[i]? = some g1 → gb[i]? = some g2 → g1.bins fo = g2.bins fo ∧ g1.ire = g2.ire) :
    axesOf fo (ga.map Binning.fixed) = axesOf fo (gb.map Binning.fixed) := by
  simp only [axesOf, List.map_map]
  refine map_eq_map_of_getElem? hl fun i g1 g2 h1 h2 => ?_
  obtain ⟨e1, e2⟩ := h i g1 g2 h1 h2
  simp [Binning.bins, Binning.ire, e1, e2]

theorem lattice_eq_of_getElem? {gs gs' : List Grid} (hl : gs'.length = gs.length)
    (h : ∀ (i : Nat) (g' g : Grid), gs'[i]? = some g' → gs[i]? = some g → g'.w = g.w ∧ g'.shift = g.shift) :
    lattice gs' = lattice gs :=
  map_eq_map_of_getElem? hl fun i g' g h' hg => Prod.ext (h i g' g h' hg).1 (h i g' g h' hg).2

/-- a row inside grids `gs` lies inside grids `gr` that contain them axis by axis -/
theorem InsideGrids.mono {fo : FloatOps} {gs gr : List Grid} {row : List Rat} (h : InsideGrids fo gs row)
    (hl : gr.length = gs.length)
    (hc : ∀ (i : Nat) (g' : Grid), gr[i]? = some g' → ∃ g, gs[i]? = some g ∧ g'.w = g.w ∧ g'.shift = g.shift ∧
      (0 < g.count → g'.tmin ≤ g.tmin ∧ g.tmin + g.count ≤ g'.tmin + g'.count)) :
    InsideGrids fo gr row := by
  refine ⟨h.1.trans hl.symm, fun i g' x hg' hx => ?_⟩
  obtain ⟨g, hg, hw, hs, c⟩ := hc i g' hg'
  obtain ⟨k, hk, h1, h2⟩ := h.2 i g x hg hx
  have := c (by omega)
  exact ⟨k, by rw [hw, hs]; exact hk, by omega, by omega⟩

/-! ## The union of two ranges, through `Grid.span` -/

/-- the three grids of an axis, found from the one of the result -/
theorem UnionN.axis {ga gb gr : List Grid} (u : UnionN ga gb gr) {i : Nat} {g' : Grid} (h' : gr[i]? = some g') :
    ∃ g1 g2, ga[i]? = some g1 ∧ gb[i]? = some g2 ∧ g'.w = g1.w ∧ g'.shift = g1.shift ∧ g'.align = g1.align ∧
      g'.adaptive = g1.adaptive ∧ g'.ire = g1.ire ∧ SpanUnion g1 g2 g' := by
  have hi : i < ga.length := u.len ▸ (List.getElem?_eq_some_iff.mp h').1
  have h1 := List.getElem?_eq_getElem hi
  have h2 := List.getElem?_eq_getElem (u.lenb.symm ▸ hi)
  exact ⟨_, _, h1, h2, u.each i _ _ g' h1 h2 h'⟩

theorem UnionN.inside_left {fo : FloatOps} {ga gb gr : List Grid} {row : List Rat} (u : UnionN ga gb gr)
    (h : InsideGrids fo ga row) : InsideGrids fo gr row :=
  h.mono u.len fun _ _ h' =>
    let ⟨g1, _, h1, _, hw, hs, _, _, _, su⟩ := u.axis h'
    ⟨g1, h1, hw, hs, su.left_le⟩

theorem UnionN.inside_right {fo : FloatOps} {ga gb gr : List Grid} {row : List Rat} (u : UnionN ga gb gr)
    (hlat : lattice ga = lattice gb) (h : InsideGrids fo gb row) : InsideGrids fo gr row :=
  h.mono (u.len.trans u.lenb.symm) fun i _ h' =>
    let ⟨g1, g2, h1, h2, hw, hs, _, _, _, su⟩ := u.axis h'
    let ⟨lw, ls⟩ := lattice_getElem? hlat i g1 g2 h1 h2
    ⟨g2, h2, hw.trans lw, hs.trans ls, su.right_le⟩

theorem UnionN.lattice {ga gb gr : List Grid} (u : UnionN ga gb gr) : lattice gr = lattice ga :=
  lattice_eq_of_getElem? u.len fun _ _ _ h' h1 => by
    obtain ⟨_, _, e1, _, hw, hs, _⟩ := u.axis h'
    cases h1.symm.trans e1
    exact ⟨hw, hs⟩

theorem UnionN.flags {ga gb gr : List Grid} (u : UnionN ga gb gr)
    (fl : ∀ g ∈ ga, g.adaptive = true ∧ g.align = true ∧ g.ire = false) :
    ∀ g ∈ gr, g.adaptive = true ∧ g.align = true ∧ g.ire = false := by
  intro g' hg'
  obtain ⟨i, h'⟩ := List.getElem?_of_mem hg'
  obtain ⟨g1, _, h1, _, _, _, al, ad, ir, _⟩ := u.axis h'
  obtain ⟨f1, f2, f3⟩ := fl g1 (List.mem_of_getElem? h1)
  exact ⟨ad.trans f1, al.trans f2, ir.trans f3⟩

theorem monoGrids_of_lattice {fo : FloatOps} {lat : List (Rat × Rat)} (hm : ∀ p ∈ lat, EdgeMono fo p.1 p.2)
    {gs : List Grid} (h : lattice gs = lat) : MonoGrids fo gs :=
  fun g hg => hm (g.w, g.shift) (h ▸ List.mem_map_of_mem hg)

theorem MonoGrids.of_lattice {fo : FloatOps} {ga gb : List Grid} (hm : MonoGrids fo ga) (h : lattice gb = lattice ga) :
    MonoGrids fo gb :=
  monoGrids_of_lattice (fun p hp => by
    obtain ⟨g, hg, rfl⟩ := List.mem_map.mp hp
    exact hm g hg) h

theorem pos_of_lattice {ga gb : List Grid} (h : lattice ga = lattice gb) (hw : ∀ g ∈ gb, 0 < g.w) :
    ∀ g ∈ ga, 0 < g.w := by
  intro g hg
  have hp : (g.w, g.shift) ∈ lattice ga := List.mem_map_of_mem hg
  rw [h] at hp
  obtain ⟨g', hg', e⟩ := List.mem_map.mp hp
  rw [← (Prod.mk.inj e).1]
  exact hw g' hg'

/-- equal bins on every axis, read off `has_same_bins` -/
theorem sameBins_getElem {fo : FloatOps} {a b : HN} {ga gb : List Grid} (ha : a.axes = ga.map Binning.fixed)
    (hb : b.axes = gb.map Binning.fixed) (hs : a.sameBins fo b = true) (i : Nat) (g1 g2 : Grid)
    (h1 : ga[i]? = some g1) (h2 : gb[i]? = some g2) : g1.bins fo = g2.bins fo := by
  have e : a.axes.map (·.bins fo) = b.axes.map (·.bins fo) := by simpa [HN.sameBins] using hs
  have := congrArg (·[i]?) e
  simpa [ha, hb, List.getElem?_map, h1, h2, Binning.bins] using this

/-- … so different bins on some axis make `has_same_bins` false -/
theorem sameBins_eq_false {fo : FloatOps} {a b : HN} {ga gb : List Grid} (ha : a.axes = ga.map Binning.fixed)
    (hb : b.axes = gb.map Binning.fixed) {i : Nat} {g1 g2 : Grid} (h1 : ga[i]? = some g1) (h2 : gb[i]? = some g2)
    (hne : g1.bins fo ≠ g2.bins fo) : a.sameBins fo b = false :=
  Bool.eq_false_iff.mpr fun hs => hne (sameBins_getElem ha hb hs i g1 g2 h1 h2)

/-- **Per axis the grid is the hull of all the operands' ranges** (`SpanList`: every non-empty range is
    contained, both ends are attained; all operands empty on an axis: the result is empty there). -/
structure HullAll (gss : List (List Grid)) (gr : List Grid) : Prop where
  len : ∀ gs ∈ gss, gs.length = gr.length
  each : ∀ (i : Nat) (g' : Grid), gr[i]? = some g' → SpanList (gss.filterMap (·[i]?)) g'

theorem HullAll.single (g : List Grid) : HullAll [g] g := by
  refine ⟨by simp, ?_⟩
  intro i g' hg'
  simp only [List.filterMap_cons, hg', List.filterMap_nil]
  exact SpanList.single g'

theorem HullAll.union {L1 L2 : List (List Grid)} {g1 g2 gr : List Grid} (h1 : HullAll L1 g1) (h2 : HullAll L2 g2)
    (u : UnionN g1 g2 gr) : HullAll (L1 ++ L2) gr := by
  refine ⟨fun gs hgs => ?_, fun i g' hg' => ?_⟩
  · rcases List.mem_append.mp hgs with h | h
    · rw [h1.len gs h, u.len]
    · rw [h2.len gs h, u.lenb, u.len]
  · obtain ⟨x1, x2, e1, e2, _, _, _, _, _, su⟩ := u.axis hg'
    rw [List.filterMap_append]
    exact (h1.each i x1 e1).union (h2.each i x2 e2) su

/-- two hulls of the same collection of operand grids (in any order, with any repetitions) have the same
    range on every axis, unless both are empty there -/
theorem HullAll.range_eq {L1 L2 : List (List Grid)} {g1 g2 : List Grid} (h1 : HullAll L1 g1) (h2 : HullAll L2 g2)
    (hmem : ∀ x, x ∈ L1 ↔ x ∈ L2) {i : Nat} {x1 x2 : Grid} (e1 : g1[i]? = some x1) (e2 : g2[i]? = some x2) :
    (x1.count = 0 ∧ x2.count = 0) ∨ (x1.tmin = x2.tmin ∧ x1.count = x2.count) :=
  (h1.each i x1 e1).unique (h2.each i x2 e2) fun x => by simp only [List.mem_filterMap, hmem]

/-- … so, on the same lattice, the same bins on every axis -/
theorem HullAll.axesOf_eq (fo : FloatOps) {L1 L2 : List (List Grid)} {g1 g2 : List Grid} (h1 : HullAll L1 g1)
    (h2 : HullAll L2 g2) (hmem : ∀ x, x ∈ L1 ↔ x ∈ L2) (hlat : lattice g1 = lattice g2)
    (f1 : ∀ g ∈ g1, g.ire = false) (f2 : ∀ g ∈ g2, g.ire = false) :
    axesOf fo (g1.map Binning.fixed) = axesOf fo (g2.map Binning.fixed) := by
  apply axesOf_eq_of_bins fo g1 g2 (lattice_len_eq hlat)
  intro i x1 x2 hx1 hx2
  obtain ⟨hw, hs⟩ := lattice_getElem? hlat i x1 x2 hx1 hx2
  exact ⟨bins_eq_of_range fo hw hs (h1.range_eq h2 hmem hx1 hx2),
    by rw [f1 x1 (List.mem_of_getElem? hx1), f2 x2 (List.mem_of_getElem? hx2)]⟩

/-- two all-adaptive states that hold the same rows in any order, on hulls of the same operand grids, agree -/
theorem tracksA_agree_hull {fo : FloatOps} {r1 r2 : HN} {g1 g2 : List Grid} {R1 R2 : List Row}
    {L1 L2 : List (List Grid)} (t1 : TracksA fo r1 g1 R1) (t2 : TracksA fo r2 g2 R2) (h1 : HullAll L1 g1)
    (h2 : HullAll L2 g2) (hmem : ∀ x, x ∈ L1 ↔ x ∈ L2) (hlat : lattice g1 = lattice g2) (hp : R1.Perm R2) :
    r1.axesBins fo = r2.axesBins fo ∧ r1.freq = r2.freq ∧ r1.err2 = r2.err2 ∧ r1.missed = r2.missed ∧
      r1.total = r2.total := by
  have hab : r1.axesBins fo = r2.axesBins fo := by
    rw [t1.axesBins, t2.axesBins]
    exact h1.axesOf_eq fo h2 hmem hlat (fun g hg => (t1.flags g hg).2.2) (fun g hg => (t2.flags g hg).2.2)
  have hf : r1.freq = r2.freq := by rw [t1.freq, t2.freq, hab, calcND_perm _ _ _ hp]
  refine ⟨hab, hf, ?_, by rw [t1.missed, t2.missed], by unfold HN.total; rw [hf]⟩
  rw [t1.err2, t2.err2, hab, calcND_perm _ _ _ hp]

/-- two hulls of the same operand grids with no empty axis are the same grids -/
theorem HullAll.grids_eq {L1 L2 : List (List Grid)} {g1 g2 : List Grid} (h1 : HullAll L1 g1)
    (h2 : HullAll L2 g2) (hmem : ∀ x, x ∈ L1 ↔ x ∈ L2) (hlat : lattice g1 = lattice g2)
    (f1 : ∀ g ∈ g1, g.adaptive = true ∧ g.align = true ∧ g.ire = false)
    (f2 : ∀ g ∈ g2, g.adaptive = true ∧ g.align = true ∧ g.ire = false)
    (hpos : ∀ g ∈ g1, 0 < g.count) : g1 = g2 := by
  rw [← List.map_id g1, ← List.map_id g2]
  refine map_eq_map_of_getElem? (lattice_len_eq hlat) fun i x1 x2 hx1 hx2 => ?_
  obtain ⟨hw, hs⟩ := lattice_getElem? hlat i x1 x2 hx1 hx2
  have hu := h1.range_eq h2 hmem hx1 hx2
  have := hpos x1 (List.mem_of_getElem? hx1)
  obtain ⟨a1, a2, a3⟩ := f1 x1 (List.mem_of_getElem? hx1)
  obtain ⟨b1, b2, b3⟩ := f2 x2 (List.mem_of_getElem? hx2)
  show x1 = x2
  exact grid_ext hw hs (by omega) (by omega) (by rw [a2, b2]) (by rw [a1, b1]) (by rw [a3, b3])

/-- a way of summing chunk histograms: the leaves are the chunks (histogram, its grids, its rows), the inner
    nodes are additions -/
inductive SumTree where
  | leaf (h : HN) (g : List Grid) (rows : List Row)
  | add (l r : SumTree)

namespace SumTree

/-- evaluate the additions (`l + r`: the left result is the object `+=` is called on) -/
def eval (fo : FloatOps) : SumTree → R HN
  | leaf h _ _ => .ok h
  | add l r => (l.eval fo).bind fun a => (r.eval fo).bind fun b => a.iadd fo b

def leaves : SumTree → List (HN × List Grid × List Row)
  | leaf h g rows => [(h, g, rows)]
  | add l r => l.leaves ++ r.leaves

/-- all the rows, in the order of the leaves -/
def rows (t : SumTree) : List Row := (t.leaves.map (·.2.2)).flatten

def grids (t : SumTree) : List (List Grid) := t.leaves.map (·.2.1)

/-- every chunk histogram holds the histogram of its rows on its own adaptive grids, all on one lattice -/
def Good (fo : FloatOps) (lat : List (Rat × Rat)) (t : SumTree) : Prop :=
  ∀ p ∈ t.leaves, TracksA fo p.1 p.2.1 p.2.2 ∧ lattice p.2.1 = lat

end SumTree

/-! ## Adding `b` = filling the rows of `b` -/

/-- if the right operand's range is the hull of its own data (it was filled from empty), the union of both
    ranges is the hull of the left range and the right operand's data -/
theorem SpanUnion.toHull {edge : Int → Rat} {g0 g1 g2 g : Grid} {vs : List Rat} (su : SpanUnion g1 g2 g)
    (hw : g.w = g1.w) (hs : g.shift = g1.shift) (sp0 : SpanHull edge g0 g2 vs) (h0 : g0.count = 0) :
    SpanHull edge g1 g vs := by
  refine ⟨hw, hs, fun hp => (su.left_le hp).1, fun hp => (su.left_le hp).2, fun v hv => ?_, ?_,
    fun hp => ?_, fun hp => ?_, fun hv => su.rightEmpty (by have := sp0.stay hv; omega)⟩
  · obtain ⟨k, hk, h1, h2⟩ := sp0.covers v hv
    have := su.right_le (by omega)
    exact ⟨k, hk, by omega, by omega⟩
  · rintro (hp | hv)
    · exact su.pos_iff.mpr (Or.inl hp)
    · exact su.pos_iff.mpr (Or.inr (sp0.pos (Or.inr hv)))
  -- an end of the union is an end of `g1`, or an end of `g2`, which is the cell of a value
  · rcases (su.attained hp).1 with h | ⟨hb, he⟩
    · exact Or.inl ⟨h.1, h.2.symm⟩
    · rcases sp0.loTight hb with ⟨h, _⟩ | ⟨v, hv, hc⟩
      · omega
      · exact Or.inr ⟨v, hv, he ▸ hc⟩
  · rcases (su.attained hp).2 with h | ⟨hb, he⟩
    · exact Or.inl ⟨h.1, h.2.symm⟩
    · rcases sp0.hiTight hb with ⟨h, _⟩ | ⟨v, hv, hc⟩
      · omega
      · exact Or.inr ⟨v, hv, he ▸ hc⟩

/-- N-d: if the right operand's grids are the hull of its rows `E` (grown from empty grids `g0`), the grids
    of the sum are what filling the rows `E` into the left operand produces (`HullN`) -/
theorem UnionN.toHullN (fo : FloatOps) {ga gb g0 gr : List Grid} {E : List (List Rat)} (u : UnionN ga gb gr)
    (hlat : Physt.lattice ga = Physt.lattice gb) (h0 : HullN fo g0 gb E) (hz : ∀ g ∈ g0, g.count = 0) :
    HullN fo ga gr E := by
  refine ⟨u.len, fun i g1 g' h1 h' => ?_⟩
  obtain ⟨_, g2, e1, h2, hw, hs, _, _, _, su⟩ := u.axis h'
  cases h1.symm.trans e1
  have hi0 : i < g0.length := h0.len ▸ (List.getElem?_eq_some_iff.mp h2).1
  have sp0 := h0.each i _ g2 (List.getElem?_eq_getElem hi0) h2
  obtain ⟨lw, ls⟩ := lattice_getElem? hlat i g1 g2 h1 h2
  rw [show fo.edge g0[i].w g0[i].shift = fo.edge g1.w g1.shift by rw [← sp0.w, ← sp0.shift, lw, ls]] at sp0
  exact su.toHull hw hs sp0 (hz _ (List.getElem_mem hi0))

/-- filling keeps every axis on its lattice -/
theorem HullN.lattice_eq {fo : FloatOps} {gs gs' : List Grid} {E : List (List Rat)} (h : HullN fo gs gs' E) :
    lattice gs' = lattice gs :=
  lattice_eq_of_getElem? h.len fun i g' g h' hg => ⟨(h.each i g g' hg h').w, (h.each i g g' hg h').shift⟩

/-! ## Refusals: a width or origin mismatch on some axis -/

theorem mapM_error_of_getElem {α β} (f : α → R β) (l : List α) (i : Nat) (x : α) (e : String)
    (hx : l[i]? = some x) (he : f x = .error e) : ∃ e', l.mapM f = .error e' ∧ ∃ y ∈ l, f y = .error e' := by
  induction l generalizing i with
  | nil => simp at hx
  | cons a l ih =>
    rw [List.mapM_cons]
    cases ha : f a with
    | error e0 => exact ⟨e0, rfl, a, List.mem_cons_self .., ha⟩
    | ok b =>
      cases i with
      | zero =>
        simp only [List.getElem?_cons_zero, Option.some.injEq] at hx
        subst hx
        rw [ha] at he
        cases he
      | succ i =>
        obtain ⟨e', h1, y, hy, h2⟩ := ih i (by simpa using hx)
        refine ⟨e', ?_, y, List.mem_cons_of_mem _ hy, h2⟩
        simp only [bind, Except.bind, h1]

theorem adaptGrids_mismatch (g1 g2 : Grid) (h : g1.w ≠ g2.w ∨ g1.shift ≠ g2.shift) :
    ∃ e, adaptGrids g1 g2 = .error e := by
  by_cases hw : g1.w = g2.w
  · exact ⟨_, (adaptGrids_error_iff g1 g2 _).mpr (Or.inr ⟨hw, h.resolve_left (not_not.mpr hw), rfl⟩)⟩
  · exact ⟨_, (adaptGrids_error_iff g1 g2 _).mpr (Or.inl ⟨hw, rfl⟩)⟩

theorem planOf_fixed_error (fo : FloatOps) (g1 g2 : Grid) (e : String)
    (h : planOf fo (.fixed g1, .fixed g2) = .error e) : e = "different widths" ∨ e = "different shifts" := by
  simp only [planOf, pure, Except.pure] at h
  split at h
  · cases h
  · exact ((adaptGrids_error_iff g1 g2 e).mp h).imp And.right fun h => h.2.2

end Physt
