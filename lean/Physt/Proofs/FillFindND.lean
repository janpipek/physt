import Physt.Proofs.AdaptiveND
/-!
# `find_bin` and the value returned by `fill`, N dimensions, ANY mix of axes (C03)

No hypothesis on the axes (adaptive grids, non-adaptive grids, static bins in any mix), on the
`FloatOps`, on the fuel, on the shapes of the arrays or on the number of coordinates of the value.
The value `fill` returns is what `find_bin` returns on the histogram AFTER the call, and nothing is
returned exactly when a coordinate is NaN (and then nothing at all happened).  The growth loop of
`fill` is put in closed form: axis `i` is replaced by `growAxis` of the ORIGINAL axis `i` and
coordinate `i`, and both arrays go through the same sequence of `HN.reshapeAxis` instructions, one
per axis.  With `keep_missed = False`, a point that ends outside the bins changes the dtype
(promotion), the adaptive axes (growth) and the arrays (the reshape instructions of that growth: zero
padding) and nothing else; the totals stay when every instruction has room for the old contents
(`RoomFor`), which `forceSingle` guarantees when the grid edges increase and the cell search reaches
the cell (`EdgeMono`, `Reach`); `forceSingle_no_room` shows a `FloatOps` / fuel for which it has not
(the axis is CUT).
-/
namespace Physt
open Grid

/-- `fill` of a value with a NaN coordinate: nothing happens (not even the dtype promotion) and
    nothing is returned -/
theorem fill_of_nan (fo : FloatOps) (fuel : Nat) (h : HN) (value : List (Option Rat)) (w : Rat)
    (wk : H1.NumKind) (hv : value.any Option.isNone = true) : h.fill fo fuel value w wk = (h, none) := by
  unfold HN.fill
  simp only [hv, if_true]

/-- after the growth step `fill` touches contents, squared errors and missed only: axes, names,
    `keep_missed` and dtype of the result are those of the grown histogram -/
theorem fill_fields (fo : FloatOps) (fuel : Nat) (h : HN) (value : List (Option Rat)) (w : Rat)
    (wk : H1.NumKind) (hv : value.any Option.isNone = false) :
    (h.fill fo fuel value w wk).1.axes = (h.grown fo fuel value wk).axes ∧
    (h.fill fo fuel value w wk).1.names = (h.grown fo fuel value wk).names ∧
    (h.fill fo fuel value w wk).1.keep = (h.grown fo fuel value wk).keep ∧
    (h.fill fo fuel value w wk).1.dtype = (h.grown fo fuel value wk).dtype ∧
    (h.fill fo fuel value w wk).2 = some ((h.grown fo fuel value wk).findBin fo (value.filterMap id)) := by
  rw [fill_of_finite fo fuel h value w wk hv]
  generalize h.grown fo fuel value wk = h1
  cases h1.findBin fo (value.filterMap id) with
  | none =>
    show (if h1.keep = true then _ else _ : HN).axes = _ ∧ _
    split <;> exact ⟨rfl, rfl, rfl, rfl, rfl⟩
  | some idx => exact ⟨rfl, rfl, rfl, rfl, rfl⟩

theorem fill_axes (fo : FloatOps) (fuel : Nat) (h : HN) (value : List (Option Rat)) (w : Rat)
    (wk : H1.NumKind) (hv : value.any Option.isNone = false) :
    (h.fill fo fuel value w wk).1.axes = (h.grown fo fuel value wk).axes :=
  (fill_fields fo fuel h value w wk hv).1

/-- **`fill` returns what `find_bin` returns afterwards**: for a value without NaN, on any mix of
    adaptive and non-adaptive axes, the value returned by `fill` is the result of `find_bin` on the
    histogram AFTER the call (grown axes). -/
theorem fill_snd_eq_findBin (fo : FloatOps) (fuel : Nat) (h : HN) (value : List (Option Rat)) (w : Rat)
    (wk : H1.NumKind) (hv : value.any Option.isNone = false) :
    (h.fill fo fuel value w wk).2
      = some ((h.fill fo fuel value w wk).1.findBin fo (value.filterMap id)) := by
  obtain ⟨f1, _, _, _, f5⟩ := fill_fields fo fuel h value w wk hv
  rw [f5, HN.findBin_axes fo (h.grown fo fuel value wk) _ f1]

/-- `fill` returns nothing exactly when a coordinate is NaN -/
theorem fill_snd_none_iff (fo : FloatOps) (fuel : Nat) (h : HN) (value : List (Option Rat)) (w : Rat)
    (wk : H1.NumKind) : (h.fill fo fuel value w wk).2 = none ↔ value.any Option.isNone = true := by
  constructor
  · intro hn
    by_contra hv
    have hv' : value.any Option.isNone = false := by
      cases hb : value.any Option.isNone with
      | false => rfl
      | true => exact absurd hb hv
    rw [(fill_fields fo fuel h value w wk hv').2.2.2.2] at hn
    cases hn
  · intro hv
    rw [fill_of_nan fo fuel h value w wk hv]

/-- what the growth step of `fill` does to ONE axis, given the coordinate of the value on it: the new
    binning, and the instruction `_reshape_data` is given for that axis (new bin count, reshape).
    Only an adaptive grid that gets a coordinate can change (`_force_bin_existence_single`). -/
def growAxis (fo : FloatOps) (fuel : Nat) (b : Binning) (x : Option Rat) : Binning × Nat × Reshape :=
  match b, x with
  | .fixed g, some v =>
    if g.adaptive then
      (.fixed (g.forceSingle fo fuel v g.ire).1, (g.forceSingle fo fuel v g.ire).1.count,
        (g.forceSingle fo fuel v g.ire).2)
    else (b, (b.bins fo).length, .noChange)
  | _, _ => (b, (b.bins fo).length, .noChange)

theorem growAxis_nonadaptive (fo : FloatOps) (fuel : Nat) (b : Binning) (x : Option Rat)
    (hb : b.isAdaptive = false) : growAxis fo fuel b x = (b, (b.bins fo).length, .noChange) := by
  cases b with
  | static bs ire => rfl
  | fixed g =>
    have : g.adaptive = false := hb
    cases x <;> simp [growAxis, this]

theorem growAxis_adaptive (fo : FloatOps) (fuel : Nat) (g : Grid) (v : Rat) (ha : g.adaptive = true) :
    growAxis fo fuel (.fixed g) (some v)
      = (.fixed (g.forceSingle fo fuel v g.ire).1, (g.forceSingle fo fuel v g.ire).1.count,
          (g.forceSingle fo fuel v g.ire).2) := by
  simp [growAxis, ha]

def growAxes (fo : FloatOps) (fuel : Nat) (axes : List Binning) (v : List Rat) :
    List (Binning × Nat × Reshape) :=
  axes.mapIdx fun i b => growAxis fo fuel b v[i]?

theorem growAxes_length (fo : FloatOps) (fuel : Nat) (axes : List Binning) (v : List Rat) :
    (growAxes fo fuel axes v).length = axes.length := by
  simp [growAxes]

theorem growAxes_getElem? (fo : FloatOps) (fuel : Nat) (axes : List Binning) (v : List Rat) (i : Nat) :
    (growAxes fo fuel axes v)[i]? = axes[i]?.map fun b => growAxis fo fuel b v[i]? := by
  simp [growAxes, List.getElem?_mapIdx]

/-- apply one `_reshape_data` instruction per axis, axis 0 first (`plan[i]` is for axis `i`) -/
def reshapeAll (a : Arr) (plan : List (Nat × Reshape)) : Arr :=
  plan.zipIdx.foldl (fun a p => HN.reshapeAxis a p.2 p.1.1 p.1.2) a

theorem reshapeAll_nil (a : Arr) : reshapeAll a [] = a := rfl

theorem reshapeAll_append_singleton (a : Arr) (plan : List (Nat × Reshape)) (p : Nat × Reshape) :
    reshapeAll a (plan ++ [p]) = HN.reshapeAxis (reshapeAll a plan) plan.length p.1 p.2 := by
  simp [reshapeAll, List.zipIdx_append, List.foldl_append]

/-- one round of the growth loop of `fill` (each column holds one coordinate) -/
theorem adaptStep_single (fo : FloatOps) (fuel : Nat) (v : List Rat) (h : HN) (i : Nat) (b : Binning)
    (hb : h.axes[i]? = some b) :
    adaptStep fo fuel (v.map fun x => [x]) true h i =
      { h with axes := h.axes.set i (growAxis fo fuel b v[i]?).1,
               freq := HN.reshapeAxis h.freq i (growAxis fo fuel b v[i]?).2.1 (growAxis fo fuel b v[i]?).2.2,
               err2 := HN.reshapeAxis h.err2 i (growAxis fo fuel b v[i]?).2.1 (growAxis fo fuel b v[i]?).2.2 } := by
  have hset : h.axes.set i b = h.axes := setAt_of_getElem? _ _ _ hb
  have stay : h = { h with axes := h.axes.set i b, freq := HN.reshapeAxis h.freq i (b.bins fo).length .noChange,
                           err2 := HN.reshapeAxis h.err2 i (b.bins fo).length .noChange } := by
    rw [hset]; rfl
  rcases b.adaptive_cases with had | ⟨g, rfl, hga⟩
  · rw [adaptStep_stay fo fuel _ true h i b hb had, growAxis_nonadaptive fo fuel b _ had]
    exact stay
  · cases hx : v[i]? with
    | none =>
      have hc : (v.map fun x => [x])[i]? = none := by simp [hx]
      have : adaptStep fo fuel (v.map fun x => [x]) true h i = h := by
        unfold adaptStep; simp only [hb, hc]
      rw [this]
      exact stay
    | some x =>
      have hc : (v.map fun x => [x])[i]? = some [x] := by simp [hx]
      rw [adaptStep_grow fo fuel _ true h i g [x] hb hc hga, growAxis_adaptive fo fuel g x hga]
      rfl

theorem set_prefix {α} (pre l : List α) (n : Nat) (hn : n < l.length) (hp : pre.length = n) (x : α) :
    (pre ++ l.drop n).set n x = (pre ++ [x]) ++ l.drop (n + 1) := by
  subst hp
  rw [List.drop_eq_getElem_cons hn, List.set_append_right _ _ (Nat.le_refl _), Nat.sub_self, List.set_cons_zero,
    List.append_assoc, List.singleton_append]

/-- **The growth loop of `fill` in closed form.**  Axis `i` becomes `growAxis` of the original axis `i`
    and coordinate `i` of the value; contents and squared errors both go through the reshape
    instructions of the axes, in the order of the axes; nothing else changes. -/
theorem adaptAxes_single (fo : FloatOps) (fuel : Nat) (h : HN) (v : List Rat) :
    h.adaptAxes fo fuel (v.map fun x => [x]) true =
      { h with axes := (growAxes fo fuel h.axes v).map (·.1),
               freq := reshapeAll h.freq ((growAxes fo fuel h.axes v).map (·.2)),
               err2 := reshapeAll h.err2 ((growAxes fo fuel h.axes v).map (·.2)) } := by
  have key := adaptAxes_induct fo fuel (v.map fun x => [x]) true h
    (fun n a => a = { h with axes := ((growAxes fo fuel h.axes v).take n).map (·.1) ++ h.axes.drop n,
                             freq := reshapeAll h.freq (((growAxes fo fuel h.axes v).take n).map (·.2)),
                             err2 := reshapeAll h.err2 (((growAxes fo fuel h.axes v).take n).map (·.2)) }) rfl
    (by
      rintro n a hlt han rfl
      have hG : n < (growAxes fo fuel h.axes v).length := by rw [growAxes_length]; exact hlt
      have hpre : (((growAxes fo fuel h.axes v).take n).map (·.1)).length = n := by
        simp [growAxes_length]; omega
      rw [adaptStep_single fo fuel v _ n h.axes[n] (han.trans (List.getElem?_eq_getElem hlt))]
      have hGn : (growAxes fo fuel h.axes v)[n] = growAxis fo fuel h.axes[n] v[n]? := by
        have := growAxes_getElem? fo fuel h.axes v n
        rw [List.getElem?_eq_getElem hG, List.getElem?_eq_getElem hlt] at this
        simpa using this
      have htake : (growAxes fo fuel h.axes v).take (n + 1)
          = (growAxes fo fuel h.axes v).take n ++ [growAxis fo fuel h.axes[n] v[n]?] := by
        rw [List.take_succ_eq_append_getElem hG, hGn]
      have hlen2 : (((growAxes fo fuel h.axes v).take n).map (·.2)).length = n := by
        simp [growAxes_length]; omega
      simp only [htake, List.map_append, List.map_cons, List.map_nil, reshapeAll_append_singleton, hlen2]
      rw [set_prefix _ h.axes n hlt hpre])
  rw [key, List.take_of_length_le (growAxes_length fo fuel h.axes v).le]
  simp

/-- the grown axes, one by one -/
theorem adaptAxes_single_axis (fo : FloatOps) (fuel : Nat) (h : HN) (v : List Rat) (i : Nat) :
    (h.adaptAxes fo fuel (v.map fun x => [x]) true).axes[i]?
      = h.axes[i]?.map fun b => (growAxis fo fuel b v[i]?).1 := by
  rw [adaptAxes_single]
  simp [growAxes_getElem?, Function.comp_def]

theorem grown_eq (fo : FloatOps) (fuel : Nat) (h : HN) (value : List (Option Rat)) (wk : H1.NumKind) :
    h.grown fo fuel value wk =
      { h with dtype := h.dtype.promote wk.dtype,
               axes := (growAxes fo fuel h.axes (value.filterMap id)).map (·.1),
               freq := reshapeAll h.freq ((growAxes fo fuel h.axes (value.filterMap id)).map (·.2)),
               err2 := reshapeAll h.err2 ((growAxes fo fuel h.axes (value.filterMap id)).map (·.2)) } := by
  unfold HN.grown
  rw [adaptAxes_single]
  rfl

/-- **Outside the bins with `keep_missed = False`: only growth and dtype.**  If the value has no NaN,
    missed values are not tracked and `fill` reports that the point is outside the bins (after the
    growth of the adaptive axes), then the histogram after the call is the old one with the dtype
    promoted, every axis replaced by its grown version and BOTH arrays passed through the reshape
    instructions of that growth (zero padding) — missed, `keep_missed`, names untouched, no content
    added anywhere. -/
theorem fill_outside_nokeep (fo : FloatOps) (fuel : Nat) (h : HN) (value : List (Option Rat)) (w : Rat)
    (wk : H1.NumKind) (hv : value.any Option.isNone = false) (hk : h.keep = false)
    (hout : (h.fill fo fuel value w wk).2 = some none) :
    (h.fill fo fuel value w wk).1 =
      { h with dtype := h.dtype.promote wk.dtype,
               axes := (growAxes fo fuel h.axes (value.filterMap id)).map (·.1),
               freq := reshapeAll h.freq ((growAxes fo fuel h.axes (value.filterMap id)).map (·.2)),
               err2 := reshapeAll h.err2 ((growAxes fo fuel h.axes (value.filterMap id)).map (·.2)) } := by
  have hg := grown_eq fo fuel h value wk
  rw [fill_of_finite fo fuel h value w wk hv] at hout ⊢
  generalize h.grown fo fuel value wk = h1 at hg hout ⊢
  have hk1 : h1.keep = false := by rw [hg]; exact hk
  cases hfb : h1.findBin fo (value.filterMap id) with
  | some idx => rw [hfb] at hout; cases hout
  | none =>
    simp only [hk1, Bool.false_eq_true, if_false]
    exact hg

theorem fill_axes_static (fo : FloatOps) (fuel : Nat) (h : HN) (hs : NonAdaptive h.axes)
    (value : List (Option Rat)) (w : Rat) (wk : H1.NumKind) : (h.fill fo fuel value w wk).1.axes = h.axes := by
  cases hv : value.any Option.isNone with
  | true => rw [fill_of_nan fo fuel h value w wk hv]
  | false =>
    rw [fill_axes fo fuel h value w wk hv]
    show ((h.coerce wk.dtype).adaptAxes fo fuel _ true).axes = h.axes
    rw [adaptAxes_nonadaptive fo fuel (h.coerce wk.dtype) _ true hs]
    rfl

/-- the instruction has room for the old contents of an axis of `old` bins that gets `newN` bins:
    nothing to do; or a fresh array for an axis that had no bin (so no content); or a shift by `k`
    with `k + old ≤ newN` (nothing is cut off) -/
def RoomFor (old newN : Nat) : Reshape → Prop
  | .noChange => True
  | .fresh => old = 0
  | .shift k => k + old ≤ newN

instance (old newN : Nat) (r : Reshape) : Decidable (RoomFor old newN r) := by
  cases r <;> unfold RoomFor <;> infer_instance

theorem reshapeAxis_shape (a : Arr) (i n : Nat) (r : Reshape) (hw : a.WellShaped) :
    (HN.reshapeAxis a i n r).WellShaped ∧ (HN.reshapeAxis a i n r).shape.length = a.shape.length ∧
    ∀ j, j ≠ i → (HN.reshapeAxis a i n r).shape[j]? = a.shape[j]? := by
  have hset : (Arr.setAt a.shape i n).length = a.shape.length ∧
      ∀ j, j ≠ i → (Arr.setAt a.shape i n)[j]? = a.shape[j]? :=
    ⟨List.length_set, fun j hj => List.getElem?_set_ne fun e => hj e.symm⟩
  cases r with
  | noChange => exact ⟨hw, rfl, fun _ _ => rfl⟩
  | fresh => exact ⟨Arr.wellShaped_zeros _, hset⟩
  | shift k => exact ⟨Arr.wellShaped_gather _ _ _ _, hset⟩

theorem total_reshapeAxis (a : Arr) (i n : Nat) (r : Reshape) (hw : a.WellShaped) (hi : i < a.shape.length)
    (hroom : RoomFor (a.shape[i]?.getD 0) n r) : (HN.reshapeAxis a i n r).total = a.total := by
  cases r with
  | noChange => rfl
  | fresh =>
    have h0 : a.shape[i]? = some 0 := by
      have : a.shape[i]?.getD 0 = 0 := hroom
      rw [List.getElem?_eq_getElem hi] at this ⊢
      simpa using this
    show (Arr.zeros _).total = _
    rw [Arr.total_zeros, Arr.total_of_empty_axis a hw i h0]
  | shift k => exact Arr.total_shiftAxis a hw i k n hi hroom

/-- the instructions `plan` applied to the axes `k, k + 1, …` -/
theorem total_reshapeFrom (plan : List (Nat × Reshape)) : ∀ (k : Nat) (a : Arr), a.WellShaped →
    k + plan.length ≤ a.shape.length →
    (∀ (i : Nat) (p : Nat × Reshape), plan[i]? = some p → RoomFor (a.shape[k + i]?.getD 0) p.1 p.2) →
    ((plan.zipIdx k).foldl (fun a p => HN.reshapeAxis a p.2 p.1.1 p.1.2) a).total = a.total := by
  induction plan with
  | nil => intro k a _ _ _; rfl
  | cons p ps ih =>
    intro k a hw hlen hroom
    rw [List.zipIdx_cons, List.foldl_cons]
    simp only [List.length_cons] at hlen
    obtain ⟨w1, w2, w3⟩ := reshapeAxis_shape a k p.1 p.2 hw
    have t1 := total_reshapeAxis a k p.1 p.2 hw (by omega) (by simpa using hroom 0 p rfl)
    rw [ih (k + 1) _ w1 (by rw [w2]; omega) ?_, t1]
    intro i q hq
    rw [w3 (k + 1 + i) (by omega)]
    have := hroom (i + 1) q (by simpa using hq)
    rwa [show k + (i + 1) = k + 1 + i by omega] at this

/-- **Reshape instructions with room keep the total**: one instruction per axis (not more
    instructions than axes), each with room for the contents of its axis. -/
theorem total_reshapeAll (a : Arr) (plan : List (Nat × Reshape)) (hw : a.WellShaped)
    (hlen : plan.length ≤ a.shape.length)
    (hroom : ∀ (i : Nat) (p : Nat × Reshape), plan[i]? = some p → RoomFor (a.shape[i]?.getD 0) p.1 p.2) :
    (reshapeAll a plan).total = a.total :=
  total_reshapeFrom plan 0 a hw (by omega) fun i p hp => by rw [Nat.zero_add]; exact hroom i p hp

/-- **`_force_bin_existence_single` leaves room** when the grid edges increase and the cell search
    reaches the cell of the value (any right-edge flag): the instruction it hands to `_reshape_data`
    never cuts old contents off. -/
theorem forceSingle_room (fo : FloatOps) (fuel : Nat) (g : Grid) (v : Rat) (ire : Bool)
    (hm : EdgeMono fo g.w g.shift) (hr : Reach fo g.w g.shift fuel v) :
    RoomFor g.count (g.forceSingle fo fuel v ire).1.count (g.forceSingle fo fuel v ire).2 := by
  obtain ⟨k, hk, hf⟩ := hr
  have hloc : g.findIndex fo fuel v = k := locate_spec (g.edgeAt fo) v hm k _ fuel hk hf
  unfold forceSingle
  simp only []
  by_cases h0 : g.count = 0
  · rw [if_pos h0]; exact h0
  rw [if_neg h0]
  by_cases h1 : v < g.firstEdge fo
  · -- cells added on the left: the shift is by exactly that many
    rw [if_pos h1]
    split
    · trivial
    · exact (Nat.add_comm _ _).le
  rw [if_neg h1]
  by_cases h2 : g.lastEdge fo ≤ v
  · -- cells added on the right: the cell of `v` is not left of the old end
    rw [if_pos h2, hloc]
    have hge : g.tmin + g.count ≤ k := cell_ge_of_le hm hk h2
    have hle : (if g.edgeAt fo k = v ∧ ire = true then (1 : Int) else 0) ≤ 1 := by split <;> omega
    generalize (if g.edgeAt fo k = v ∧ ire = true then (1 : Int) else 0) = d at hle ⊢
    split
    · trivial
    · show 0 + g.count ≤ ((g.count : Int) + _).toNat
      omega
  · rw [if_neg h2]; trivial

theorem growAxis_room (fo : FloatOps) (fuel : Nat) (b : Binning) (x : Option Rat)
    (hgood : ∀ (g : Grid) (v : Rat), b = .fixed g → g.adaptive = true → x = some v →
      EdgeMono fo g.w g.shift ∧ Reach fo g.w g.shift fuel v) :
    RoomFor (b.bins fo).length (growAxis fo fuel b x).2.1 (growAxis fo fuel b x).2.2 := by
  rcases b.adaptive_cases with had | ⟨g, rfl, hga⟩
  · rw [growAxis_nonadaptive fo fuel b x had]; exact True.intro
  · cases x with
    | none => exact True.intro
    | some v =>
      rw [growAxis_adaptive fo fuel g v hga]
      obtain ⟨hm, hr⟩ := hgood g v rfl hga rfl
      have := forceSingle_room fo fuel g v g.ire hm hr
      show RoomFor (g.bins fo).length _ _
      rw [Grid.bins_length]; exact this

/-- what the totals need: on every adaptive grid that gets a coordinate the edges increase and the
    cell search reaches the cell of the coordinate (true in exact arithmetic with positive widths:
    `growthReaches_exact`; `forceSingle_no_room` shows what happens otherwise) -/
def GrowthReaches (fo : FloatOps) (fuel : Nat) (axes : List Binning) (v : List Rat) : Prop :=
  ∀ (i : Nat) (g : Grid) (x : Rat), axes[i]? = some (Binning.fixed g) → g.adaptive = true → v[i]? = some x →
    EdgeMono fo g.w g.shift ∧ Reach fo g.w g.shift fuel x

theorem growthReaches_exact (fuel : Nat) (axes : List Binning) (v : List Rat)
    (hw : ∀ (i : Nat) (g : Grid), axes[i]? = some (Binning.fixed g) → g.adaptive = true → 0 < g.w) :
    GrowthReaches FloatOps.exact fuel axes v :=
  fun i g x hg ha _ => ⟨C04_exact_mono g.w g.shift (hw i g hg ha), reach_exact g.w g.shift (hw i g hg ha) fuel x⟩

/-- non-adaptive axes need nothing -/
theorem growthReaches_static (fo : FloatOps) (fuel : Nat) (axes : List Binning) (v : List Rat)
    (hs : NonAdaptive axes) : GrowthReaches fo fuel axes v := by
  intro i g x hg ha _
  have := hs _ (List.mem_of_getElem? hg)
  simp [Binning.isAdaptive, ha] at this

theorem growAxes_room (fo : FloatOps) (fuel : Nat) (axes : List Binning) (v : List Rat)
    (hreach : GrowthReaches fo fuel axes v) (shape : List Nat)
    (hshape : shape = axes.map fun b => (b.bins fo).length) (i : Nat) (p : Nat × Reshape)
    (hp : ((growAxes fo fuel axes v).map (·.2))[i]? = some p) : RoomFor (shape[i]?.getD 0) p.1 p.2 := by
  rw [List.getElem?_map, growAxes_getElem?] at hp
  cases hb : axes[i]? with
  | none => simp [hb] at hp
  | some b =>
    simp only [hb, Option.map_some, Option.some.injEq] at hp
    subst hp
    have : shape[i]? = some (b.bins fo).length := by simp [hshape, hb]
    rw [this]
    exact growAxis_room fo fuel b v[i]? (fun g x hg ha hx => hreach i g x (by rw [hb, hg]) ha hx)

/-- **Outside the bins with `keep_missed = False`: the totals stay.**  Under the hypotheses of
    `fill_outside_nokeep`, for arrays shaped like the bins, when the growth of every adaptive axis
    reaches the cell of its coordinate (`GrowthReaches`), the totals of contents and of squared
    errors after the call are the old ones: the growth only pads with zeros. -/
theorem fill_outside_nokeep_totals (fo : FloatOps) (fuel : Nat) (h : HN) (value : List (Option Rat)) (w : Rat)
    (wk : H1.NumKind) (hv : value.any Option.isNone = false) (hk : h.keep = false)
    (hout : (h.fill fo fuel value w wk).2 = some none)
    (hf : h.freq.HasShape (h.shape fo)) (he : h.err2.HasShape (h.shape fo))
    (hreach : GrowthReaches fo fuel h.axes (value.filterMap id)) :
    (h.fill fo fuel value w wk).1.freq.total = h.freq.total ∧
    (h.fill fo fuel value w wk).1.err2.total = h.err2.total := by
  rw [fill_outside_nokeep fo fuel h value w wk hv hk hout]
  have hlen : ∀ a : Arr, a.shape = h.shape fo →
      ((growAxes fo fuel h.axes (value.filterMap id)).map (·.2)).length ≤ a.shape.length := by
    intro a ha
    rw [ha, List.length_map, growAxes_length]
    simp [HN.shape]
  exact ⟨total_reshapeAll _ _ hf.wellShaped (hlen _ hf.1)
      (growAxes_room fo fuel h.axes _ hreach _ (by rw [hf.1]; rfl)),
    total_reshapeAll _ _ he.wellShaped (hlen _ he.1)
      (growAxes_room fo fuel h.axes _ hreach _ (by rw [he.1]; rfl))⟩

/-! ## The room hypothesis is needed: a search that stops short CUTS the axis -/

/-- a `FloatOps` whose cell estimate is useless (always 0); with fuel 0 the search cannot correct it -/
def badEstimate : FloatOps where
  edge w s k := (k : Rat) * w + s
  est _ _ _ := 0
  shiftOf _ _ v := v

/-- with the useless estimate and no fuel, a value far to the right of a 3-bin grid makes
    `_force_bin_existence_single` SHRINK the grid to 1 bin and order a shift by 0: no room -/
theorem forceSingle_no_room :
    ({ w := 1, tmin := 0, count := 3, adaptive := true } : Grid).forceSingle badEstimate 0 10 false
      = ({ w := 1, tmin := 0, count := 1, adaptive := true }, .shift 0) ∧
    ¬ RoomFor 3 1 (.shift 0) := by decide +kernel

/-! ## Non-vacuity: one adaptive grid axis and one static axis -/

namespace ExampleFind

/-- axis 0: an adaptive grid of width 1 with the bins [0, 1), [1, 2); axis 1: static bins [0, 1), [1, 2] -/
def axes : List Binning :=
  [.fixed { w := 1, tmin := 0, count := 2, adaptive := true }, .static [(0, 1), (1, 2)] true]

/-- a histogram with contents, `keep_missed = False` -/
def h : HN :=
  { axes := axes, freq := ⟨[2, 2], [1, 2, 3, 4]⟩, err2 := ⟨[2, 2], [1, 4, 9, 16]⟩, missed := some 0,
    keep := false, dtype := .i64, names := ["x", "y"] }

/-- a point left of the grid (it grows by two cells) and outside the static axis -/
def outside : List (Option Rat) := [some (-3 / 2), some 5]
/-- a point left of the grid and inside the static axis -/
def inside : List (Option Rat) := [some (-3 / 2), some (1 / 2)]

theorem outside_finite : outside.any Option.isNone = false := by decide
theorem inside_finite : inside.any Option.isNone = false := by decide

theorem reaches (fuel : Nat) (v : List Rat) : GrowthReaches FloatOps.exact fuel h.axes v := by
  apply growthReaches_exact
  intro i g hg _
  have : i = 0 ∨ i = 1 ∨ 2 ≤ i := by omega
  rcases this with rfl | rfl | h2
  · have : g = { w := 1, tmin := 0, count := 2, adaptive := true } := by
      simpa [h, axes] using hg.symm
    subst this; decide
  · simp [h, axes] at hg
  · obtain ⟨k, rfl⟩ : ∃ k, i = k + 2 := ⟨i - 2, by omega⟩
    simp [h, axes] at hg

theorem shapes : h.freq.HasShape (h.shape FloatOps.exact) ∧ h.err2.HasShape (h.shape FloatOps.exact) := by
  unfold Arr.HasShape
  decide +kernel

/-- the growth really happens and the point really ends outside: the grid has 4 bins from -2 afterwards,
    the contents are the old ones moved two cells up along axis 0 (zeros in the new cells), missed is
    untouched — and this is what `fill_outside_nokeep` says -/
example :
    (h.fill FloatOps.exact 8 outside 1 .pyFloat).2 = some none ∧
    (h.fill FloatOps.exact 8 outside 1 .pyFloat).1 =
      { h with dtype := .f64,
               axes := [.fixed { w := 1, tmin := -2, count := 4, adaptive := true }, .static [(0, 1), (1, 2)] true],
               freq := ⟨[4, 2], [0, 0, 0, 0, 1, 2, 3, 4]⟩, err2 := ⟨[4, 2], [0, 0, 0, 0, 1, 4, 9, 16]⟩ } ∧
    (growAxes FloatOps.exact 8 h.axes (outside.filterMap id)).map (·.2) = [(4, .shift 2), (2, .noChange)] := by
  decide +kernel

example :
    (h.fill FloatOps.exact 8 outside 1 .pyFloat).1 =
      { h with dtype := h.dtype.promote H1.NumKind.pyFloat.dtype,
               axes := (growAxes FloatOps.exact 8 h.axes (outside.filterMap id)).map (·.1),
               freq := reshapeAll h.freq ((growAxes FloatOps.exact 8 h.axes (outside.filterMap id)).map (·.2)),
               err2 := reshapeAll h.err2 ((growAxes FloatOps.exact 8 h.axes (outside.filterMap id)).map (·.2)) } :=
  fill_outside_nokeep FloatOps.exact 8 h outside 1 .pyFloat outside_finite rfl (by decide +kernel)

example :
    (h.fill FloatOps.exact 8 outside 1 .pyFloat).1.freq.total = h.freq.total ∧
    (h.fill FloatOps.exact 8 outside 1 .pyFloat).1.err2.total = h.err2.total :=
  fill_outside_nokeep_totals FloatOps.exact 8 h outside 1 .pyFloat outside_finite rfl (by decide +kernel)
    shapes.1 shapes.2 (reaches 8 _)

/-- `find_bin` BEFORE the call does not find the point, `fill` returns the cell `find_bin` finds AFTER
    the growth -/
example :
    h.findBin FloatOps.exact (inside.filterMap id) = none ∧
    (h.fill FloatOps.exact 8 inside 1 .pyInt).2 = some (some [0, 0]) ∧
    (h.fill FloatOps.exact 8 inside 1 .pyInt).1.findBin FloatOps.exact (inside.filterMap id) = some [0, 0] ∧
    (h.fill FloatOps.exact 8 inside 1 .pyInt).1.freq = ⟨[4, 2], [1, 0, 0, 0, 1, 2, 3, 4]⟩ := by
  decide +kernel

example :
    (h.fill FloatOps.exact 8 inside 1 .pyInt).2
      = some ((h.fill FloatOps.exact 8 inside 1 .pyInt).1.findBin FloatOps.exact (inside.filterMap id)) :=
  fill_snd_eq_findBin FloatOps.exact 8 h inside 1 .pyInt inside_finite

/-- a NaN coordinate: nothing is returned, nothing changes -/
example : h.fill FloatOps.exact 8 [some (-3 / 2), none] 1 .pyFloat = (h, none) :=
  fill_of_nan FloatOps.exact 8 h _ 1 .pyFloat (by decide)

end ExampleFind

end Physt
