import Physt.Proofs.AdaptiveHistory
import Physt.Proofs.HistoryND
import Physt.Theorems.C02_Cells
import Physt.Theorems.C03_ND
/-!
# Histories of `fill` / `fill_n` on an N-dimensional histogram with adaptive fixed-width axes

The N-d counterpart of `Proofs/AdaptiveHistory.lean` (1-D, `GridTracks`) and the adaptive
counterpart of `Proofs/PathsND.lean` (N-d, fixed bins, `TracksN`).

The array lemma underneath (`calcND_set_axis`): when the bins of ONE axis are replaced by bins in
which every row is found `a` bins further up, the batch histogram is the old one shifted by `a` along
that axis (`Arr.shiftAxis`), zeros elsewhere; for a grid axis this is the instruction `_reshape_data`
is given (`calcND_regrid`, with `ReshapeOK` of the 1-D theory), missed weight unchanged.  The growth
loop of `fill` / `fill_n` then makes every adaptive grid grow to the hull (`SpanHull`) of its range and
its column, other axes stay and the arrays follow (`AxisGrown`, `AxesGrown`).  `TracksM fo h axes rows`
is the invariant for ANY mix of adaptive grids and non-adaptive rising bins, kept by `fill`, `fill_n`
and any history of them (`tracksM_history`); `TracksA fo h grids rows` is the same for all-adaptive
histograms in terms of the list of grids (`missed = 0`, every row inside every axis; `TracksA.toM` /
`TracksM.toA`).  In exact arithmetic the hypotheses reduce to positive widths (`monoGrids_exact`,
`reachGrids_exact`, `edgesOK_exact`).
-/
namespace Physt
open Grid H1

/-- on a right-open grid axis the search of `calculate_nd_frequencies` finds the cell of the value -/
theorem axisCell_grid {edge : Int → Rat} (hm : ∀ a b : Int, a < b → edge a < edge b) (t : Int) (n : Nat)
    (x : Rat) (k : Int) (hk : CellOf edge x k) (h1 : t ≤ k) (h2 : k < t + n) :
    axisCell (binsFrom edge t n) false x = some (k - t).toNat := by
  rw [axisCell_spec _ (binsFrom_rising edge hm t n)]
  unfold inBin
  have hi : (k - t).toNat < n := by omega
  rw [binsFrom_getElem? edge t n _ hi]
  have : t + ((k - t).toNat : Int) = k := by omega
  simp only [this]
  simp [hk.1, hk.2]

/-- … in particular on the bins of a right-open grid with increasing edges: cell `k` is bin `k - tmin` -/
theorem axisCell_gridBins (fo : FloatOps) (g : Grid) (hm : EdgeMono fo g.w g.shift) (hire : g.ire = false) (x : Rat)
    (k : Int) (hk : CellOf (g.edgeAt fo) x k) (h1 : g.tmin ≤ k) (h2 : k < g.tmin + g.count) :
    axisCell (g.bins fo) g.ire x = some (k - g.tmin).toNat := by
  rw [hire, bins_eq_binsFrom]
  exact axisCell_grid hm _ _ x k hk h1 h2

/-- **Replacing the bins of one axis.**  If coordinate `i` of the row is found in bin `c` of the old
    bins of axis `i` and in bin `c + a` of the new ones, the row's cell over the new axes is its cell
    over the old axes with component `i` moved up by `a`. -/
theorem rowCell_set_axis (axes : AxesB) (i : Nat) (p p' : Bins × Bool) (a : Nat) (hi : axes[i]? = some p)
    (row : List Rat) (hl : row.length = axes.length) (x : Rat) (hx : row[i]? = some x) (c : Nat)
    (hc : axisCell p.1 p.2 x = some c) (hc' : axisCell p'.1 p'.2 x = some (c + a)) (idx : List Nat) :
    rowCell (axes.set i p') row = some idx ↔
      idx[i]? = some (c + a) ∧ rowCell axes row = some (idx.set i c) := by
  rw [rowCell_eq_some_iff _ row (by rw [hl, List.length_set]), rowCell_eq_some_iff axes row hl]
  simp only [List.length_set]
  have hia := (List.getElem?_eq_some_iff.mp hi).1
  constructor
  · rintro ⟨h1, h2⟩
    refine ⟨(h2 i p' x (List.getElem?_set_self hia) hx).trans hc', h1, fun j q y hq hy => ?_⟩
    by_cases hij : i = j
    · subst hij
      cases hi.symm.trans hq
      cases hx.symm.trans hy
      rw [List.getElem?_set_self (h1 ▸ hia), hc]
    · rw [List.getElem?_set_ne hij]
      exact h2 j q y (by rwa [List.getElem?_set_ne hij]) hy
  · rintro ⟨h0, h1, h2⟩
    refine ⟨h1, fun j q y hq hy => ?_⟩
    by_cases hij : i = j
    · subst hij
      rw [List.getElem?_set_self hia] at hq
      cases hq
      cases hx.symm.trans hy
      rw [h0, hc']
    · rw [List.getElem?_set_ne hij] at hq
      have := h2 j q y hq hy
      rwa [List.getElem?_set_ne hij] at this

theorem cellSums_get (axes : AxesB) (g : Rat → Rat) (rows : List Row) (idx : List Nat)
    (hv : validIdx (axes.map (·.1.length)) idx = true) :
    (cellSums axes g rows).get idx = ((rows.filter fun r => rowCell axes r.1 == some idx).map fun r => g r.2).sum := by
  rw [cellSums, Arr.get_ofFn _ _ idx hv, List.filter_map, List.map_map]
  rfl

theorem validIdx_getElem? (shape idx : List Nat) (h : validIdx shape idx = true) (i n : Nat)
    (hn : shape[i]? = some n) : ∃ j, idx[i]? = some j ∧ j < n := by
  obtain ⟨hl, hv⟩ := (validIdx_iff_getD shape idx).mp h
  have hi := (List.getElem?_eq_some_iff.mp hn).1
  have := hv i hi
  rw [hn, List.getElem?_eq_getElem (hl ▸ hi)] at this
  exact ⟨_, List.getElem?_eq_getElem (hl ▸ hi), this⟩

theorem validIdx_set (shape idx : List Nat) (i n k : Nat) (h : validIdx (Arr.setAt shape i n) idx = true)
    (m : Nat) (hm : shape[i]? = some m) (hk : k < m) : validIdx shape (idx.set i k) = true := by
  obtain ⟨hl, hv⟩ := (validIdx_iff_getD _ idx).mp h
  simp only [Arr.setAt_eq, List.length_set] at hl hv
  refine (validIdx_iff_getD shape _).mpr ⟨by simpa using hl, fun j hj => ?_⟩
  by_cases hij : i = j
  · subst hij
    simpa [List.getElem?_set_self (hl ▸ hj), hm] using hk
  · simpa [List.getElem?_set_ne hij] using hv j hj

theorem shape_set_axis (axes : AxesB) (i : Nat) (p' : Bins × Bool) :
    (axes.set i p').map (·.1.length) = Arr.setAt (axes.map (·.1.length)) i p'.1.length := by
  simp [Arr.setAt, List.map_set]

/-- reading a shifted array: entry `j` along the axis is the old entry `j - k` (zero outside the old range) -/
theorem Arr.get_shiftAxis (A : Arr) (axis k newN : Nat) (idx : List Nat)
    (hv : validIdx (Arr.setAt A.shape axis newN) idx = true) (j : Nat) (hj : idx[axis]? = some j) :
    (A.shiftAxis axis k newN).get idx
      = if k ≤ j ∧ j - k < A.shape[axis]?.getD 0 then A.get (idx.set axis (j - k)) else 0 := by
  show (Arr.ofFn (Arr.setAt A.shape axis newN) _).get idx = _
  rw [Arr.get_ofFn _ _ idx hv]
  simp only [hj, Option.getD_some]
  split
  · simp [Arr.setAt]
  · simp

/-- **One axis grows, the contents stay attached to their intervals** (N-d analogue of
    `calc1d_grid_grow`).  Replace the bins of axis `i` by bins in which every row's coordinate `i` is
    found `a` bins further up (the grid grew by `a` cells on the left and any number on the right).
    Then the batch histogram over the new axes is the old one moved by `a` along axis `i`
    (`Arr.shiftAxis`, what `_reshape_data` does), zeros elsewhere. -/
theorem cellSums_set_axis (axes : AxesB) (i : Nat) (p p' : Bins × Bool) (a : Nat) (hi : axes[i]? = some p)
    (rows : List Row)
    (hrows : ∀ r ∈ rows, r.1.length = axes.length ∧ ∃ x c, r.1[i]? = some x ∧ axisCell p.1 p.2 x = some c ∧
      c < p.1.length ∧ axisCell p'.1 p'.2 x = some (c + a)) (g : Rat → Rat) :
    cellSums (axes.set i p') g rows = (cellSums axes g rows).shiftAxis i a p'.1.length := by
  have hold : (axes.map (·.1.length))[i]? = some p.1.length := by simp [hi]
  refine Arr.ext_get _ _ (Arr.wellShaped_ofFn _ _) (Arr.wellShaped_gather _ _ _ _)
    (by rw [Arr.shape_shiftAxis]; exact shape_set_axis axes i p') fun idx hv => ?_
  have hv' : validIdx (Arr.setAt (axes.map (·.1.length)) i p'.1.length) idx = true := by
    rw [← shape_set_axis]; exact hv
  obtain ⟨j, hj, -⟩ := validIdx_getElem? _ idx hv' i p'.1.length (by
    simp [(List.getElem?_eq_some_iff.mp hi).1])
  rw [cellSums_get _ _ _ _ hv, Arr.get_shiftAxis _ i a _ idx hv' j hj]
  show _ = if a ≤ j ∧ j - a < (axes.map (·.1.length))[i]?.getD 0 then _ else _
  rw [hold, Option.getD_some]
  by_cases hin : a ≤ j ∧ j - a < p.1.length
  · rw [if_pos hin, cellSums_get _ _ _ _ (validIdx_set _ idx i _ (j - a) hv' _ hold hin.2)]
    refine congrArg (fun l => (List.map (fun r : Row => g r.2) l).sum) (List.filter_congr fun r hr => ?_)
    obtain ⟨hl, x, c, hx, hc, hcl, hc'⟩ := hrows r hr
    rw [Bool.eq_iff_iff, beq_iff_eq, beq_iff_eq, rowCell_set_axis axes i p p' a hi r.1 hl x hx c hc hc' idx, hj]
    constructor
    · rintro ⟨e, h2⟩
      have : j - a = c := by simp only [Option.some.injEq] at e; omega
      rw [this]; exact h2
    · intro h2
      have hcomp := ((rowCell_eq_some_iff axes r.1 hl _).mp h2).2 i p x hi hx
      rw [List.getElem?_set_self (List.getElem?_eq_some_iff.mp hj).1, hc] at hcomp
      have e : j - a = c := Option.some.inj hcomp
      exact ⟨by congr 1; omega, by rw [← e]; exact h2⟩
  · rw [if_neg hin, List.filter_eq_nil_iff.mpr]
    · rfl
    intro r hr hm
    obtain ⟨hl, x, c, hx, hc, hcl, hc'⟩ := hrows r hr
    have key := (rowCell_set_axis axes i p p' a hi r.1 hl x hx c hc hc' idx).mp (by simpa using hm)
    rw [hj] at key
    have : j = c + a := Option.some.inj key.1
    exact hin ⟨by omega, by omega⟩

/-- the same for the two arrays of `calcND` -/
theorem calcND_set_axis (axes : AxesB) (i : Nat) (p p' : Bins × Bool) (a : Nat) (hi : axes[i]? = some p)
    (rows : List Row)
    (hrows : ∀ r ∈ rows, r.1.length = axes.length ∧ ∃ x c, r.1[i]? = some x ∧ axisCell p.1 p.2 x = some c ∧
      c < p.1.length ∧ axisCell p'.1 p'.2 x = some (c + a)) :
    (calcND (axes.set i p') rows).freq = (calcND axes rows).freq.shiftAxis i a p'.1.length ∧
    (calcND (axes.set i p') rows).err2 = (calcND axes rows).err2.shiftAxis i a p'.1.length :=
  ⟨cellSums_set_axis axes i p p' a hi rows hrows fun w => w, cellSums_set_axis axes i p p' a hi rows hrows fun w => w * w⟩

def InGrid (fo : FloatOps) (g : Grid) (x : Rat) : Prop :=
  ∃ k : Int, CellOf (g.edgeAt fo) x k ∧ g.tmin ≤ k ∧ k < g.tmin + g.count

theorem InGrid.mono {fo : FloatOps} {g g' : Grid} {x : Rat} (h : InGrid fo g x) (hw : g'.w = g.w)
    (hs : g'.shift = g.shift) (hlo : g'.tmin ≤ g.tmin) (hhi : g.tmin + g.count ≤ g'.tmin + g'.count) :
    InGrid fo g' x := by
  obtain ⟨k, hk, h1, h2⟩ := h
  have hedge : g'.edgeAt fo = g.edgeAt fo := by funext c; simp only [edgeAt, hw, hs]
  exact ⟨k, by rw [hedge]; exact hk, by omega, by omega⟩

theorem axesOf_set (fo : FloatOps) (axes : List Binning) (i : Nat) (b : Binning) :
    axesOf fo (axes.set i b) = (axesOf fo axes).set i (b.bins fo, b.ire) := by
  simp [axesOf, List.map_set]

theorem axesOf_getElem? (fo : FloatOps) (axes : List Binning) (i : Nat) (b : Binning) (h : axes[i]? = some b) :
    (axesOf fo axes)[i]? = some (b.bins fo, b.ire) := by
  simp [axesOf, h]

theorem axesOf_set_same (fo : FloatOps) (axes : List Binning) (i : Nat) (b b' : Binning) (hi : axes[i]? = some b)
    (hb : b'.bins fo = b.bins fo) (hire : b'.ire = b.ire) : axesOf fo (axes.set i b') = axesOf fo axes := by
  rw [axesOf_set, hb, hire]
  exact setAt_of_getElem? _ _ _ (axesOf_getElem? fo axes i _ hi)

/-- **Growing one grid axis as `_reshape_data` is told** (`ReshapeOK`, the instruction the 1-D theory
    shows `_force_bin_existence` to issue): the batch histogram of rows whose coordinate `i` lies in
    the old range, taken over the new bins, is the old one reshaped along axis `i`. -/
theorem calcND_regrid (fo : FloatOps) (axes : List Binning) (i : Nat) (g g' : Grid) (r : Reshape)
    (hi : axes[i]? = some (.fixed g)) (hm : EdgeMono fo g.w g.shift) (hw : g'.w = g.w) (hs : g'.shift = g.shift)
    (hire : g.ire = false) (hire' : g'.ire = false) (ok : ReshapeOK g g' r) (rows : List Row)
    (hrows : ∀ r ∈ rows, r.1.length = axes.length ∧ ∃ x, r.1[i]? = some x ∧ InGrid fo g x) :
    (calcND (axesOf fo (axes.set i (.fixed g'))) rows).freq
      = HN.reshapeAxis (calcND (axesOf fo axes) rows).freq i g'.count r ∧
    (calcND (axesOf fo (axes.set i (.fixed g'))) rows).err2
      = HN.reshapeAxis (calcND (axesOf fo axes) rows).err2 i g'.count r ∧
    (calcND (axesOf fo (axes.set i (.fixed g'))) rows).missing = (calcND (axesOf fo axes) rows).missing := by
  have hedge : g'.edgeAt fo = g.edgeAt fo := by funext c; simp only [edgeAt, hw, hs]
  have hshape : (axesOf fo (axes.set i (.fixed g'))).map (·.1.length)
      = Arr.setAt ((axesOf fo axes).map (·.1.length)) i g'.count := by
    rw [axesOf_set, shape_set_axis]
    simp only [Binning.bins, Grid.bins_length]
  rcases ok with ⟨h0, rfl⟩ | ⟨rfl, h1, h2⟩ | ⟨hp, rfl, h1, h2⟩
  · -- the axis was empty: there can be no rows
    have hnil : rows = [] := by
      cases rows with
      | nil => rfl
      | cons r rs =>
        obtain ⟨_, x, _, k, _, h1, h2⟩ := hrows r (List.mem_cons_self ..)
        omega
    subst hnil
    obtain ⟨z1, z2, z3⟩ := calcND_nil (axesOf fo (axes.set i (.fixed g')))
    rw [z1, z2, z3, hshape, (calcND_nil (axesOf fo axes)).2.2]
    exact ⟨rfl, rfl, rfl⟩
  · -- nothing changes
    have hb : g'.bins fo = g.bins fo := by rw [bins_eq_binsFrom, bins_eq_binsFrom, hedge, h1, h2]
    rw [axesOf_set_same fo axes i _ (.fixed g') hi hb (hire'.trans hire.symm)]
    exact ⟨rfl, rfl, rfl⟩
  · -- the old contents move by the cells added on the left
    have hi' := axesOf_getElem? fo axes i _ hi
    have := calcND_set_axis (axesOf fo axes) i _ ((Binning.fixed g').bins fo, (Binning.fixed g').ire)
      (g.tmin - g'.tmin).toNat hi' rows (by
        intro r hr
        obtain ⟨hl, x, hx, k, hk, k1, k2⟩ := hrows r hr
        refine ⟨by rw [hl]; simp [axesOf], x, (k - g.tmin).toNat, hx, axisCell_gridBins fo g hm hire x k hk k1 k2,
          by simp only [Binning.bins, Grid.bins_length]; omega, ?_⟩
        rw [show (k - g.tmin).toNat + (g.tmin - g'.tmin).toNat = (k - g'.tmin).toNat by omega]
        exact axisCell_gridBins fo g' (by rw [hw, hs]; exact hm) hire' x k (by rw [hedge]; exact hk) (by omega)
          (by omega))
    rw [axesOf_set]
    simp only [Binning.bins, Grid.bins_length] at this ⊢
    refine ⟨this.1, this.2, ?_⟩
    have c1 := C02_missed ((axesOf fo axes).set i (g'.bins fo, (Binning.fixed g').ire)) rows
    have c2 := C02_missed (axesOf fo axes) rows
    have hsA := calcND_freq_hasShape (axesOf fo axes) rows
    have hgc : ((axesOf fo axes).map (·.1.length))[i]? = some g.count := by
      simp [hi', Binning.bins, Grid.bins_length]
    have ht := Arr.total_shiftAxis _ hsA.wellShaped i (g.tmin - g'.tmin).toNat g'.count
      (by rw [hsA.1]; exact (List.getElem?_eq_some_iff.mp hgc).1)
      (by rw [hsA.1, hgc, Option.getD_some]; show _ + g.count ≤ g'.count; omega)
    rw [this.1, ht] at c1
    linarith

/-- the growth of one grid for the values of its column: `fill` hands over one value, `fill_n` the whole
    column; either way the grid keeps its flags, the new range is the hull (`SpanHull`), and the
    reshape instruction is the right one for that growth (`ReshapeOK`) -/
theorem adaptGrid_spec (fo : FloatOps) (fuel : Nat) (g : Grid) (halign : g.align = true) (hire : g.ire = false)
    (hm : EdgeMono fo g.w g.shift) (vs : List Rat) (single : Bool) (hsingle : single = true → ∃ v, vs = [v])
    (hreach : ∀ v ∈ vs, Reach fo g.w g.shift fuel v) :
    (adaptGrid fo fuel g vs single).1.align = g.align ∧
    (adaptGrid fo fuel g vs single).1.adaptive = g.adaptive ∧
    (adaptGrid fo fuel g vs single).1.ire = g.ire ∧
    ReshapeOK g (adaptGrid fo fuel g vs single).1 (adaptGrid fo fuel g vs single).2 ∧
    SpanHull (fo.edge g.w g.shift) g (adaptGrid fo fuel g vs single).1 vs := by
  cases single with
  | false => exact forceMany_spec fo fuel g halign hire hm vs hreach
  | true =>
    obtain ⟨v, rfl⟩ := hsingle rfl
    obtain ⟨k, hk, hf⟩ := hreach v (List.mem_singleton.mpr rfl)
    have e : adaptGrid fo fuel g [v] true = g.forceSingle fo fuel v false := by
      simp [adaptGrid, hire]
    rw [e]
    have cov := forceSingle_covers fo fuel g v k halign hm hk hf
    simp only at cov
    obtain ⟨hw, hs, hal, had, hir, _, _, hzero, hpos⟩ := cov
    exact ⟨hal, had, hir, forceSingle_reshapeOK fo fuel g v k hm hk hf,
      SpanHull.step hk hw hs hpos hzero (SpanHull.refl _ _)⟩

/-- what the growth step does to one axis, given the column `vs` of values entered on it: a non-adaptive
    axis is left alone; an adaptive grid keeps its flags and grows to the hull (`SpanHull`) of its old
    range and the cells of `vs` -/
def AxisGrown (fo : FloatOps) (b b' : Binning) (vs : List Rat) : Prop :=
  (b.isAdaptive = false → b' = b) ∧
  ∀ g, b = .fixed g → g.adaptive = true →
    ∃ g', b' = .fixed g' ∧ g'.align = g.align ∧ g'.adaptive = g.adaptive ∧ g'.ire = g.ire ∧
      SpanHull (fo.edge g.w g.shift) g g' vs

/-- the row has one coordinate per axis, and on every adaptive axis its coordinate lies in the grid -/
def RowFits (fo : FloatOps) (axes : List Binning) (row : List Rat) : Prop :=
  row.length = axes.length ∧
  ∀ (i : Nat) (g : Grid) (x : Rat), axes[i]? = some (Binning.fixed g) → g.adaptive = true → row[i]? = some x →
    InGrid fo g x

theorem adaptStep_grow (fo : FloatOps) (fuel : Nat) (cols : List (List Rat)) (single : Bool) (h : HN) (i : Nat)
    (g : Grid) (vs : List Rat) (hg : h.axes[i]? = some (.fixed g)) (hc : cols[i]? = some vs)
    (ha : g.adaptive = true) :
    adaptStep fo fuel cols single h i =
      { h with axes := h.axes.set i (.fixed (adaptGrid fo fuel g vs single).1),
               freq := HN.reshapeAxis h.freq i (adaptGrid fo fuel g vs single).1.count (adaptGrid fo fuel g vs single).2,
               err2 := HN.reshapeAxis h.err2 i (adaptGrid fo fuel g vs single).1.count (adaptGrid fo fuel g vs single).2 } := by
  unfold adaptStep
  simp only [hg, hc, ha, if_true]

theorem adaptStep_stay (fo : FloatOps) (fuel : Nat) (cols : List (List Rat)) (single : Bool) (h : HN) (i : Nat)
    (b : Binning) (hb : h.axes[i]? = some b) (ha : b.isAdaptive = false) :
    adaptStep fo fuel cols single h i = h := by
  unfold adaptStep
  cases b with
  | static bs ire => simp only [hb]
  | fixed g =>
    have : g.adaptive = false := ha
    cases hc : cols[i]? with
    | none => simp only [hb]
    | some vs => simp [hb, this]

def col (i : Nat) (rows : List (List Rat)) : List Rat := rows.filterMap (·[i]?)

theorem col_append (i : Nat) (a b : List (List Rat)) : col i (a ++ b) = col i a ++ col i b := by
  simp [col, List.filterMap_append]

theorem mem_col {i : Nat} {rows : List (List Rat)} {x : Rat} (h : x ∈ col i rows) :
    ∃ r ∈ rows, r[i]? = some x := by
  simpa [col, List.mem_filterMap] using h

theorem col_mem {i : Nat} {rows : List (List Rat)} {r : List Rat} {x : Rat} (hr : r ∈ rows) (hx : r[i]? = some x) :
    x ∈ col i rows := by
  simp only [col, List.mem_filterMap]
  exact ⟨r, hr, hx⟩

/-- every axis of `axes'` is the axis of `axes` at the same position, grown (if adaptive) to the hull of
    its old range and column `i` of the rows `entered` -/
structure AxesGrown (fo : FloatOps) (axes axes' : List Binning) (entered : List (List Rat)) : Prop where
  len : axes'.length = axes.length
  each : ∀ (i : Nat) (b : Binning), axes[i]? = some b →
    ∃ b', axes'[i]? = some b' ∧ AxisGrown fo b b' (col i entered)

theorem AxisGrown.refl (fo : FloatOps) (b : Binning) : AxisGrown fo b b [] :=
  ⟨fun _ => rfl, fun g _ _ => ⟨g, by assumption, rfl, rfl, rfl, SpanHull.refl _ g⟩⟩

theorem AxisGrown.trans {fo : FloatOps} {b b1 b2 : Binning} {vs1 vs2 : List Rat} (a1 : AxisGrown fo b b1 vs1)
    (a2 : AxisGrown fo b1 b2 vs2) : AxisGrown fo b b2 (vs1 ++ vs2) := by
  refine ⟨fun hna => ?_, ?_⟩
  · have e1 := a1.1 hna
    subst e1
    exact a2.1 hna
  · intro g hg hga
    obtain ⟨g1, e1, al1, ad1, ir1, sp1⟩ := a1.2 g hg hga
    obtain ⟨g2, e2, al2, ad2, ir2, sp2⟩ := a2.2 g1 e1 (ad1.trans hga)
    rw [sp1.w, sp1.shift] at sp2
    exact ⟨g2, e2, al2.trans al1, ad2.trans ad1, ir2.trans ir1, sp1.trans sp2⟩

theorem AxisGrown.isAdaptive {fo : FloatOps} {b b' : Binning} {vs : List Rat} (a : AxisGrown fo b b' vs) :
    b'.isAdaptive = b.isAdaptive := by
  rcases b.adaptive_cases with h | ⟨g, rfl, hg⟩
  · rw [a.1 h]
  · obtain ⟨g', rfl, _, ad, _⟩ := a.2 g rfl hg
    exact ad

/-- read backwards: an adaptive grid after the growth was an adaptive grid before -/
theorem AxisGrown.inv {fo : FloatOps} {b : Binning} {g' : Grid} {vs : List Rat}
    (a : AxisGrown fo b (.fixed g') vs) (ha : g'.adaptive = true) :
    ∃ g, b = .fixed g ∧ g.adaptive = true ∧ g'.align = g.align ∧ g'.ire = g.ire ∧
      SpanHull (fo.edge g.w g.shift) g g' vs := by
  rcases b.adaptive_cases with h | ⟨g, rfl, hg⟩
  · cases ha.symm.trans (a.isAdaptive.trans h)
  · obtain ⟨g1, e1, al1, _, ir1, sp1⟩ := a.2 g rfl hg
    cases e1
    exact ⟨g, rfl, hg, al1, ir1, sp1⟩

theorem AxesGrown.refl (fo : FloatOps) (axes : List Binning) : AxesGrown fo axes axes [] :=
  ⟨rfl, fun _ b hb => ⟨b, hb, AxisGrown.refl fo b⟩⟩

theorem AxesGrown.trans {fo : FloatOps} {axes axes1 axes2 : List Binning} {e1 e2 : List (List Rat)}
    (a1 : AxesGrown fo axes axes1 e1) (a2 : AxesGrown fo axes1 axes2 e2) : AxesGrown fo axes axes2 (e1 ++ e2) := by
  refine ⟨a2.len.trans a1.len, ?_⟩
  intro i b hb
  obtain ⟨b1, hb1, g1⟩ := a1.each i b hb
  obtain ⟨b2, hb2, g2⟩ := a2.each i b1 hb1
  exact ⟨b2, hb2, by rw [col_append]; exact g1.trans g2⟩

theorem AxesGrown.back {fo : FloatOps} {axes axes' : List Binning} {e : List (List Rat)} (a : AxesGrown fo axes axes' e)
    (i : Nat) (b' : Binning) (hb' : axes'[i]? = some b') :
    ∃ b, axes[i]? = some b ∧ AxisGrown fo b b' (col i e) := by
  have hi : i < axes.length := by rw [← a.len]; exact (List.getElem?_eq_some_iff.mp hb').1
  obtain ⟨b1, h1, g1⟩ := a.each i _ (List.getElem?_eq_getElem hi)
  rw [hb'] at h1
  cases h1
  exact ⟨_, List.getElem?_eq_getElem hi, g1⟩

/-- the hypotheses on the edges: adaptive grids have strictly increasing edge functions (rounding may
    not reorder edges), all other axes have rising bins -/
structure EdgesOK (fo : FloatOps) (axes : List Binning) : Prop where
  mono : ∀ (i : Nat) (g : Grid), axes[i]? = some (Binning.fixed g) → g.adaptive = true → EdgeMono fo g.w g.shift
  rising : ∀ b ∈ axes, b.isAdaptive = false → Rising (b.bins fo)

theorem EdgesOK.grown {fo : FloatOps} {axes axes' : List Binning} {e : List (List Rat)} (ok : EdgesOK fo axes)
    (a : AxesGrown fo axes axes' e) : EdgesOK fo axes' := by
  refine ⟨?_, ?_⟩
  · intro i g' hg' ha
    obtain ⟨b, hb, gr⟩ := a.back i _ hg'
    obtain ⟨g, rfl, hga, _, _, sp⟩ := gr.inv ha
    rw [sp.w, sp.shift]
    exact ok.mono i g hb hga
  · intro b' hb' ha
    obtain ⟨i, hi, rfl⟩ := List.getElem_of_mem hb'
    obtain ⟨b, hb, gr⟩ := a.back i _ (List.getElem?_eq_getElem hi)
    have hba := gr.isAdaptive.symm.trans ha
    rw [gr.1 hba]
    exact ok.rising b (List.mem_of_getElem? hb) hba

theorem EdgesOK.all_rising {fo : FloatOps} {axes : List Binning} (ok : EdgesOK fo axes) :
    ∀ b ∈ axes, Rising (b.bins fo) := by
  intro b hb
  rcases b.adaptive_cases with ha | ⟨g, rfl, hga⟩
  · exact ok.rising b hb ha
  · obtain ⟨i, hi, he⟩ := List.getElem_of_mem hb
    have hm := ok.mono i g (by rw [List.getElem?_eq_getElem hi, he]) hga
    show Rising (g.bins fo)
    rw [bins_eq_binsFrom]
    exact binsFrom_rising _ hm _ _

/-- the coordinates of the row on the adaptive axes have cells the corrected search can reach -/
def ReachRow (fo : FloatOps) (fuel : Nat) (axes : List Binning) (row : List Rat) : Prop :=
  ∀ (i : Nat) (g : Grid) (x : Rat), axes[i]? = some (Binning.fixed g) → g.adaptive = true → row[i]? = some x →
    Reach fo g.w g.shift fuel x

theorem ReachRow.grown {fo : FloatOps} {fuel : Nat} {axes axes' : List Binning} {e : List (List Rat)} {row : List Rat}
    (r : ReachRow fo fuel axes row) (a : AxesGrown fo axes axes' e) : ReachRow fo fuel axes' row := by
  intro i g' x hg' ha hx
  obtain ⟨b, hb, gr⟩ := a.back i _ hg'
  obtain ⟨g, rfl, hga, _, _, sp⟩ := gr.inv ha
  rw [sp.w, sp.shift]
  exact r i g x hb hga hx

/-- rows that fitted before the growth still fit -/
theorem RowFits.grown {fo : FloatOps} {axes axes' : List Binning} {e : List (List Rat)} {row : List Rat}
    (f : RowFits fo axes row) (a : AxesGrown fo axes axes' e) : RowFits fo axes' row := by
  refine ⟨f.1.trans a.len.symm, ?_⟩
  intro i g' x hg' ha hx
  obtain ⟨b, hb, gr⟩ := a.back i _ hg'
  obtain ⟨g, rfl, hga, _, _, sp⟩ := gr.inv ha
  have hin := f.2 i g x hb hga hx
  have hp : 0 < g.count := by obtain ⟨k, _, h1, h2⟩ := hin; omega
  exact hin.mono sp.w sp.shift (sp.keepLo hp) (sp.keepHi hp)

/-- rows whose coordinates were entered fit after the growth -/
theorem RowFits.entered {fo : FloatOps} {axes axes' : List Binning} {e : List (List Rat)} {row : List Rat}
    (a : AxesGrown fo axes axes' e) (hr : row ∈ e) (hl : row.length = axes.length) : RowFits fo axes' row := by
  refine ⟨hl.trans a.len.symm, ?_⟩
  intro i g' x hg' ha hx
  obtain ⟨b, hb, gr⟩ := a.back i _ hg'
  obtain ⟨g, rfl, hga, _, _, sp⟩ := gr.inv ha
  obtain ⟨k, hk, h1, h2⟩ := sp.covers x (col_mem hr hx)
  refine ⟨k, ?_, h1, h2⟩
  show CellOf (fo.edge g'.w g'.shift) x k
  rw [sp.w, sp.shift]; exact hk

def AllAdaptive (axes : List Binning) : Prop := ∀ b ∈ axes, b.isAdaptive = true

theorem AllAdaptive.grown {fo : FloatOps} {axes axes' : List Binning} {e : List (List Rat)} (al : AllAdaptive axes)
    (a : AxesGrown fo axes axes' e) : AllAdaptive axes' := by
  intro b' hb'
  obtain ⟨i, hi, rfl⟩ := List.getElem_of_mem hb'
  obtain ⟨b, hb, gr⟩ := a.back i _ (List.getElem?_eq_getElem hi)
  exact gr.isAdaptive.trans (al b (List.mem_of_getElem? hb))

/-- **The state holds the fixed-bin histogram of the rows entered so far, over its current bins.**
    `h` has the axes `axes`; contents and squared errors are those `calculate_nd_frequencies` computes
    from `rows` over the current bins, `missed` is the weight of the rows outside all bins (possible on
    non-adaptive axes only; tracking of missed values is on, or every axis is adaptive and there is
    nothing to miss); every row has one coordinate per axis and lies inside the current range of
    every adaptive axis; adaptive axes are aligned and right-open (`include_right_edge` off — physt
    refuses that combination). -/
structure TracksM (fo : FloatOps) (h : HN) (axes : List Binning) (rows : List Row) : Prop where
  hax : h.axes = axes
  keep : h.keep = true ∨ AllAdaptive axes
  flags : ∀ (i : Nat) (g : Grid), axes[i]? = some (Binning.fixed g) → g.adaptive = true →
    g.align = true ∧ g.ire = false
  freq : h.freq = (calcND (axesOf fo axes) rows).freq
  err2 : h.err2 = (calcND (axesOf fo axes) rows).err2
  missed : h.missed = some (calcND (axesOf fo axes) rows).missing
  fits : ∀ r ∈ rows, RowFits fo axes r.1

/-- the adaptive axes are aligned and right-open (the field `TracksM.flags`) -/
def FlagsOK (axes : List Binning) : Prop :=
  ∀ (i : Nat) (g : Grid), axes[i]? = some (Binning.fixed g) → g.adaptive = true → g.align = true ∧ g.ire = false

theorem FlagsOK.grown {fo : FloatOps} {axes axes' : List Binning} {e : List (List Rat)} (fl : FlagsOK axes)
    (a : AxesGrown fo axes axes' e) : FlagsOK axes' := by
  intro i g' hg' ha
  obtain ⟨b, hb, gr⟩ := a.back i _ hg'
  obtain ⟨g, rfl, hga, al, ir, _⟩ := gr.inv ha
  have := fl i g hb hga
  exact ⟨al.trans this.1, ir.trans this.2⟩

theorem TracksM.axesBins {fo : FloatOps} {h : HN} {axes : List Binning} {rows : List Row} (t : TracksM fo h axes rows) :
    h.axesBins fo = axesOf fo axes := by
  rw [← t.hax]; rfl

theorem TracksM.shape {fo : FloatOps} {h : HN} {axes : List Binning} {rows : List Row} (t : TracksM fo h axes rows) :
    h.shape fo = (axesOf fo axes).map (·.1.length) := by
  rw [axesOf_shape, ← t.hax]; rfl

theorem TracksM.shapes {fo : FloatOps} {h : HN} {axes : List Binning} {rows : List Row} (t : TracksM fo h axes rows) :
    h.freq.HasShape (h.shape fo) ∧ h.err2.HasShape (h.shape fo) := by
  rw [t.shape, t.freq, t.err2]
  exact ⟨calcND_freq_hasShape _ _, calcND_err2_hasShape _ _⟩

/-- the empty histogram satisfies the invariant with no rows (any axes with the right flags) -/
theorem tracksM_empty (fo : FloatOps) (axes : List Binning) (keep : Bool) (hk : keep = true ∨ AllAdaptive axes)
    (fl : FlagsOK axes) (dt : Option DType) (names : Option (List String)) :
    TracksM fo (HN.empty fo axes keep dt names) axes [] := by
  obtain ⟨z1, z2, z3⟩ := calcND_nil (axesOf fo axes)
  refine ⟨rfl, hk, fl, ?_, ?_, ?_, ?_⟩
  · rw [z1, axesOf_shape]; rfl
  · rw [z2, axesOf_shape]; rfl
  · rw [z3]; rfl
  · intro r hr; cases hr

theorem rowCell_isSome (axes : AxesB) (row : List Rat) (hl : row.length = axes.length)
    (h : ∀ (i : Nat) (p : Bins × Bool) (x : Rat), axes[i]? = some p → row[i]? = some x →
      ∃ c, axisCell p.1 p.2 x = some c ∧ c < p.1.length) :
    ∃ idx, rowCell axes row = some idx ∧ validIdx (axes.map (·.1.length)) idx = true := by
  induction axes generalizing row with
  | nil =>
    cases row with
    | nil => exact ⟨[], rfl, rfl⟩
    | cons _ _ => simp at hl
  | cons a as ih =>
    cases row with
    | nil => simp at hl
    | cons x xs =>
      obtain ⟨c, hc, hcl⟩ := h 0 a x rfl rfl
      obtain ⟨cs, hcs, hv⟩ := ih xs (by simpa using hl)
        (fun i p y hp hy => h (i + 1) p y (by simpa using hp) (by simpa using hy))
      refine ⟨c :: cs, ?_, ?_⟩
      · unfold rowCell at hcs ⊢
        simp only [List.zip_cons_cons, List.mapM_cons, hc, hcs]
        rfl
      · simp [validIdx, hcl, hv]

/-- rows that all have a valid cell leave nothing missed -/
theorem calcND_missing_zero (axes : AxesB) (rows : List Row)
    (h : ∀ r ∈ rows, ∃ idx, rowCell axes r.1 = some idx ∧ validIdx (axes.map (·.1.length)) idx = true) :
    (calcND axes rows).missing = 0 := by
  induction rows with
  | nil => exact (calcND_nil axes).2.2
  | cons r rs ih =>
    obtain ⟨idx, hc, hv⟩ := h r (List.mem_cons_self ..)
    have e : r :: rs = [(r.1, r.2)] ++ rs := rfl
    rw [e, calcND_append_missing, (calcND_single_some axes r.1 r.2 idx hc hv).2.2,
      ih (fun q hq => h q (List.mem_cons_of_mem _ hq))]
    simp

/-- **On adaptive axes every fitting row has a cell**: per axis, the bin of its cell `k` on the grid
    `k·w + s`, at position `k - tmin`. -/
theorem fits_rowCell (fo : FloatOps) (axes : List Binning) (al : AllAdaptive axes) (ok : EdgesOK fo axes)
    (fl : FlagsOK axes) (row : List Rat) (f : RowFits fo axes row) :
    ∃ idx, rowCell (axesOf fo axes) row = some idx ∧
      validIdx ((axesOf fo axes).map (·.1.length)) idx = true ∧
      ∀ (i : Nat) (g : Grid) (x : Rat), axes[i]? = some (Binning.fixed g) → row[i]? = some x →
        ∃ k : Int, CellOf (fo.edge g.w g.shift) x k ∧ g.tmin ≤ k ∧ k < g.tmin + g.count ∧
          idx[i]? = some (k - g.tmin).toNat := by
  have hlen : row.length = (axesOf fo axes).length := by rw [f.1]; simp [axesOf]
  have cellOf : ∀ (i : Nat) (g : Grid) (x : Rat), axes[i]? = some (Binning.fixed g) → row[i]? = some x →
      ∃ k : Int, CellOf (fo.edge g.w g.shift) x k ∧ g.tmin ≤ k ∧ k < g.tmin + g.count ∧
        axisCell (g.bins fo) g.ire x = some (k - g.tmin).toNat := by
    intro i g x hg hx
    have hga : g.adaptive = true := al _ (List.mem_of_getElem? hg)
    obtain ⟨k, hk, h1, h2⟩ := f.2 i g x hg hga hx
    exact ⟨k, hk, h1, h2, axisCell_gridBins fo g (ok.mono i g hg hga) (fl i g hg hga).2 x k hk h1 h2⟩
  obtain ⟨idx, hc, hv⟩ := rowCell_isSome (axesOf fo axes) row hlen (by
    intro i p x hp hx
    have hi : i < axes.length := by simpa [axesOf] using (List.getElem?_eq_some_iff.mp hp).1
    have hb : axes[i]? = some axes[i] := List.getElem?_eq_getElem hi
    have hba := al _ (List.mem_of_getElem? hb)
    rcases hbi : axes[i] with _ | g
    · rw [hbi] at hba; cases hba
    · rw [hbi] at hb
      rw [axesOf_getElem? fo axes i _ hb] at hp
      cases hp
      obtain ⟨k, _, h1, h2, hcell⟩ := cellOf i g x hb hx
      exact ⟨_, hcell, by simp only [Binning.bins, Grid.bins_length]; omega⟩)
  refine ⟨idx, hc, hv, ?_⟩
  intro i g x hg hx
  obtain ⟨k, hk, h1, h2, hcell⟩ := cellOf i g x hg hx
  refine ⟨k, hk, h1, h2, ?_⟩
  rw [((rowCell_eq_some_iff _ row hlen idx).mp hc).2 i _ x (axesOf_getElem? fo axes i _ hg) hx]
  exact hcell

/-- with adaptive axes only, rows that fit leave nothing missed -/
theorem missing_zero_of_fits (fo : FloatOps) (axes : List Binning) (al : AllAdaptive axes) (ok : EdgesOK fo axes)
    (fl : FlagsOK axes) (rows : List Row) (hf : ∀ r ∈ rows, RowFits fo axes r.1) :
    (calcND (axesOf fo axes) rows).missing = 0 :=
  calcND_missing_zero _ _ fun r hr => by
    obtain ⟨idx, hc, hv, _⟩ := fits_rowCell fo axes al ok fl r.1 (hf r hr)
    exact ⟨idx, hc, hv⟩

/-- the histogram between the growth step and the cell search of `fill`: dtype promoted, adaptive
    axes grown for the coordinates of the value -/
def HN.grown (fo : FloatOps) (fuel : Nat) (h : HN) (value : List (Option Rat)) (wk : H1.NumKind) : HN :=
  (h.coerce wk.dtype).adaptAxes fo fuel ((value.filterMap id).map fun x => [x]) true

/-- `fill` of a value without NaN, written out: promote the dtype, grow the adaptive axes, search the
    cell in the grown axes, then add to the cell or to `missed` -/
theorem fill_of_finite (fo : FloatOps) (fuel : Nat) (h : HN) (value : List (Option Rat)) (w : Rat)
    (wk : H1.NumKind) (hv : value.any Option.isNone = false) :
    h.fill fo fuel value w wk =
      match (h.grown fo fuel value wk).findBin fo (value.filterMap id) with
      | none =>
        (if (h.grown fo fuel value wk).keep
          then { h.grown fo fuel value wk with missed := nadd (h.grown fo fuel value wk).missed (some w) }
          else h.grown fo fuel value wk, some none)
      | some idx =>
        ({ h.grown fo fuel value wk with
           freq := HN.addAtIdx (h.grown fo fuel value wk).freq idx w,
           err2 := HN.addAtIdx (h.grown fo fuel value wk).err2 idx (w * w) },
         some (some idx)) := by
  unfold HN.fill
  simp only [hv, Bool.false_eq_true, if_false]
  rfl

theorem col_single (i : Nat) (v : List Rat) (x : Rat) (hx : v[i]? = some x) : col i [v] = [x] := by
  simp [col, hx]

theorem TracksM.coerce {fo : FloatOps} {h : HN} {axes : List Binning} {rows : List Row}
    (t : TracksM fo h axes rows) (d : DType) : TracksM fo (h.coerce d) axes rows :=
  ⟨t.hax, t.keep, t.flags, t.freq, t.err2, t.missed, t.fits⟩

/-- **The growth step of `fill` / `fill_n` keeps the invariant.**  Every adaptive axis grows to the hull of
    its old range and its column of the rows `entered` (`cols` is their transpose), all other axes stay,
    and the two arrays — which held the batch histogram of `rows` over the old bins — hold the batch
    histogram of the same rows over the new bins. -/
theorem tracksM_adapt (fo : FloatOps) (fuel : Nat) (h : HN) (axes : List Binning) (rows : List Row)
    (tr : TracksM fo h axes rows) (ok : EdgesOK fo axes) (cols : List (List Rat)) (single : Bool)
    (entered : List (List Rat)) (hcol : ∀ i, i < axes.length → cols[i]? = some (col i entered))
    (hsingle : single = true → ∀ vs ∈ cols, ∃ v, vs = [v])
    (hreach : ∀ r ∈ entered, ReachRow fo fuel axes r) :
    AxesGrown fo axes (h.adaptAxes fo fuel cols single).axes entered ∧
    TracksM fo (h.adaptAxes fo fuel cols single) (h.adaptAxes fo fuel cols single).axes rows := by
  obtain ⟨_, f2, f3, _⟩ := adaptAxes_fields fo fuel h cols single
  have hax := tr.hax
  subst hax
  obtain ⟨len, each, fr, er, mi⟩ := adaptAxes_induct fo fuel cols single h
    (fun n a => a.axes.length = h.axes.length ∧
      (∀ i b, i < n → h.axes[i]? = some b → ∃ b', a.axes[i]? = some b' ∧ AxisGrown fo b b' (col i entered)) ∧
      a.freq = (calcND (axesOf fo a.axes) rows).freq ∧ a.err2 = (calcND (axesOf fo a.axes) rows).err2 ∧
      (calcND (axesOf fo a.axes) rows).missing = (calcND (axesOf fo h.axes) rows).missing)
    ⟨rfl, fun _ _ hi => (Nat.not_lt_zero _ hi).elim, tr.freq, tr.err2, rfl⟩
    (by
      rintro n a hn han ⟨ilen, iax, ifr, ier, imi⟩
      have hvs := hcol n hn
      obtain ⟨b, hb⟩ : ∃ b, h.axes[n]? = some b := ⟨_, List.getElem?_eq_getElem hn⟩
      rw [hb] at han
      rcases b.adaptive_cases with had | ⟨g, rfl, hga⟩
      · rw [adaptStep_stay fo fuel cols single a n b han had]
        refine ⟨ilen, fun i b' hi hbi => ?_, ifr, ier, imi⟩
        rcases Nat.lt_succ_iff_lt_or_eq.mp hi with hi | rfl
        · exact iax i b' hi hbi
        · rw [hb] at hbi
          cases hbi
          exact ⟨b, han, fun _ => rfl, fun g hg hga => by rw [hg] at had; cases hga.symm.trans had⟩
      · have fl := tr.flags n g hb hga
        have hm := ok.mono n g hb hga
        obtain ⟨s1, s2, s3, rok, sp⟩ := adaptGrid_spec fo fuel g fl.1 fl.2 hm (col n entered) single
          (fun hs => hsingle hs _ (List.mem_of_getElem? hvs))
          (fun y hy => by
            obtain ⟨r, hr, hx⟩ := mem_col hy
            exact hreach r hr n g y hb hga hx)
        rw [adaptStep_grow fo fuel cols single a n g _ han hvs hga]
        generalize (adaptGrid fo fuel g (col n entered) single).1 = g' at *
        generalize (adaptGrid fo fuel g (col n entered) single).2 = r at *
        obtain ⟨r1, r2, r3⟩ := calcND_regrid fo a.axes n g g' r han hm sp.w sp.shift fl.2 (s3.trans fl.2) rok rows
          (fun row hrow => by
            obtain ⟨hl, hin⟩ := tr.fits row hrow
            obtain ⟨x, hx⟩ : ∃ x, row.1[n]? = some x := ⟨_, List.getElem?_eq_getElem (by omega)⟩
            exact ⟨by rw [hl, ilen], x, hx, hin n g x hb hga hx⟩)
        refine ⟨by simp [ilen], fun i b' hi hbi => ?_, (congrArg (HN.reshapeAxis · n g'.count r) ifr).trans r1.symm,
          (congrArg (HN.reshapeAxis · n g'.count r) ier).trans r2.symm, r3.trans imi⟩
        show ∃ b'', (a.axes.set n (.fixed g'))[i]? = some b'' ∧ _
        rcases Nat.lt_succ_iff_lt_or_eq.mp hi with hi | rfl
        · rw [List.getElem?_set_ne (by omega)]
          exact iax i b' hi hbi
        · rw [hb] at hbi
          cases hbi
          exact ⟨.fixed g', List.getElem?_set_self (by omega), fun hna => (by cases hga.symm.trans hna),
            fun g0 hg0 _ => by cases hg0; exact ⟨g', rfl, s1, s2, s3, sp⟩⟩)
  have grown : AxesGrown fo h.axes (h.adaptAxes fo fuel cols single).axes entered :=
    ⟨len, fun i b hb => each i b (List.getElem?_eq_some_iff.mp hb).1 hb⟩
  exact ⟨grown, rfl, tr.keep.imp f3.trans fun al => al.grown grown, FlagsOK.grown tr.flags grown, fr, er,
    by rw [f2, tr.missed, mi], fun r hr => (tr.fits r hr).grown grown⟩

/-- `find_bin` on the state is the cell search of `calculate_nd_frequencies` over the current bins -/
theorem TracksM.findBin {fo : FloatOps} {h : HN} {axes : List Binning} {rows : List Row} (t : TracksM fo h axes rows)
    (ok : EdgesOK fo axes) (v : List Rat) : h.findBin fo v = rowCell (axesOf fo axes) v := by
  have hax := t.hax
  subst hax
  refine (rowCell_eq_findBin _ (fun a ha => ?_) v).symm
  obtain ⟨b, hb, rfl⟩ := List.mem_map.mp ha
  exact ok.all_rising b hb

/-- entering rows that fit the axes: any state whose arrays are the old ones plus the batch histogram of the
    new rows (one cell, one missed value or a whole batch) satisfies the invariant for the rows appended -/
theorem TracksM.append {fo : FloatOps} {h h' : HN} {axes : List Binning} {rows data : List Row}
    (t : TracksM fo h axes rows) (hax : h'.axes = h.axes) (hk : h'.keep = true ∨ AllAdaptive axes)
    (hf : h'.freq = Arr.zipWith (· + ·) h.freq (calcND (axesOf fo axes) data).freq)
    (he : h'.err2 = Arr.zipWith (· + ·) h.err2 (calcND (axesOf fo axes) data).err2)
    (hmi : h'.missed = some ((calcND (axesOf fo axes) rows).missing + (calcND (axesOf fo axes) data).missing))
    (hd : ∀ r ∈ data, RowFits fo axes r.1) : TracksM fo h' axes (rows ++ data) := by
  obtain ⟨a1, a2, a3⟩ := calcND_append (axesOf fo axes) rows data
  refine ⟨hax.trans t.hax, hk, t.flags, by rw [hf, a1, t.freq], by rw [he, a2, t.err2], by rw [hmi, a3], ?_⟩
  intro r hr
  rcases List.mem_append.mp hr with hr | hr
  · exact t.fits r hr
  · exact hd r hr

/-- after the growth, a value that `find_bin` does not find is counted as missed -/
theorem tracksM_fillCore_none (fo : FloatOps) (h1 : HN) (axes1 : List Binning) (rows : List Row)
    (tr1 : TracksM fo h1 axes1 rows) (ok1 : EdgesOK fo axes1) (v : List Rat) (hv : RowFits fo axes1 v) (w : Rat)
    (hfb : h1.findBin fo v = none) :
    h1.keep = true ∧ TracksM fo { h1 with missed := nadd h1.missed (some w) } axes1 (rows ++ [(v, w)]) := by
  have hrc := (tr1.findBin ok1 v).symm.trans hfb
  have hk : h1.keep = true := by
    rcases tr1.keep with hk | hk
    · exact hk
    · obtain ⟨idx, hc, _⟩ := fits_rowCell fo axes1 hk ok1 tr1.flags v hv
      rw [hrc] at hc; cases hc
  obtain ⟨z1, z2, z3⟩ := calcND_single_none (axesOf fo axes1) v w hrc
  have sh := tr1.shapes
  rw [tr1.shape] at sh
  refine ⟨hk, tr1.append rfl (Or.inl hk) ?_ ?_ ?_ ?_⟩
  · rw [z1]; exact (Arr.zipWith_zeros_right _ _ sh.1).symm
  · rw [z2]; exact (Arr.zipWith_zeros_right _ _ sh.2).symm
  · show nadd h1.missed (some w) = _
    rw [z3, tr1.missed]; rfl
  · intro r hr
    rw [List.mem_singleton.mp hr]; exact hv

/-- after the growth, the weight goes to the cell `find_bin` reports -/
theorem tracksM_fillCore_some (fo : FloatOps) (h1 : HN) (axes1 : List Binning) (rows : List Row)
    (tr1 : TracksM fo h1 axes1 rows) (ok1 : EdgesOK fo axes1) (v : List Rat) (hv : RowFits fo axes1 v) (w : Rat)
    (idx : List Nat) (hfb : h1.findBin fo v = some idx) :
    TracksM fo { h1 with freq := HN.addAtIdx h1.freq idx w, err2 := HN.addAtIdx h1.err2 idx (w * w) } axes1
      (rows ++ [(v, w)]) := by
  have hax := tr1.hax
  have hrc := (tr1.findBin ok1 v).symm.trans hfb
  have hvalid : validIdx ((axesOf fo axes1).map (·.1.length)) idx = true := by
    rw [← hax]
    exact findBin_valid (h1.axesBins fo) v idx (by rw [hv.1, ← hax]; simp [HN.axesBins]) hfb
  obtain ⟨z1, z2, z3⟩ := calcND_single_some (axesOf fo axes1) v w idx hrc hvalid
  have sh := tr1.shapes
  rw [tr1.shape] at sh
  refine tr1.append rfl tr1.keep (z1 _ sh.1) (z2 _ sh.2) ?_ ?_
  · show h1.missed = _
    rw [z3, tr1.missed]; simp
  · intro r hr
    rw [List.mem_singleton.mp hr]; exact hv

theorem cols_single (v : List Rat) (i : Nat) (hi : i < v.length) :
    (v.map fun x => [x])[i]? = some (col i [v]) := by
  simp [col, List.getElem?_eq_getElem hi]

/-- **One `fill` of a finite point keeps the invariant** (any kind of weight).  The axes grow to the
    hulls of their old ranges and the cells of the point's coordinates (`AxesGrown`: width and origin
    kept, `SpanHull` per axis); the new state holds the fixed-bin histogram of the old rows followed by
    the new one over the grown bins; the index returned is the one `find_bin` gives afterwards. -/
theorem tracksM_fill (fo : FloatOps) (fuel : Nat) (h : HN) (axes : List Binning) (rows : List Row)
    (tr : TracksM fo h axes rows) (ok : EdgesOK fo axes) (v : List Rat) (hl : v.length = axes.length)
    (hreach : ReachRow fo fuel axes v) (w : Rat) (wk : H1.NumKind) :
    ∃ axes', TracksM fo (h.fill fo fuel (v.map some) w wk).1 axes' (rows ++ [(v, w)]) ∧
      AxesGrown fo axes axes' [v] ∧
      (h.fill fo fuel (v.map some) w wk).2 = some ((h.fill fo fuel (v.map some) w wk).1.findBin fo v) := by
  obtain ⟨grown, tr1⟩ := tracksM_adapt fo fuel (h.coerce wk.dtype) axes rows (tr.coerce _) ok
    (v.map fun x => [x]) true [v] (fun i hi => cols_single v i (by omega))
    (by
      intro _ vs hvs
      obtain ⟨x, _, rfl⟩ := List.mem_map.mp hvs
      exact ⟨x, rfl⟩)
    (by intro r hr; rw [List.mem_singleton.mp hr]; exact hreach)
  have ok1 := ok.grown grown
  have hv : RowFits fo ((h.coerce wk.dtype).adaptAxes fo fuel (v.map fun x => [x]) true).axes v :=
    RowFits.entered grown (List.mem_singleton.mpr rfl) hl
  rw [fill_of_finite fo fuel h _ w wk (any_isNone_map_some v)]
  simp only [HN.grown, filterMap_id_map_some]
  generalize (h.coerce wk.dtype).adaptAxes fo fuel (v.map fun x => [x]) true = h1 at *
  refine ⟨h1.axes, ?_⟩
  split
  · rename_i hfb
    obtain ⟨hk, t⟩ := tracksM_fillCore_none fo h1 h1.axes rows tr1 ok1 v hv w hfb
    rw [if_pos hk]
    exact ⟨t, grown, congrArg some ((HN.findBin_axes fo h1 _ rfl v).trans hfb).symm⟩
  · rename_i idx hfb
    have t := tracksM_fillCore_some fo h1 h1.axes rows tr1 ok1 v hv w idx hfb
    exact ⟨t, grown, congrArg some ((HN.findBin_axes fo h1 _ rfl v).trans hfb).symm⟩

/-- `fill` of any value: a value with a NaN coordinate is skipped, exactly as the NaN mask of `fill_n`
    drops it (`maskRows [value] (some [w])` is then empty) -/
theorem tracksM_fill_opt (fo : FloatOps) (fuel : Nat) (h : HN) (axes : List Binning) (rows : List Row)
    (tr : TracksM fo h axes rows) (ok : EdgesOK fo axes) (value : List (Option Rat)) (w : Rat) (wk : H1.NumKind)
    (hl : value.all Option.isSome = true → value.length = axes.length)
    (hreach : ∀ r ∈ maskRows [value] (some [w]), ReachRow fo fuel axes r.1) :
    ∃ axes', TracksM fo (h.fill fo fuel value w wk).1 axes' (rows ++ maskRows [value] (some [w])) ∧
      AxesGrown fo axes axes' ((maskRows [value] (some [w])).map (·.1)) := by
  by_cases hall : value.all Option.isSome = true
  · have hv := map_some_filterMap_id value hall
    have hlen : (value.filterMap id).length = axes.length := by
      rw [← hl hall]; conv => rhs; rw [← hv]
      simp
    have hm : maskRows [value] (some [w]) = [(value.filterMap id, w)] := by simp [maskRows, hall]
    rw [hm] at hreach ⊢
    obtain ⟨axes', t, g, _⟩ := tracksM_fill fo fuel h axes rows tr ok (value.filterMap id) hlen
      (hreach _ (List.mem_singleton.mpr rfl)) w wk
    rw [hv] at t
    exact ⟨axes', t, g⟩
  · have hany := any_isNone_of_not_all value hall
    have e : h.fill fo fuel value w wk = (h, none) := by
      unfold HN.fill; simp [hany]
    have hm : maskRows [value] (some [w]) = [] := by simp [maskRows, hall]
    rw [e, hm]
    exact ⟨axes, by simpa using tr, AxesGrown.refl fo axes⟩

/-- adding the batch histogram of rows that fit the (already grown) axes -/
theorem tracksM_fillCore_batch (fo : FloatOps) (h1 : HN) (axes1 : List Binning) (rows : List Row)
    (tr1 : TracksM fo h1 axes1 rows) (ok1 : EdgesOK fo axes1) (data : List Row)
    (hd : ∀ r ∈ data, RowFits fo axes1 r.1) : TracksM fo (h1.fillData fo data) axes1 (rows ++ data) := by
  unfold HN.fillData
  rw [tr1.axesBins]
  refine tr1.append rfl tr1.keep rfl rfl ?_ hd
  show (if h1.keep then nadd h1.missed (some (calcND (axesOf fo axes1) data).missing) else h1.missed) = _
  rw [tr1.missed]
  by_cases hk : h1.keep = true
  · rw [if_pos hk]; rfl
  · rw [if_neg hk]
    rcases tr1.keep with hk' | al
    · exact (hk hk').elim
    · rw [missing_zero_of_fits fo axes1 al ok1 tr1.flags data hd]; simp

theorem transposeCols_getElem? (rows : List (List Rat)) (d i : Nat) (hi : i < d) :
    (HN.transposeCols rows d)[i]? = some (col i rows) := by
  simp [HN.transposeCols, col, List.getElem?_map, List.getElem?_range hi]

/-- **One `fill_n` batch keeps the invariant** (NaN rows, the empty batch, weights or none): with one
    coordinate per axis in every row and as many weights as rows the call is accepted; the axes grow
    to the hulls of their old ranges and the columns of the batch; the new state holds the fixed-bin
    histogram of the old rows followed by the (NaN-masked) batch over the grown bins. -/
theorem tracksM_fillN (fo : FloatOps) (fuel : Nat) (h : HN) (axes : List Binning) (rows : List Row)
    (tr : TracksM fo h axes rows) (ok : EdgesOK fo axes) (batch : List (List (Option Rat)))
    (ws : Option (List Rat)) (wkind : DType) (hcol : ∀ x ∈ batch, x.length = axes.length)
    (hw : ∀ w, ws = some w → w.length = batch.length)
    (hreach : ∀ r ∈ maskRows batch ws, ReachRow fo fuel axes r.1) :
    ∃ r axes', h.fillN fo fuel batch ws wkind = .ok r ∧ TracksM fo r axes' (rows ++ maskRows batch ws) ∧
      AxesGrown fo axes axes' ((maskRows batch ws).map (·.1)) := by
  have hax := tr.hax
  rw [HN.fillN_eq, if_neg (not_any_iff.mpr fun x hx => by simpa [hax] using hcol x hx), if_neg]
  swap
  · cases ws with
    | none => simp
    | some w => simpa using hw w rfl
  have tr0 : TracksM fo (if ws.isSome then h.coerce wkind else h) axes rows := by
    split
    · exact tr.coerce _
    · exact tr
  obtain ⟨grown, tr1⟩ := tracksM_adapt fo fuel _ axes rows tr0 ok
    (HN.transposeCols ((maskRows batch ws).map (·.1)) h.axes.length) false
    ((maskRows batch ws).map (·.1))
    (fun i hi => transposeCols_getElem? _ _ i (by rw [hax]; exact hi))
    (fun hs => by cases hs)
    (by
      intro r hr
      obtain ⟨q, hq, rfl⟩ := List.mem_map.mp hr
      exact hreach q hq)
  exact ⟨_, _, rfl, tracksM_fillCore_batch fo _ _ rows tr1 (ok.grown grown) (maskRows batch ws) (fun r hr =>
    RowFits.entered grown (List.mem_map.mpr ⟨r, hr, rfl⟩) (maskRows_length batch ws axes.length hcol r hr)), grown⟩

/-- the accounting identity: `total + missed` is the weight entered -/
theorem TracksM.account {fo : FloatOps} {h : HN} {axes : List Binning} {rows : List Row}
    (t : TracksM fo h axes rows) : ∃ m, h.missed = some m ∧ h.total + m = (rows.map (·.2)).sum :=
  ⟨_, t.missed, by unfold HN.total; rw [t.freq]; exact C02_missed _ _⟩

/-- with adaptive axes only, nothing is ever missed -/
theorem TracksM.missing_zero {fo : FloatOps} {h : HN} {axes : List Binning} {rows : List Row}
    (t : TracksM fo h axes rows) (al : AllAdaptive axes) (ok : EdgesOK fo axes) :
    (calcND (axesOf fo axes) rows).missing = 0 :=
  missing_zero_of_fits fo axes al ok t.flags rows t.fits

theorem TracksM.missed_zero {fo : FloatOps} {h : HN} {axes : List Binning} {rows : List Row}
    (t : TracksM fo h axes rows) (al : AllAdaptive axes) (ok : EdgesOK fo axes) : h.missed = some 0 := by
  rw [t.missed, t.missing_zero al ok]

/-- **The total is the total weight entered** (adaptive axes only). -/
theorem TracksM.total {fo : FloatOps} {h : HN} {axes : List Binning} {rows : List Row}
    (t : TracksM fo h axes rows) (al : AllAdaptive axes) (ok : EdgesOK fo axes) :
    h.total = (rows.map (·.2)).sum := by
  obtain ⟨m, hm, hs⟩ := t.account
  rw [t.missed_zero al ok] at hm
  cases hm
  linarith

/-- **Every row entered lies inside a bin** (adaptive axes only): `find_bin` finds it, and on every axis
    the index is that of the cell `k` of the coordinate on the original grid (`k·w + s` in exact
    arithmetic), the bin being `[edge k, edge (k+1))`. -/
theorem TracksM.in_bin {fo : FloatOps} {h : HN} {axes : List Binning} {rows : List Row}
    (t : TracksM fo h axes rows) (al : AllAdaptive axes) (ok : EdgesOK fo axes) (r : Row) (hr : r ∈ rows) :
    ∃ idx, h.findBin fo r.1 = some idx ∧ validIdx (h.shape fo) idx = true ∧
      ∀ (i : Nat) (g : Grid) (x : Rat), axes[i]? = some (Binning.fixed g) → r.1[i]? = some x →
        ∃ k : Int, CellOf (fo.edge g.w g.shift) x k ∧ g.tmin ≤ k ∧ k < g.tmin + g.count ∧
          idx[i]? = some (k - g.tmin).toNat ∧
          (g.bins fo)[(k - g.tmin).toNat]? = some (fo.edge g.w g.shift k, fo.edge g.w g.shift (k + 1)) := by
  obtain ⟨idx, hc, hv, hcells⟩ := fits_rowCell fo axes al ok t.flags r.1 (t.fits r hr)
  refine ⟨idx, (t.findBin ok r.1).trans hc, ?_, ?_⟩
  · rw [t.shape]; exact hv
  · intro i g x hg hx
    obtain ⟨k, hk, h1, h2, hi⟩ := hcells i g x hg hx
    refine ⟨k, hk, h1, h2, hi, ?_⟩
    rw [bins_eq_binsFrom, binsFrom_getElem? _ _ _ _ (by omega)]
    have : g.tmin + ((k - g.tmin).toNat : Int) = k := by omega
    rw [this]; rfl

/-- with adaptive axes only, the hypothesis on the edges is: strictly increasing edge functions -/
theorem EdgesOK.of_allAdaptive {fo : FloatOps} {axes : List Binning} (al : AllAdaptive axes)
    (hm : ∀ (i : Nat) (g : Grid), axes[i]? = some (Binning.fixed g) → EdgeMono fo g.w g.shift) : EdgesOK fo axes :=
  ⟨fun i g hg _ => hm i g hg, fun b hb ha => by rw [al b hb] at ha; cases ha⟩

/-- with adaptive axes only, `fill` of a finite point reports a bin (never a miss) -/
theorem tracksM_fill_index (fo : FloatOps) (fuel : Nat) (h : HN) (axes : List Binning) (rows : List Row)
    (tr : TracksM fo h axes rows) (al : AllAdaptive axes) (ok : EdgesOK fo axes) (v : List Rat)
    (hl : v.length = axes.length) (hreach : ReachRow fo fuel axes v) (w : Rat) (wk : H1.NumKind) :
    ∃ idx, (h.fill fo fuel (v.map some) w wk).2 = some (some idx) ∧
      (h.fill fo fuel (v.map some) w wk).1.findBin fo v = some idx := by
  obtain ⟨axes', t, g, e⟩ := tracksM_fill fo fuel h axes rows tr ok v hl hreach w wk
  obtain ⟨idx, hf, _⟩ := t.in_bin (al.grown g) (ok.grown g) (v, w) (by simp)
  exact ⟨idx, by rw [e, hf], hf⟩

/-- all the rows a list of calls enters (after the NaN mask), in order -/
def enteredRows (ops : List OpN) : List Row := (ops.map OpN.rows).flatten

theorem tracksM_apply (fo : FloatOps) (fuel : Nat) (h : HN) (axes : List Binning) (rows : List Row)
    (tr : TracksM fo h axes rows) (ok : EdgesOK fo axes) (op : OpN) (hv : op.Valid axes.length)
    (ha : op.Accepted axes.length) (hreach : ∀ r ∈ op.rows, ReachRow fo fuel axes r.1) :
    ∃ r axes', op.apply fo fuel h = .ok r ∧ TracksM fo r axes' (rows ++ op.rows) ∧
      AxesGrown fo axes axes' (op.rows.map (·.1)) := by
  cases op with
  | fill value w wk =>
    obtain ⟨axes', t, g⟩ := tracksM_fill_opt fo fuel h axes rows tr ok value w wk hv hreach
    exact ⟨_, axes', rfl, t, g⟩
  | fillN batch ws wkind => exact tracksM_fillN fo fuel h axes rows tr ok batch ws wkind ha.1 ha.2 hreach

/-- **ANY sequence of `fill` / `fill_n` calls keeps the invariant.**  Every call is accepted, the final
    state holds the fixed-bin histogram of everything entered over the final bins, every adaptive
    axis has grown to the hull of its initial range and the cells of its column of values, every
    other axis is untouched. -/
theorem tracksM_history (fo : FloatOps) (fuel : Nat) (ops : List OpN) (h : HN) (axes : List Binning)
    (rows0 : List Row) (tr : TracksM fo h axes rows0) (ok : EdgesOK fo axes)
    (hv : ∀ op ∈ ops, op.Valid axes.length) (ha : ∀ op ∈ ops, op.Accepted axes.length)
    (hreach : ∀ r ∈ enteredRows ops, ReachRow fo fuel axes r.1) :
    ∃ r axes', ops.foldlM (OpN.apply fo fuel) h = .ok r ∧ TracksM fo r axes' (rows0 ++ enteredRows ops) ∧
      AxesGrown fo axes axes' ((enteredRows ops).map (·.1)) ∧ EdgesOK fo axes' := by
  induction ops generalizing h axes rows0 with
  | nil => exact ⟨h, axes, rfl, by simpa [enteredRows] using tr, by simpa [enteredRows] using AxesGrown.refl fo axes, ok⟩
  | cons op ops ih =>
    have hcons : enteredRows (op :: ops) = op.rows ++ enteredRows ops := rfl
    rw [hcons] at hreach ⊢
    obtain ⟨m, axes1, e1, t1, g1⟩ := tracksM_apply fo fuel h axes rows0 tr ok op
      (hv op (List.mem_cons_self ..)) (ha op (List.mem_cons_self ..)) fun r hr => hreach r (List.mem_append_left _ hr)
    obtain ⟨r, axes', e', t', g', ok'⟩ := ih m axes1 (rows0 ++ op.rows) t1 (ok.grown g1)
      (fun q hq => by rw [g1.len]; exact hv q (List.mem_cons_of_mem _ hq))
      (fun q hq => by rw [g1.len]; exact ha q (List.mem_cons_of_mem _ hq))
      (fun q hq => (hreach q (List.mem_append_right _ hq)).grown g1)
    refine ⟨r, axes', ?_, by rw [← List.append_assoc]; exact t', by rw [List.map_append]; exact g1.trans g', ok'⟩
    simp only [List.foldlM_cons, bind, Except.bind, e1]
    exact e'

/-- the row has one coordinate per grid, and each coordinate's cell `k` on the grid `k·w + s` of its
    axis lies in the current range `tmin ≤ k < tmin + count` -/
def InsideGrids (fo : FloatOps) (grids : List Grid) (row : List Rat) : Prop :=
  row.length = grids.length ∧
  ∀ (i : Nat) (g : Grid) (x : Rat), grids[i]? = some g → row[i]? = some x →
    ∃ k : Int, CellOf (fo.edge g.w g.shift) x k ∧ g.tmin ≤ k ∧ k < g.tmin + g.count

/-- **The invariant of an N-d histogram all of whose axes are adaptive fixed-width grids.**  `h` has
    the grids `grids` as axes, all adaptive, aligned and right-open; contents and squared errors are
    those of the batch histogram (`calculate_nd_frequencies`) of `rows` over the current bins; nothing
    was ever missed; every row lies inside the current range of every axis.
    (That the arrays are well-shaped follows: `TracksA.shapes`.) -/
structure TracksA (fo : FloatOps) (h : HN) (grids : List Grid) (rows : List Row) : Prop where
  hax : h.axes = grids.map Binning.fixed
  flags : ∀ g ∈ grids, g.adaptive = true ∧ g.align = true ∧ g.ire = false
  freq : h.freq = (calcND (h.axesBins fo) rows).freq
  err2 : h.err2 = (calcND (h.axesBins fo) rows).err2
  missed : h.missed = some 0
  inside : ∀ r ∈ rows, InsideGrids fo grids r.1

def MonoGrids (fo : FloatOps) (grids : List Grid) : Prop := ∀ g ∈ grids, EdgeMono fo g.w g.shift

/-- every coordinate of the row has a cell on the grid of its axis, within reach of the corrected search -/
def ReachGrids (fo : FloatOps) (fuel : Nat) (grids : List Grid) (row : List Rat) : Prop :=
  ∀ (i : Nat) (g : Grid) (x : Rat), grids[i]? = some g → row[i]? = some x → Reach fo g.w g.shift fuel x

/-- per axis, the new grid is the hull (`SpanHull`: same width and origin, old range and all cells
    needed contained, both ends attained) of the old grid and column `i` of the rows entered -/
structure HullN (fo : FloatOps) (grids grids' : List Grid) (entered : List (List Rat)) : Prop where
  len : grids'.length = grids.length
  each : ∀ (i : Nat) (g g' : Grid), grids[i]? = some g → grids'[i]? = some g' →
    SpanHull (fo.edge g.w g.shift) g g' (col i entered)

theorem map_fixed_getElem? (grids : List Grid) (i : Nat) (g : Grid) :
    (grids.map Binning.fixed)[i]? = some (Binning.fixed g) ↔ grids[i]? = some g := by
  rw [List.getElem?_map]
  cases grids[i]? <;> simp

theorem allAdaptive_map_fixed (grids : List Grid) (h : ∀ g ∈ grids, g.adaptive = true) :
    AllAdaptive (grids.map Binning.fixed) := by
  intro b hb
  obtain ⟨g, hg, rfl⟩ := List.mem_map.mp hb
  exact h g hg

theorem exists_grids (axes : List Binning) (al : AllAdaptive axes) :
    ∃ grids : List Grid, axes = grids.map Binning.fixed ∧ ∀ g ∈ grids, g.adaptive = true := by
  induction axes with
  | nil => exact ⟨[], rfl, by simp⟩
  | cons b bs ih =>
    obtain ⟨gs, e, hg⟩ := ih (fun x hx => al x (List.mem_cons_of_mem _ hx))
    have hb := al b (List.mem_cons_self ..)
    cases b with
    | static _ _ => cases hb
    | fixed g =>
      refine ⟨g :: gs, by rw [e]; rfl, ?_⟩
      intro x hx
      rcases List.mem_cons.mp hx with rfl | hx
      · exact hb
      · exact hg x hx

theorem edgesOK_map_fixed {fo : FloatOps} {grids : List Grid} (ha : ∀ g ∈ grids, g.adaptive = true)
    (hm : MonoGrids fo grids) : EdgesOK fo (grids.map Binning.fixed) :=
  EdgesOK.of_allAdaptive (allAdaptive_map_fixed grids ha) (fun i g hg =>
    hm g (List.mem_of_getElem? ((map_fixed_getElem? grids i g).mp hg)))

theorem monoGrids_of_edgesOK {fo : FloatOps} {grids : List Grid} (ha : ∀ g ∈ grids, g.adaptive = true)
    (ok : EdgesOK fo (grids.map Binning.fixed)) : MonoGrids fo grids := by
  intro g hg
  obtain ⟨i, hi, rfl⟩ := List.getElem_of_mem hg
  exact ok.mono i _ ((map_fixed_getElem? grids i _).mpr (List.getElem?_eq_getElem hi)) (ha _ hg)

theorem insideGrids_iff (fo : FloatOps) (grids : List Grid) (ha : ∀ g ∈ grids, g.adaptive = true) (row : List Rat) :
    InsideGrids fo grids row ↔ RowFits fo (grids.map Binning.fixed) row := by
  constructor
  · rintro ⟨h1, h2⟩
    refine ⟨by simpa using h1, ?_⟩
    intro i g x hg _ hx
    exact h2 i g x ((map_fixed_getElem? grids i g).mp hg) hx
  · rintro ⟨h1, h2⟩
    refine ⟨by simpa using h1, ?_⟩
    intro i g x hg hx
    exact h2 i g x ((map_fixed_getElem? grids i g).mpr hg) (ha g (List.mem_of_getElem? hg)) hx

theorem reachGrids_iff (fo : FloatOps) (fuel : Nat) (grids : List Grid) (row : List Rat) (hr : ReachGrids fo fuel grids row) :
    ReachRow fo fuel (grids.map Binning.fixed) row := by
  intro i g x hg _ hx
  exact hr i g x ((map_fixed_getElem? grids i g).mp hg) hx

theorem TracksA.adaptive {fo : FloatOps} {h : HN} {grids : List Grid} {rows : List Row} (t : TracksA fo h grids rows) :
    ∀ g ∈ grids, g.adaptive = true :=
  fun g hg => (t.flags g hg).1

theorem TracksA.axesBins {fo : FloatOps} {h : HN} {grids : List Grid} {rows : List Row} (t : TracksA fo h grids rows) :
    h.axesBins fo = axesOf fo (grids.map Binning.fixed) := by
  rw [← t.hax]; rfl

theorem TracksA.edgesOK {fo : FloatOps} {h : HN} {grids : List Grid} {rows : List Row} (t : TracksA fo h grids rows)
    (hm : MonoGrids fo grids) : EdgesOK fo (grids.map Binning.fixed) :=
  edgesOK_map_fixed t.adaptive hm

/-- the all-adaptive invariant is the general one on the axes `grids.map .fixed` -/
theorem TracksA.toM {fo : FloatOps} {h : HN} {grids : List Grid} {rows : List Row} (t : TracksA fo h grids rows)
    (hm : MonoGrids fo grids) : TracksM fo h (grids.map Binning.fixed) rows := by
  have ha := t.adaptive
  have hab := t.axesBins
  have fl : FlagsOK (grids.map Binning.fixed) := fun i g hg _ =>
    (t.flags g (List.mem_of_getElem? ((map_fixed_getElem? grids i g).mp hg))).2
  have fits : ∀ r ∈ rows, RowFits fo (grids.map Binning.fixed) r.1 := fun r hr =>
    (insideGrids_iff fo grids ha r.1).mp (t.inside r hr)
  have al := allAdaptive_map_fixed grids ha
  exact ⟨t.hax, Or.inr al, fl, by rw [← hab]; exact t.freq, by rw [← hab]; exact t.err2,
    by rw [missing_zero_of_fits fo _ al (t.edgesOK hm) fl rows fits]; exact t.missed, fits⟩

theorem TracksM.toA {fo : FloatOps} {h : HN} {grids : List Grid} {rows : List Row}
    (t : TracksM fo h (grids.map Binning.fixed) rows) (ha : ∀ g ∈ grids, g.adaptive = true)
    (ok : EdgesOK fo (grids.map Binning.fixed)) : TracksA fo h grids rows := by
  refine ⟨t.hax, ?_, by rw [t.axesBins]; exact t.freq, by rw [t.axesBins]; exact t.err2,
    t.missed_zero (allAdaptive_map_fixed grids ha) ok, fun r hr => (insideGrids_iff fo grids ha r.1).mpr (t.fits r hr)⟩
  intro g hg
  obtain ⟨i, hi, rfl⟩ := List.getElem_of_mem hg
  have := t.flags i _ ((map_fixed_getElem? grids i _).mpr (List.getElem?_eq_getElem hi)) (ha _ hg)
  exact ⟨ha _ hg, this.1, this.2⟩

theorem TracksA.shapes {fo : FloatOps} {h : HN} {grids : List Grid} {rows : List Row} (t : TracksA fo h grids rows) :
    h.freq.HasShape (h.shape fo) ∧ h.err2.HasShape (h.shape fo) := by
  rw [t.freq, t.err2, ← HN.axesBins_shape]
  exact ⟨calcND_freq_hasShape _ _, calcND_err2_hasShape _ _⟩

/-- the empty histogram on adaptive grids (any counts, in particular `count = 0` everywhere) -/
theorem tracksA_empty (fo : FloatOps) (grids : List Grid)
    (fl : ∀ g ∈ grids, g.adaptive = true ∧ g.align = true ∧ g.ire = false) (keep : Bool) (dt : Option DType)
    (names : Option (List String)) : TracksA fo (HN.empty fo (grids.map Binning.fixed) keep dt names) grids [] := by
  obtain ⟨z1, z2, _⟩ := calcND_nil ((HN.empty fo (grids.map Binning.fixed) keep dt names).axesBins fo)
  refine ⟨rfl, fl, ?_, ?_, rfl, fun r hr => by cases hr⟩
  · rw [z1, HN.axesBins_shape]; rfl
  · rw [z2, HN.axesBins_shape]; rfl

/-- growth of adaptive grids, read off the general statement -/
theorem hullN_of_grown {fo : FloatOps} {grids : List Grid} {axes' : List Binning} {e : List (List Rat)}
    (ha : ∀ g ∈ grids, g.adaptive = true) (a : AxesGrown fo (grids.map Binning.fixed) axes' e) :
    ∃ grids', axes' = grids'.map Binning.fixed ∧ (∀ g ∈ grids', g.adaptive = true) ∧ HullN fo grids grids' e := by
  obtain ⟨grids', e', ha'⟩ := exists_grids axes' ((allAdaptive_map_fixed grids ha).grown a)
  subst e'
  refine ⟨grids', rfl, ha', by simpa using a.len, ?_⟩
  intro i g g' hg hg'
  obtain ⟨b', hb', gr⟩ := a.each i _ ((map_fixed_getElem? grids i g).mpr hg)
  rw [(map_fixed_getElem? grids' i g').mpr hg'] at hb'
  cases hb'
  obtain ⟨g'', e'', _, _, _, sp⟩ := gr.2 g rfl (ha g (List.mem_of_getElem? hg))
  cases e''
  exact sp

theorem TracksA.missing_zero {fo : FloatOps} {h : HN} {grids : List Grid} {rows : List Row}
    (t : TracksA fo h grids rows) (hm : MonoGrids fo grids) : (calcND (h.axesBins fo) rows).missing = 0 := by
  rw [t.axesBins]
  exact (t.toM hm).missing_zero (allAdaptive_map_fixed grids t.adaptive) (t.edgesOK hm)

/-- **The total is the total weight entered.** -/
theorem TracksA.total {fo : FloatOps} {h : HN} {grids : List Grid} {rows : List Row}
    (t : TracksA fo h grids rows) (hm : MonoGrids fo grids) : h.total = (rows.map (·.2)).sum :=
  (t.toM hm).total (allAdaptive_map_fixed grids t.adaptive) (t.edgesOK hm)

/-- **Every row entered lies inside a bin**: `find_bin` finds it; on axis `i` the index is `k - tmin`
    for the cell `k` of the coordinate on the original grid of that axis, and that bin is
    `[edge k, edge (k+1))`. -/
theorem TracksA.in_bin {fo : FloatOps} {h : HN} {grids : List Grid} {rows : List Row}
    (t : TracksA fo h grids rows) (hm : MonoGrids fo grids) (r : Row) (hr : r ∈ rows) :
    ∃ idx, h.findBin fo r.1 = some idx ∧ validIdx (h.shape fo) idx = true ∧
      ∀ (i : Nat) (g : Grid) (x : Rat), grids[i]? = some g → r.1[i]? = some x →
        ∃ k : Int, CellOf (fo.edge g.w g.shift) x k ∧ g.tmin ≤ k ∧ k < g.tmin + g.count ∧
          idx[i]? = some (k - g.tmin).toNat ∧
          (g.bins fo)[(k - g.tmin).toNat]? = some (fo.edge g.w g.shift k, fo.edge g.w g.shift (k + 1)) := by
  obtain ⟨idx, h1, h2, h3⟩ := (t.toM hm).in_bin (allAdaptive_map_fixed grids t.adaptive) (t.edgesOK hm) r hr
  exact ⟨idx, h1, h2, fun i g x hg hx => h3 i g x ((map_fixed_getElem? grids i g).mpr hg) hx⟩

theorem MonoGrids.hull {fo : FloatOps} {grids grids' : List Grid} {e : List (List Rat)} (hm : MonoGrids fo grids)
    (hu : HullN fo grids grids' e) : MonoGrids fo grids' := by
  intro g' hg'
  obtain ⟨i, hi, rfl⟩ := List.getElem_of_mem hg'
  have hi' : i < grids.length := by rw [← hu.len]; exact hi
  have sp := hu.each i _ _ (List.getElem?_eq_getElem hi') (List.getElem?_eq_getElem hi)
  rw [sp.w, sp.shift]
  exact hm _ (List.getElem_mem hi')

/-- back from the general invariant: a state that satisfies it on axes grown from adaptive grids satisfies the
    all-adaptive invariant on grids that are, axis by axis, the hulls -/
theorem TracksA.grown {fo : FloatOps} {h h' : HN} {grids : List Grid} {rows rows' : List Row} {axes' : List Binning}
    {e : List (List Rat)} (t : TracksA fo h grids rows) (hm : MonoGrids fo grids)
    (gr : AxesGrown fo (grids.map Binning.fixed) axes' e) (tm : TracksM fo h' axes' rows') :
    ∃ grids', TracksA fo h' grids' rows' ∧ HullN fo grids grids' e ∧ MonoGrids fo grids' := by
  obtain ⟨grids', rfl, ha', hu⟩ := hullN_of_grown t.adaptive gr
  exact ⟨grids', tm.toA ha' ((t.edgesOK hm).grown gr), hu, hm.hull hu⟩

/-- **ANY sequence of `fill` / `fill_n` calls on an all-adaptive N-d histogram keeps the invariant.** -/
theorem tracksA_history (fo : FloatOps) (fuel : Nat) (ops : List OpN) (h : HN) (grids : List Grid)
    (rows0 : List Row) (t : TracksA fo h grids rows0) (hm : MonoGrids fo grids)
    (hv : ∀ op ∈ ops, op.Valid grids.length) (hacc : ∀ op ∈ ops, op.Accepted grids.length)
    (hreach : ∀ r ∈ enteredRows ops, ReachGrids fo fuel grids r.1) :
    ∃ r grids', ops.foldlM (OpN.apply fo fuel) h = .ok r ∧ TracksA fo r grids' (rows0 ++ enteredRows ops) ∧
      HullN fo grids grids' ((enteredRows ops).map (·.1)) ∧ MonoGrids fo grids' := by
  obtain ⟨r, axes', e, tm, gr, _⟩ := tracksM_history fo fuel ops h _ rows0 (t.toM hm) (t.edgesOK hm)
    (by simpa using hv) (by simpa using hacc) (fun r hr => reachGrids_iff fo fuel grids r.1 (hreach r hr))
  obtain ⟨grids', ta, hu, hm'⟩ := t.grown hm gr tm
  exact ⟨r, grids', e, ta, hu, hm'⟩

/-- in exact arithmetic, positive widths give increasing edges … -/
theorem monoGrids_exact (grids : List Grid) (hw : ∀ g ∈ grids, 0 < g.w) : MonoGrids FloatOps.exact grids :=
  fun g hg => C04_exact_mono g.w g.shift (hw g hg)

/-- … and every coordinate is within reach of the search, whatever the fuel -/
theorem reachGrids_exact (grids : List Grid) (hw : ∀ g ∈ grids, 0 < g.w) (fuel : Nat) (row : List Rat) :
    ReachGrids FloatOps.exact fuel grids row :=
  fun _ g x hg _ => reach_exact g.w g.shift (hw g (List.mem_of_getElem? hg)) fuel x

/-- mixed axes, exact arithmetic: positive widths of the adaptive grids, rising bins elsewhere -/
theorem edgesOK_exact (axes : List Binning)
    (hw : ∀ (i : Nat) (g : Grid), axes[i]? = some (Binning.fixed g) → g.adaptive = true → 0 < g.w)
    (hr : ∀ b ∈ axes, b.isAdaptive = false → Rising (b.bins FloatOps.exact)) : EdgesOK FloatOps.exact axes :=
  ⟨fun i g hg ha => C04_exact_mono g.w g.shift (hw i g hg ha), hr⟩

theorem reachRow_exact (axes : List Binning)
    (hw : ∀ (i : Nat) (g : Grid), axes[i]? = some (Binning.fixed g) → g.adaptive = true → 0 < g.w)
    (fuel : Nat) (row : List Rat) : ReachRow FloatOps.exact fuel axes row :=
  fun i g x hg ha _ => reach_exact g.w g.shift (hw i g hg ha) fuel x

theorem axesOf_asStatic (fo : FloatOps) (axes : List Binning) :
    axesOf fo (axes.map (Binning.asStatic fo)) = axesOf fo axes := by
  simp only [axesOf, List.map_map]
  apply List.map_congr_left
  intro b _
  cases b <;> rfl

/-- **The state equals what construction from all the rows at once gives** over any axes with the same
    bins — in particular the static (fixed-bin) copy of the final axes (`axesOf_asStatic`) — whatever the
    order of the rows: contents, squared errors, missed. -/
theorem TracksM.eq_construct {fo : FloatOps} {h : HN} {axes : List Binning} {rows : List Row}
    (t : TracksM fo h axes rows) (axesC : List Binning) (hC : axesOf fo axesC = axesOf fo axes)
    (all : List (List (Option Rat))) (ws : Option (List Rat)) (wkind : DType) (dropna : Bool)
    (names : Option (List String)) (c : HN) (hc : HN.construct fo axesC all ws wkind dropna names = .ok c)
    (hp : (maskRows all ws).Perm rows) : c.freq = h.freq ∧ c.err2 = h.err2 ∧ c.missed = h.missed := by
  obtain ⟨_, _, _, h3, h4, h5⟩ := construct_ok fo axesC all ws wkind dropna names c hc
  have e := calcND_perm (axesOf fo axes) _ _ hp
  rw [hC, e] at h3 h4 h5
  exact ⟨by rw [h3, t.freq], by rw [h4, t.err2], by rw [h5, t.missed]⟩

/-- the hull of a grid and a column is unique, so two all-adaptive states that track the same rows and
    grew from the same grids for the same columns are on the same grids with the same contents -/
theorem tracksA_agree {fo : FloatOps} {h1 h2 : HN} {grids g1 g2 : List Grid} {rows : List Row} {e : List (List Rat)}
    (hm : MonoGrids fo grids) (t1 : TracksA fo h1 g1 rows) (t2 : TracksA fo h2 g2 rows)
    (u1 : HullN fo grids g1 e) (u2 : HullN fo grids g2 e) :
    g1 = g2 ∧ h1.axes = h2.axes ∧ h1.freq = h2.freq ∧ h1.err2 = h2.err2 ∧ h1.missed = h2.missed := by
  have hg : g1 = g2 := List.ext_getElem (u1.len.trans u2.len.symm) fun i i1 i2 => by
    have hi : i < grids.length := u1.len ▸ i1
    have s1 := u1.each i _ _ (List.getElem?_eq_getElem hi) (List.getElem?_eq_getElem i1)
    have s2 := u2.each i _ _ (List.getElem?_eq_getElem hi) (List.getElem?_eq_getElem i2)
    obtain ⟨a1, a2, a3, a4⟩ := s1.unique (hm _ (List.getElem_mem hi)) s2
    have f1 := t1.flags _ (List.getElem_mem i1)
    have f2 := t2.flags _ (List.getElem_mem i2)
    exact grid_ext a1 a2 a3 a4 (by rw [f1.2.1, f2.2.1]) (by rw [f1.1, f2.1]) (by rw [f1.2.2, f2.2.2])
  subst hg
  have ha : h1.axes = h2.axes := by rw [t1.hax, t2.hax]
  have hb : h1.axesBins fo = h2.axesBins fo := by simp only [HN.axesBins, ha]
  exact ⟨rfl, ha, by rw [t1.freq, t2.freq, hb], by rw [t1.err2, t2.err2, hb], by rw [t1.missed, t2.missed]⟩

end Physt
