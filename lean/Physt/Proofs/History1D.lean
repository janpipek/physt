import Physt.Theorems.C18
import Physt.Proofs.GridCover
/-!
# Well-formedness over arbitrary histories of a 1-D histogram (C18)

The property quantifies over *every* sequence of public operations, so here is the operation
language (`Op1`), the one-step function (`step`), what the caller is left with when a call is refused
(`kept`, mirroring `Physt/Driver.lean`), the fold over a history (`run`), and the invariant proved by
induction over the history (`wf_history'`).

All binning kinds are covered: `.static` bins (no hypothesis on the bins at all — not even that they
rise) and `.fixed` grids, adaptive or not, including growth of the grid in `fill`, `fill_n` and
`+=` / `-=` (for *every* `FloatOps`, no monotonicity hypothesis, any fuel).
-/
namespace Physt
open H1

/-- the public mutating / deriving operations of `Histogram1D` (free arithmetics off) -/
inductive Op1
  | fill (v : Option Rat) (w : Rat) (wk : H1.NumKind)
  | fillN (vs : List (Option Rat)) (ws : Option (List Rat)) (wk : DType)
  | iadd (o : H1)
  | isub (o : H1)
  | imul (c : Rat) (k : H1.NumKind)
  | idiv (c : Rat)
  | normalize (inplace percent : Bool)
  | mergeAmount (n : Nat)
  | mergeMinFreq (thr : Rat)
  | slice (start stop : Option Int)
  | indices (idx : List Int)
  | mask (m : List Bool)
  | setDType (d : DType)
  | copy (withFreq : Bool)

/-- `h[mask]` for a boolean mask (the driver's `"mask"` op) -/
def maskIdx (m : List Bool) : List Nat := (List.range m.length).filter fun i => m[i]?.getD false

/-- one public call: the new state, or the refusal -/
def step (fo : FloatOps) (fuel : Nat) (h : H1) : Op1 → Except String H1
  | .fill v w wk => .ok (h.fill fo fuel v w wk).1
  | .fillN vs ws wk => h.fillN fo fuel vs ws wk
  | .iadd o => h.iadd fo o
  | .isub o => h.isub fo o
  | .imul c k => h.imul c k
  | .idiv c => h.idiv c
  | .normalize i p => h.normalize i p
  | .mergeAmount n => h.mergeAmount fo n
  | .mergeMinFreq t => h.mergeMinFreq fo t
  | .slice a b => .ok (h.getSlice fo a b)
  | .indices idx =>
    match normIndexArray h.freq.length idx with
    | .ok l => .ok (h.getIndices fo l)
    | .error e => .error e
  | .mask m => if m.length != h.freq.length then .error "mask shape" else .ok (h.getIndices fo (maskIdx m))
  | .setDType d => h.setDType d
  | .copy w => .ok (h.copy w)

/-- What the caller holds after the call was refused with message `e` — exactly what
    `Physt/Driver.lean` (`step1`) keeps in the register: the state as it was, except for the
    dtype promotion the implementation performs before it validates (`*=`, `/=`, in-place
    `normalize`, `-=`, adaptive `+=`), and except for `fill_n`, which adapts the bins before it
    looks at the weights. -/
def kept (fo : FloatOps) (fuel : Nat) (h : H1) (op : Op1) (e : String) : H1 :=
  match op with
  | .fillN vs _ _ => h.adapt fo fuel (vs.filterMap id) false
  | .iadd o => if e == "different widths" || e == "different shifts" then h.coerce o.dtype else h
  | .isub o => if e == "negative frequencies" || e == "shape changed" then h.coerce o.dtype else h
  | .imul _ k => h.coerce k.dtype
  | .idiv c => if c != 0 then h.coerce .f64 else h
  | .normalize inplace _ => if inplace && h.total != 0 then h.coerce .f64 else h
  | _ => h

def next (fo : FloatOps) (fuel : Nat) (h : H1) (op : Op1) : H1 :=
  match step fo fuel h op with
  | .ok h' => h'
  | .error e => kept fo fuel h op e

/-- a history: a refused call is caught by the caller and the object is used further -/
def run (fo : FloatOps) (fuel : Nat) (h : H1) : List Op1 → H1
  | [] => h
  | op :: ops => run fo fuel (next fo fuel h op) ops

/-- The premises of the property, per operation: weights are non-negative, the other operand of
    `+=` / `-=` is itself a well-formed histogram.  (Free arithmetics off: `isub`/`imul` are the
    guarded versions.)  Nothing is asked of the bins and nothing depends on the current state. -/
def OpOK (fo : FloatOps) : Op1 → Prop
  | .fill _ w _ => 0 ≤ w
  | .fillN _ ws _ => ∀ l, ws = some l → ∀ x ∈ l, 0 ≤ x
  | .iadd o => WF fo o
  | .isub o => WF fo o
  | _ => True

theorem wf_of_eq (fo : FloatOps) {h h' : H1} (hb : h'.binning = h.binning) (hf : h'.freq = h.freq)
    (he : h'.err2 = h.err2) (w : WF fo h) : WF fo h' :=
  .of_binning hb (hf ▸ w.freq) (he ▸ w.err2)

theorem wf_coerce (fo : FloatOps) (h : H1) (d : DType) (w : WF fo h) : WF fo (h.coerce d) :=
  wf_of_eq fo (h := h) (h' := h.coerce d) rfl rfl rfl w

/-- `_reshape_data`: zero cells around the old contents; "no change" is sound when the size stays -/
theorem Good.reshape1 {m n : Nat} {old : List Rat} (g : Good m old) (r : Grid.Reshape) (hn : r = .noChange → m = n) :
    Good n (reshape1 old n r) := by
  cases r with
  | noChange => exact ⟨g.1.trans (hn rfl), g.2⟩
  | fresh => exact .zeros n
  | shift k =>
    refine ⟨by simp only [Physt.reshape1, List.length_take, List.length_append, List.length_replicate]; omega,
      fun x hx => ?_⟩
    have := List.mem_of_mem_take hx
    simp only [List.mem_append, List.mem_replicate] at this
    rcases this with (⟨_, rfl⟩ | h) | ⟨_, rfl⟩
    · exact le_refl _
    · exact g.2 x h
    · exact le_refl _

theorem Good.addAt {n : Nat} {l : List Rat} (g : Good n l) (i : Nat) {x : Rat} (hx : 0 ≤ x) : Good n (addAt l i x) := by
  refine ⟨(List.length_modify ..).trans g.1, fun y hy => ?_⟩
  obtain ⟨j, hj, rfl⟩ := List.getElem_of_mem hy
  have h0 := g.2 _ (List.getElem_mem (List.length_modify (· + x) l i ▸ hj))
  simp only [H1.addAt, List.getElem_modify]
  split
  · exact add_nonneg h0 hx
  · exact h0

/-- `_force_bin_existence_single` reports "no change" only when it returns the grid it was given -/
theorem forceSingle_noChange (fo : FloatOps) (fuel : Nat) (g : Grid) (v : Rat) (ire : Bool)
    (h : (g.forceSingle fo fuel v ire).2 = .noChange) : (g.forceSingle fo fuel v ire).1 = g := by
  by_cases h0 : g.count = 0
  · simp only [Grid.forceSingle, if_pos h0] at h; cases h
  by_cases h1 : v < g.firstEdge fo
  · by_cases h2 : (g.tmin - g.findIndex fo fuel v).toNat = 0
    · simp only [Grid.forceSingle, if_neg h0, if_pos h1, if_pos h2]
    · simp only [Grid.forceSingle, if_neg h0, if_pos h1, if_neg h2] at h; cases h
  by_cases h2 : g.lastEdge fo ≤ v
  · by_cases h3 : g.findIndex fo fuel v - g.tmin + 1 -
        (if g.edgeAt fo (g.findIndex fo fuel v) = v ∧ ire = true then 1 else 0) - (g.count : Int) = 0
    · simp only [Grid.forceSingle, if_neg h0, if_neg h1, if_pos h2, if_pos h3]
    · simp only [Grid.forceSingle, if_neg h0, if_neg h1, if_pos h2, if_neg h3] at h; cases h
  · simp only [Grid.forceSingle, if_neg h0, if_neg h1, if_neg h2]

theorem forceMany_noChange (fo : FloatOps) (fuel : Nat) (g : Grid) (vs : List Rat) (ire : Bool)
    (h : (g.forceMany fo fuel vs ire).2 = .noChange) : (g.forceMany fo fuel vs ire).1 = g := by
  unfold Grid.forceMany at h ⊢
  split at h
  · rename_i lo hi _ _
    by_cases h1 : (g.forceSingle fo fuel lo g.ire).2 = .noChange
    · simp only [h1, if_true] at h
      show ((g.forceSingle fo fuel lo g.ire).1.forceSingle fo fuel hi ire).1 = g
      rw [forceSingle_noChange _ _ _ _ _ h, forceSingle_noChange _ _ _ _ _ h1]
    · simp only [h1, if_false] at h
  · rfl

theorem adaptGrid_noChange (fo : FloatOps) (fuel : Nat) (g : Grid) (vs : List Rat) (single : Bool)
    (h : (adaptGrid fo fuel g vs single).2 = .noChange) : (adaptGrid fo fuel g vs single).1 = g := by
  unfold adaptGrid at h ⊢
  by_cases hs : single = true
  · simp only [hs, if_true] at h ⊢
    split
    · rename_i v
      exact forceSingle_noChange _ _ _ _ _ h
    · rfl
  · simp only [hs] at h ⊢
    exact forceMany_noChange _ _ _ _ _ h

theorem wf_adapt (fo : FloatOps) (fuel : Nat) (h : H1) (vs : List Rat) (single : Bool) (w : WF fo h) :
    WF fo (h.adapt fo fuel vs single) := by
  rcases adapt_cases fo fuel h vs single with e | ⟨g, hb, e⟩
  · rw [e]; exact w
  · rw [e]
    have hn : (adaptGrid fo fuel g vs single).2 = .noChange →
        (h.bins fo).length = (adaptGrid fo fuel g vs single).1.count := fun hh => by
      rw [adaptGrid_noChange _ _ _ _ _ hh, H1.bins, hb]; exact Grid.bins_length fo g
    exact .of_good (Grid.bins_length fo _) (w.freq.reshape1 _ hn) (w.err2.reshape1 _ hn)

/-- a single `fill` with a non-negative weight, on any binning (adaptive growth included) -/
theorem wf_fill (fo : FloatOps) (fuel : Nat) (h : H1) (v : Option Rat) (x : Rat) (wk : NumKind) (hx : 0 ≤ x)
    (w : WF fo h) : WF fo (h.fill fo fuel v x wk).1 := by
  cases v with
  | none => exact w
  | some v =>
    have w2 := wf_adapt fo fuel _ [v] true (wf_coerce fo h wk.dtype w)
    by_cases hb : ∃ i, ((h.coerce wk.dtype).adapt fo fuel [v] true).findBin fo v = .bin i
    · obtain ⟨i, hi⟩ := hb
      rw [fill_bin fo fuel h v x wk i hi]
      exact .of_binning rfl (w2.freq.addAt i hx) (w2.err2.addAt i (mul_self_nonneg x))
    · obtain ⟨u, o, e, _⟩ := fill_miss fo fuel h v x wk fun i hi => hb ⟨i, hi⟩
      rw [e]; exact .of_binning rfl w2.freq w2.err2

theorem maskPts_nonneg (vs : List (Option Rat)) (ws : Option (List Rat))
    (hw : ∀ l, ws = some l → ∀ x ∈ l, 0 ≤ x) : ∀ p ∈ maskPts vs ws, 0 ≤ p.2 := by
  fun_induction maskPts vs ws with
  | case1 => nofun
  | case2 vs ih => exact ih hw
  | case3 v vs ih => exact List.forall_mem_cons.mpr ⟨zero_le_one, ih hw⟩
  | case4 vs w ws ih => exact ih fun l hl x hx => hw _ rfl x (by cases hl; exact List.mem_cons_of_mem _ hx)
  | case5 v vs w ws ih =>
    exact List.forall_mem_cons.mpr ⟨hw _ rfl w (List.mem_cons_self ..),
      ih fun l hl x hx => hw _ rfl x (by cases hl; exact List.mem_cons_of_mem _ hx)⟩
  | case6 => nofun

/-- `fill_n` with non-negative weights, on any binning (adaptive growth included) -/
theorem wf_fillN (fo : FloatOps) (fuel : Nat) (h r : H1) (vs : List (Option Rat)) (ws : Option (List Rat))
    (wk : DType) (hw : ∀ l, ws = some l → ∀ x ∈ l, 0 ≤ x) (w : WF fo h)
    (hr : h.fillN fo fuel vs ws wk = .ok r) : WF fo r := by
  rw [fillN_ok fo fuel h r vs ws wk hr]
  refine wf_fillData _ _ ?_ _ (maskPts_nonneg vs ws hw)
  split
  · exact wf_coerce fo _ _ (wf_adapt _ _ _ _ _ w)
  · exact wf_adapt _ _ _ _ _ w

/-- an instruction "no change" of `FixedWidthBinning._adapt` means that the operand already has the common size -/
theorem adaptGrids_counts (g og g' : Grid) (r1 r2 : Grid.Reshape) (h : adaptGrids g og = .ok (g', r1, r2)) :
    (r1 = .noChange → g.count = g'.count) ∧ (r2 = .noChange → og.count = g'.count) := by
  rw [adaptGrids_eq] at h
  obtain ⟨_, h⟩ := guard_ok h
  obtain ⟨_, h⟩ := guard_ok h
  split at h
  · cases h; exact ⟨fun _ => rfl, nofun⟩
  split at h
  · cases h; exact ⟨nofun, fun _ => rfl⟩
  cases h
  -- an operand is left alone when its range `[t, t + c)` is the whole common range `[lo, hi)`
  have key : ∀ (t : Int) (c : Nat) (lo hi : Int), lo ≤ t → t + c ≤ hi → ¬ (lo < t ∨ t + c < hi) →
      c = (hi - lo).toNat := by omega
  constructor
  · intro h1
    split at h1
    · cases h1
    · exact key _ _ _ _ (min_le_left ..) (le_max_left ..) ‹_›
  · intro h2
    split at h2
    · cases h2
    · exact key _ _ _ _ (min_le_right ..) (le_max_right ..) ‹_›

theorem wf_iadd (fo : FloatOps) (h o r : H1) (wh : WF fo h) (wo : WF fo o) (hr : h.iadd fo o = .ok r) : WF fo r := by
  by_cases hs : h.sameBins fo o = true
  · exact C18_wf_iadd fo h o r wh wo hs hr
  · obtain ⟨g, og, g', r1, r2, hb, hob, hag, rb, rf, re⟩ := iadd_adaptive_ok fo h o r (Bool.eq_false_iff.mpr hs) hr
    obtain ⟨c1, c2⟩ := adaptGrids_counts g og g' r1 r2 hag
    have hc : (h.bins fo).length = g.count := by rw [H1.bins, hb]; exact Grid.bins_length fo g
    have oc : (o.bins fo).length = og.count := by rw [H1.bins, hob]; exact Grid.bins_length fo og
    refine .of_good (n := g'.count) (by rw [H1.bins, rb]; exact Grid.bins_length fo g') ?_ ?_
    · rw [rf]
      exact (wh.freq.reshape1 r1 fun e => hc.trans (c1 e)).zipAdd (wo.freq.reshape1 r2 fun e => oc.trans (c2 e))
    · rw [re]
      exact (wh.err2.reshape1 r1 fun e => hc.trans (c1 e)).zipAdd (wo.err2.reshape1 r2 fun e => oc.trans (c2 e))

/-- the bins of an accepted `+=` depend on the two binnings only -/
theorem iadd_binning_congr (fo : FloatOps) {h o r h' o' r' : H1} (hr : h.iadd fo o = .ok r)
    (hr' : h'.iadd fo o' = .ok r') (hb : h'.binning = h.binning) (ob : o'.binning = o.binning) :
    r'.binning = r.binning := by
  have hsame : h'.sameBins fo o' = h.sameBins fo o := by simp [sameBins, H1.bins, hb, ob]
  by_cases hs : h.sameBins fo o = true
  · rw [(iadd_same_ok fo h o r hs hr).2.2.2.2.2.2.2.1,
      (iadd_same_ok fo h' o' r' (hsame.trans hs) hr').2.2.2.2.2.2.2.1, hb]
  · have hs1 : h.sameBins fo o = false := by simpa using hs
    obtain ⟨g, og, g', r1, r2, b1, b2, hag, rb, _, _⟩ := iadd_adaptive_ok fo h o r hs1 hr
    obtain ⟨k, ok', k', s1, s2, d1, d2, hag', rb', _, _⟩ := iadd_adaptive_ok fo h' o' r' (hsame.trans hs1) hr'
    rw [hb, b1] at d1
    rw [ob, b2] at d2
    cases d1; cases d2
    rw [hag] at hag'
    cases hag'
    rw [rb, rb']

theorem wf_isub (fo : FloatOps) (h o r : H1) (wh : WF fo h) (wo : WF fo o) (hr : h.isub fo o = .ok r) : WF fo r := by
  obtain ⟨o0, h0, aS, aO, e1, e2, e3, e4, hlen, hn, rfl⟩ := isub_parts fo h o r hr
  obtain ⟨n1, rfl⟩ := (imul_iff o o0 0 .pyInt).mp e1
  obtain ⟨n2, rfl⟩ := (imul_iff h h0 0 .pyInt).mp e2
  have wS := wf_iadd fo h _ aS wh (wo.scaled 0 _ n1) e3
  have wO := wf_iadd fo _ o aO (wh.scaled 0 _ n2) wo e4
  have hbb : aO.binning = aS.binning := iadd_binning_congr fo e3 e4 rfl rfl
  have hS : (aS.bins fo).length = (h.bins fo).length := by rw [← wS.flen, hlen, wh.flen]
  have hO : (aO.bins fo).length = (h.bins fo).length := (congrArg (fun b => (b.bins fo).length) hbb).trans hS
  refine .of_binning (h := h) rfl ⟨?_, any_lt_false hn⟩ ((hS ▸ wS.err2).zipAdd (hO ▸ wO.err2))
  rw [List.length_zipWith, wS.flen, wO.flen, hS, hO, Nat.min_self]

theorem wf_normalize (fo : FloatOps) (h r : H1) (inplace percent : Bool) (w : WF fo h)
    (hr : h.normalize inplace percent = .ok r) : WF fo r := by
  cases inplace with
  | true => exact C18_wf_idiv fo h r _ w hr
  | false =>
    obtain ⟨d, hd, hm⟩ := (normalize_false_iff h r percent).mp hr
    exact C18_wf_imul fo d r _ _ (C18_wf_idiv fo h d _ w hd) hm

theorem Good.mergeVals {m : Nat} {vals : List Rat} (g : Good m vals) (map : List Nat) (n : Nat) :
    Good n (mergeVals vals map n) := by
  refine ⟨by simp [Physt.H1.mergeVals], fun x hx => ?_⟩
  simp only [Physt.H1.mergeVals, List.mem_map] at hx
  obtain ⟨j, _, rfl⟩ := hx
  refine List.sum_nonneg fun y hy => ?_
  obtain ⟨p, hp, rfl⟩ := List.mem_map.mp hy
  exact g.2 _ (List.of_mem_zip (List.mem_filter.mp hp).1).1

theorem wf_mergeWithMap (fo : FloatOps) (h r : H1) (map : List Nat) (w : WF fo h)
    (hr : h.mergeWithMap fo map = .ok r) : WF fo r := by
  obtain ⟨nb, ire, rfl⟩ := mergeWithMap_inv fo h r map hr
  exact .of_good rfl (w.freq.mergeVals map _) (w.err2.mergeVals map _)

theorem wf_mergeAmount (fo : FloatOps) (h r : H1) (n : Nat) (w : WF fo h) (hr : h.mergeAmount fo n = .ok r) :
    WF fo r :=
  wf_mergeWithMap fo h r _ w (guard_ok (c := n = 0) hr).2

/-- picking the cells `idx`: as many as from any list of the same length -/
theorem Good.pick {β} {n : Nat} {l : List Rat} (g : Good n l) (m : List β) (hm : m.length = n) (idx : List Nat) :
    Good (idx.filterMap (m[·]?)).length (idx.filterMap (l[·]?)) := by
  refine ⟨?_, fun x hx => ?_⟩
  · induction idx with
    | nil => rfl
    | cons i idx ih =>
      by_cases hi : i < n
      · simp only [List.filterMap_cons, List.getElem?_eq_getElem (g.1 ▸ hi), List.getElem?_eq_getElem (hm ▸ hi),
          List.length_cons, ih]
      · simp only [List.filterMap_cons, List.getElem?_eq_none (g.1 ▸ Nat.le_of_not_lt hi),
          List.getElem?_eq_none (hm ▸ Nat.le_of_not_lt hi), ih]
  · obtain ⟨i, _, hi⟩ := List.mem_filterMap.mp hx
    exact g.2 x (List.mem_of_getElem? hi)

/-- `h[mask]` / `h[index_array]` for any index list -/
theorem wf_getIndices (fo : FloatOps) (h : H1) (idx : List Nat) (w : WF fo h) : WF fo (h.getIndices fo idx) :=
  .of_good rfl (w.freq.pick _ rfl idx) (w.err2.pick _ rfl idx)

theorem wf_setDType (fo : FloatOps) (h r : H1) (d : DType) (w : WF fo h) (hr : h.setDType d = .ok r) : WF fo r := by
  by_cases hok : setDTypeOk h d = true
  · rw [H1.setDType, if_pos hok] at hr
    cases hr
    exact wf_of_eq fo (h := h) rfl rfl rfl w
  · rw [H1.setDType, if_neg hok] at hr; cases hr

/-- **One public call keeps a well-formed histogram well-formed**, for every operation of `Op1`,
    every binning kind (static bins of any shape; fixed-width grids, adaptive or not, growth
    included), every `FloatOps` and every fuel. -/
theorem wf_step (fo : FloatOps) (fuel : Nat) (h h' : H1) (op : Op1) (w : WF fo h) (ok : OpOK fo op)
    (hs : step fo fuel h op = .ok h') : WF fo h' := by
  cases op with
  | fill v x wk => cases hs; exact wf_fill fo fuel h v x wk ok w
  | fillN vs ws wk => exact wf_fillN fo fuel h h' vs ws wk ok w hs
  | iadd o => exact wf_iadd fo h o h' w ok hs
  | isub o => exact wf_isub fo h o h' w ok hs
  | imul c k => exact C18_wf_imul fo h h' c k w hs
  | idiv c => exact C18_wf_idiv fo h h' c w hs
  | normalize i p => exact wf_normalize fo h h' i p w hs
  | mergeAmount n => exact wf_mergeAmount fo h h' n w hs
  | mergeMinFreq t => exact wf_mergeWithMap fo h h' _ w hs
  | slice a b => cases hs; exact C18_wf_slice fo h w a b
  | indices idx =>
    simp only [step] at hs
    split at hs
    · cases hs; exact wf_getIndices fo h _ w
    · cases hs
  | mask m =>
    cases (guard_ok hs).2
    exact wf_getIndices fo h _ w
  | setDType d => exact wf_setDType fo h h' d w hs
  | copy b => cases hs; exact wf_copy fo h b w

theorem coerce_self (h : H1) : h.coerce h.dtype = h := by
  rw [H1.coerce, DType.promote_idem]

/-- after a refused call the caller keeps the state with its dtype promoted, at most — or, after `fill_n`, with
    its bins grown -/
theorem kept_cases (fo : FloatOps) (fuel : Nat) (h : H1) (op : Op1) (e : String) :
    (∃ vs ws wk, op = .fillN vs ws wk) ∨ ∃ d, kept fo fuel h op e = h.coerce d := by
  have ite : ∀ (c : Bool) (d : DType), ∃ d', (if c = true then h.coerce d else h) = h.coerce d' := fun c d => by
    cases c
    · exact ⟨_, (coerce_self h).symm⟩
    · exact ⟨d, rfl⟩
  cases op with
  | fillN vs ws wk => exact .inl ⟨vs, ws, wk, rfl⟩
  | iadd o => exact .inr (ite _ _)
  | isub o => exact .inr (ite _ _)
  | imul c k => exact .inr ⟨_, rfl⟩
  | idiv c => exact .inr (ite _ _)
  | normalize i p => exact .inr (ite _ _)
  | _ => exact .inr ⟨_, (coerce_self h).symm⟩

theorem wf_kept (fo : FloatOps) (fuel : Nat) (h : H1) (op : Op1) (e : String) (w : WF fo h) :
    WF fo (kept fo fuel h op e) := by
  rcases kept_cases fo fuel h op e with ⟨vs, ws, wk, rfl⟩ | ⟨d, hd⟩
  · exact wf_adapt fo fuel h (vs.filterMap id) false w
  · rw [hd]; exact wf_coerce fo h d w

theorem wf_next (fo : FloatOps) (fuel : Nat) (h : H1) (op : Op1) (w : WF fo h) (ok : OpOK fo op) :
    WF fo (next fo fuel h op) := by
  unfold next
  cases hs : step fo fuel h op with
  | ok h' => exact wf_step fo fuel h h' op w ok hs
  | error e => exact wf_kept fo fuel h op e w

/-- **C18, the invariant over arbitrary histories.**  Start from a well-formed histogram and apply
    any sequence of public operations whose premises hold (non-negative weights, well-formed
    operands); calls that are refused are caught and the object is used further.  The result is
    well-formed. -/
theorem wf_history' (fo : FloatOps) (fuel : Nat) (h : H1) (ops : List Op1) (w : WF fo h)
    (ok : ∀ op ∈ ops, OpOK fo op) : WF fo (run fo fuel h ops) := by
  induction ops generalizing h with
  | nil => exact w
  | cons op ops ih =>
    exact ih _ (wf_next fo fuel h op w (ok op (List.mem_cons_self ..))) fun q hq => ok q (List.mem_cons_of_mem _ hq)

/-- everything a histogram records, the dtype aside -/
def SameRecord (k h : H1) : Prop :=
  k.freq = h.freq ∧ k.err2 = h.err2 ∧ k.under = h.under ∧ k.over = h.over ∧ k.inner = h.inner ∧
  k.binning = h.binning ∧ k.keep = h.keep ∧ k.stats = h.stats

/-- the dtype is what it was or a lossless promotion of it -/
def DTypeKept (k h : H1) : Prop :=
  (k.dtype = h.dtype ∨ ∃ d, k.dtype = h.dtype.promote d) ∧ DType.canCast h.dtype k.dtype = true

theorem same_coerce (h : H1) (d : DType) : SameRecord (h.coerce d) h ∧ DTypeKept (h.coerce d) h :=
  ⟨⟨rfl, rfl, rfl, rfl, rfl, rfl, rfl, rfl⟩, Or.inr ⟨d, rfl⟩, DType.canCast_promote_left h.dtype d⟩

theorem next_of_error (fo : FloatOps) (fuel : Nat) (h : H1) (op : Op1) (e : String)
    (hs : step fo fuel h op = .error e) : next fo fuel h op = kept fo fuel h op e := by
  simp only [next, hs]

theorem run_cons (fo : FloatOps) (fuel : Nat) (h : H1) (op : Op1) (ops : List Op1) :
    run fo fuel h (op :: ops) = run fo fuel (next fo fuel h op) ops := rfl

/-- in a history, a refused call is skipped: the history goes on from what the caller kept -/
theorem run_refused (fo : FloatOps) (fuel : Nat) (h : H1) (op : Op1) (ops : List Op1) (e : String)
    (hs : step fo fuel h op = .error e) :
    run fo fuel h (op :: ops) = run fo fuel (kept fo fuel h op e) ops := by
  rw [run_cons, next_of_error fo fuel h op e hs]

def wfB (fo : FloatOps) (h : H1) : Bool :=
  decide (h.freq.length = (h.bins fo).length) && decide (h.err2.length = (h.bins fo).length) &&
  h.err2.all (fun x => decide (0 ≤ x)) && h.freq.all (fun x => decide (0 ≤ x))

theorem wf_of_wfB (fo : FloatOps) (h : H1) (c : wfB fo h = true) : WF fo h := by
  simp only [wfB, Bool.and_eq_true, decide_eq_true_eq, List.all_eq_true] at c
  exact ⟨c.1.1.1, c.1.1.2, c.1.2, c.2⟩

def opOKB (fo : FloatOps) : Op1 → Bool
  | .fill _ w _ => decide (0 ≤ w)
  | .fillN _ ws _ => match ws with
    | none => true
    | some l => l.all fun x => decide (0 ≤ x)
  | .iadd o => wfB fo o
  | .isub o => wfB fo o
  | _ => true

theorem opOK_of_opOKB (fo : FloatOps) (op : Op1) (c : opOKB fo op = true) : OpOK fo op := by
  cases op with
  | fill v w k => simpa [opOKB, OpOK] using c
  | fillN vs ws k =>
    intro l hl x hx
    subst hl
    exact of_decide_eq_true (List.all_eq_true.mp c x hx)
  | iadd o => exact wf_of_wfB fo o c
  | isub o => exact wf_of_wfB fo o c
  | _ => trivial

theorem allOK_of_check (fo : FloatOps) (ops : List Op1) (c : ops.all (opOKB fo) = true) : ∀ op ∈ ops, OpOK fo op :=
  fun op hop => opOK_of_opOKB fo op (List.all_eq_true.mp c op hop)

/-! ## Non-vacuity: concrete histories, evaluated by the kernel -/

namespace Demo

def refusal (r : Except String H1) : Option String :=
  match r with
  | .ok _ => none
  | .error e => some e

def b4 : Binning := .static [(0, 1), (1, 2), (2, 3), (3, 4)] true
def start : H1 := H1.empty FloatOps.exact b4 true none
def big : H1 := { binning := b4, freq := [5, 5, 5, 5], err2 := [5, 5, 5, 5] }

/-- fills, a refused `*= -1`, a refused `-=` of a larger histogram, a slice, a merge, a refused
    `/= 0`, an in-place `normalize` -/
def ops : List Op1 :=
  [ .fill (some (1/2)) 2 .pyInt,
    .fillN [some (3/2), none, some (7/2), some 5, some (5/2)] (some [1, 9, 3, 1, 0]) .f64,
    .imul (-1) .pyInt,
    .isub big,
    .slice (some 1) none,
    .mergeAmount 2,
    .fill (some 3) (1/2) .pyFloat,
    .idiv 0,
    .normalize true false ]

/-- the premises of `wf_history'` hold for this history … -/
theorem ops_ok : ∀ op ∈ ops, OpOK FloatOps.exact op :=
  allOK_of_check _ _ (by decide +kernel)

/-- … so the result is well-formed … -/
theorem result_wf : WF FloatOps.exact (run FloatOps.exact 8 start ops) :=
  wf_history' _ _ _ _ (wf_empty _ _ _ _) ops_ok

/-- … and this is what it is -/
example : (run FloatOps.exact 8 start ops).freq = [2/9, 7/9] ∧
    (run FloatOps.exact 8 start ops).err2 = [4/81, 37/81] ∧
    (run FloatOps.exact 8 start ops).bins FloatOps.exact = [(1, 3), (3, 4)] ∧
    (run FloatOps.exact 8 start ops).under = some (4/9) ∧
    (run FloatOps.exact 8 start ops).over = some (2/9) := by decide +kernel

/-- the state after the two fills -/
example : (run FloatOps.exact 8 start (ops.take 2)).freq = [2, 1, 0, 3] ∧
    (run FloatOps.exact 8 start (ops.take 2)).over = some 1 := by decide +kernel

/-- `*= -1` really is refused there … -/
example : refusal (step FloatOps.exact 8 (run FloatOps.exact 8 start (ops.take 2)) (.imul (-1) .pyInt))
    = some "negative frequencies" := by decide +kernel

/-- … and so is `-=` of the larger histogram … -/
example : refusal (step FloatOps.exact 8 (run FloatOps.exact 8 start (ops.take 3)) (.isub big))
    = some "negative frequencies" := by decide +kernel

/-- … and `/= 0` -/
example : refusal (step FloatOps.exact 8 (run FloatOps.exact 8 start (ops.take 7)) (.idiv 0))
    = some "division by zero" := by decide +kernel

/-- the two refused calls left the contents where they were -/
example : (run FloatOps.exact 8 start (ops.take 4)).freq = (run FloatOps.exact 8 start (ops.take 2)).freq ∧
    (run FloatOps.exact 8 start (ops.take 4)).err2 = (run FloatOps.exact 8 start (ops.take 2)).err2 ∧
    (run FloatOps.exact 8 start (ops.take 4)).over = (run FloatOps.exact 8 start (ops.take 2)).over := by
  decide +kernel

/-! An adaptive fixed-width histogram: growth by `fill`, by `+=` of a histogram on another part of
    the grid, and by a *refused* `fill_n`. -/

def aStart : H1 := H1.empty FloatOps.exact (.fixed { w := 1, adaptive := true }) true none
def aOther : H1 :=
  { binning := .fixed { w := 1, tmin := -2, count := 2, adaptive := true }, freq := [1, 2], err2 := [1, 2] }

def aOps : List Op1 :=
  [ .fill (some (5/2)) 1 .pyInt,
    .fill (some (9/2)) 2 .pyInt,
    .iadd aOther,
    .fillN [some 7, some (-4)] (some [1]) .i64,   -- weights of the wrong shape: refused
    .imul (-2) .pyInt,                            -- refused
    .isub aOther,                                 -- accepted
    .isub aOther ]                                -- refused: nothing left to subtract

theorem aOps_ok : ∀ op ∈ aOps, OpOK FloatOps.exact op :=
  allOK_of_check _ _ (by decide +kernel)

theorem aResult_wf : WF FloatOps.exact (run FloatOps.exact 8 aStart aOps) :=
  wf_history' _ _ _ _ (wf_empty _ _ _ _) aOps_ok

example : (run FloatOps.exact 8 aStart (aOps.take 3)).freq = [1, 2, 0, 0, 1, 0, 2] ∧
    (run FloatOps.exact 8 aStart (aOps.take 3)).binning
      = .fixed { w := 1, tmin := -2, count := 7, adaptive := true } := by decide +kernel

example : refusal (step FloatOps.exact 8 (run FloatOps.exact 8 aStart (aOps.take 3))
    (.fillN [some 7, some (-4)] (some [1]) .i64)) = some "weights shape" := by decide +kernel

/-- **A refused `fill_n` on an adaptive histogram has already grown the bins** (physt's behaviour, which the
    driver reproduces): the arrays the caller holds are *not* the arrays it had
    (zero cells were added on both sides), although every content still sits on its interval.
    This is why `C18_refused` excludes that one case. -/
example : (run FloatOps.exact 8 aStart (aOps.take 4)).freq = [0, 0, 1, 2, 0, 0, 1, 0, 2, 0, 0, 0] ∧
    (run FloatOps.exact 8 aStart (aOps.take 3)).freq = [1, 2, 0, 0, 1, 0, 2] ∧
    (run FloatOps.exact 8 aStart (aOps.take 4)).binning
      = .fixed { w := 1, tmin := -4, count := 12, adaptive := true } := by decide +kernel

example : refusal (step FloatOps.exact 8 (run FloatOps.exact 8 aStart (aOps.take 4)) (.imul (-2) .pyInt))
    = some "negative frequencies" := by decide +kernel

example : refusal (step FloatOps.exact 8 (run FloatOps.exact 8 aStart (aOps.take 5)) (.isub aOther)) = none ∧
    refusal (step FloatOps.exact 8 (run FloatOps.exact 8 aStart (aOps.take 6)) (.isub aOther))
      = some "negative frequencies" := by decide +kernel

example : (run FloatOps.exact 8 aStart aOps).freq = [0, 0, 0, 0, 0, 0, 1, 0, 2, 0, 0, 0] ∧
    (run FloatOps.exact 8 aStart aOps).err2 = [0, 0, 2, 4, 0, 0, 1, 0, 4, 0, 0, 0] := by decide +kernel

/-! ### What is *not* an invariant: the missed counters

`WF` speaks about bin contents and squared errors.  The guards of `-=`, `*=` and `/=` look at the
bin contents only, so the underflow and overflow counters can be driven below zero by *accepted* calls
with well-formed operands and free arithmetics off. -/

def mH : H1 := { binning := b4, freq := [1, 1, 1, 1], err2 := [1, 1, 1, 1] }
def mO : H1 := { binning := b4, freq := [0, 0, 0, 0], err2 := [0, 0, 0, 0], under := some 5 }

/-- `h -= o` is accepted when `o` has more underflow than `h`: the underflow becomes `-5` -/
example : ((step FloatOps.exact 8 mH (.isub mO)).toOption.map (·.under)) = some (some (-5)) ∧
    wfB FloatOps.exact mH = true ∧ wfB FloatOps.exact mO = true := by decide +kernel

/-- `h *= -1` and `h /= -1` are accepted when every bin is empty: the underflow becomes `-5` -/
example : ((step FloatOps.exact 8 mO (.imul (-1) .pyInt)).toOption.map (·.under)) = some (some (-5)) ∧
    ((step FloatOps.exact 8 mO (.idiv (-1))).toOption.map (·.under)) = some (some (-5)) := by decide +kernel

/-- `set_dtype(int)` validates contents and squared errors only; an accepted call truncates a
    fractional missed counter (`1/2 ↦ 0`).  (An accepted call, so no violation of C18.) -/
example : ((step FloatOps.exact 8 { mH with under := some (1/2), dtype := .f64 } (.setDType .i64)).toOption.map
    (·.under)) = some (some 0) := by decide +kernel

end Demo

end Physt
