import Physt.Proofs.FindBin
/-! Lists as 1-D arrays: elementwise addition (`numpy +`), adding at one index as adding an indicator
    list, `mapM` into `Option`, sums and maps under a factor, `np.min` / `np.max` as core `min?` / `max?`;
    and the small algebra of the optional numbers of the model (`nadd`, `nscale`, `Stats.minO` / `maxO`,
    `Stats.add`) that the commutativity and scaling theorems use. -/
namespace Physt
open H1

theorem zipAdd_length (a b : List Rat) : (zipAdd a b).length = min a.length b.length := by
  simp [zipAdd]

theorem zipAdd_getElem? (a b : List Rat) (i : Nat) :
    (zipAdd a b)[i]? = (a[i]?).bind fun x => (b[i]?).map fun y => x + y := by
  unfold zipAdd
  rw [List.getElem?_zipWith]
  cases a[i]? <;> cases b[i]? <;> simp

theorem zipAdd_assoc (a b c : List Rat) : zipAdd (zipAdd a b) c = zipAdd a (zipAdd b c) := by
  apply List.ext_getElem?
  intro i
  simp only [zipAdd_getElem?]
  cases a[i]? <;> cases b[i]? <;> cases c[i]? <;> simp [add_assoc]

theorem zipAdd_comm (a b : List Rat) : zipAdd a b = zipAdd b a := by
  apply List.ext_getElem?
  intro i
  simp only [zipAdd_getElem?]
  cases a[i]? <;> cases b[i]? <;> simp [add_comm]

theorem zipAdd_zeros_left (x : List Rat) : zipAdd (zeros x.length) x = x := by
  apply List.ext_getElem?
  intro i
  simp only [zipAdd_getElem?, zeros]
  by_cases hi : i < x.length
  · simp [hi]
  · simp [hi]

theorem zipAdd_zeros_right (x : List Rat) : zipAdd x (zeros x.length) = x := by
  rw [zipAdd, List.zipWith_comm_of_comm add_comm]
  exact zipAdd_zeros_left x

/-- the contents of the histogram of one point: `w` in bin `i`, nothing elsewhere -/
def indicator (n i : Nat) (w : Rat) : List Rat := (List.range n).map fun j => if j = i then w else 0

theorem addAt_eq_zipAdd (l : List Rat) (i : Nat) (w : Rat) :
    addAt l i w = zipAdd l (indicator l.length i w) := by
  apply List.ext_getElem?
  intro j
  simp only [addAt, zipAdd_getElem?, indicator, List.getElem?_modify, List.getElem?_map]
  by_cases hj : j < l.length
  · simp only [List.getElem?_eq_getElem hj, List.getElem?_range hj, Option.map_some, Option.bind_some]
    by_cases hji : i = j
    · subst hji; simp
    · have : ¬ j = i := fun h => hji h.symm
      simp [hji, this]
  · simp [List.getElem?_eq_none (Nat.le_of_not_lt hj)]

/-- `mapM` into `Option` answers `cs` exactly when every entry answers the entry of `cs` at its
    position -/
theorem mapM_eq_some_iff {α γ} (f : α → Option γ) (l : List α) (cs : List γ) :
    l.mapM f = some cs ↔ List.Forall₂ (fun a c => f a = some c) l cs := by
  induction l generalizing cs with
  | nil => simp [eq_comm]
  | cons a l ih =>
    rw [List.mapM_cons, List.forall₂_cons_left_iff]
    simp only [Option.bind_eq_bind, Option.bind_eq_some_iff, Option.pure_def, Option.some.injEq, ih]
    constructor
    · rintro ⟨c, hc, cs', h, rfl⟩
      exact ⟨c, cs', hc, h, rfl⟩
    · rintro ⟨c, cs', hc, h, rfl⟩
      exact ⟨c, hc, cs', h, rfl⟩

theorem mapM_option_congr {α γ} {f g : α → Option γ} {l : List α} (h : ∀ a ∈ l, f a = g a) :
    l.mapM f = l.mapM g := by
  induction l with
  | nil => rfl
  | cons a l ih =>
    rw [List.mapM_cons, List.mapM_cons, h a (List.mem_cons_self ..),
      ih fun b hb => h b (List.mem_cons_of_mem _ hb)]

theorem map_eq_map_of_getElem? {α β γ : Type} {f : α → γ} {f' : β → γ} {l : List α} {l' : List β}
    (hl : l.length = l'.length) (h : ∀ (i : Nat) (a : α) (b : β), l[i]? = some a → l'[i]? = some b → f a = f' b) :
    l.map f = l'.map f' := by
  refine List.ext_getElem (by simpa using hl) fun i h1 h2 => ?_
  rw [List.getElem_map, List.getElem_map]
  exact h i _ _ (List.getElem?_eq_getElem (by simpa using h1)) (List.getElem?_eq_getElem (by simpa using h2))

theorem filter_range_succ (p : Nat → Bool) (m : Nat) :
    (List.range (m + 1)).filter p = (List.range m).filter p ++ if p m then [m] else [] := by
  rw [List.range_succ, List.filter_append, List.filter_singleton]
  cases p m <;> rfl

theorem filter_range_congr (n : Nat) (k k' : Nat → Bool) (h : ∀ i, i < n → k i = k' i) :
    (List.range n).filter k = (List.range n).filter k' :=
  List.filter_congr fun i hi => h i (List.mem_range.mp hi)

theorem sum_range_single {M} [AddMonoid M] (N j0 : Nat) (f : Nat → M) (hj : j0 < N)
    (h : ∀ j, j < N → j ≠ j0 → f j = 0) : ((List.range N).map f).sum = f j0 := by
  rw [List.sum_map_eq_nsmul_single j0 f fun j hne hm => h j (List.mem_range.mp hm) hne, List.count_range,
    if_pos hj, one_nsmul]

/-- a sublist all of whose members satisfy `p` is counted in full by `countP p` -/
theorem length_le_countP_of_sublist {α} {p : α → Bool} {l s : List α} (h : l.Sublist s)
    (hp : ∀ e ∈ l, p e = true) : l.length ≤ s.countP p :=
  (List.countP_eq_length.2 hp).symm.trans_le h.countP_le

theorem nadd_comm (a b : NRat) : nadd a b = nadd b a := by
  cases a <;> cases b <;> simp [nadd, add_comm]

theorem nadd_zero (a : NRat) : nadd a (some 0) = a := by
  cases a <;> simp [nadd]

theorem nadd_assoc (a b c : NRat) : nadd (nadd a b) c = nadd a (nadd b c) := by
  cases a with
  | none => rfl
  | some x =>
    cases b with
    | none => rfl
    | some y =>
      cases c with
      | none => rfl
      | some z => exact congrArg some (add_assoc x y z)

/-- `np.min` of the model is the library's minimum of a list -/
theorem listMin_eq_min? (l : List Rat) : Grid.listMin l = l.min? := by
  have e : (fun a b : Rat => if b < a then b else a) = Min.min := by
    funext a b
    rw [min_comm, min_def_lt]
  cases l with
  | nil => rfl
  | cons x xs => rw [Grid.listMin, e, List.min?_cons']

theorem listMax_eq_max? (l : List Rat) : Grid.listMax l = l.max? := by
  have e : (fun a b : Rat => if a < b then b else a) = Max.max := by
    funext a b
    rw [max_def_lt]
  cases l with
  | nil => rfl
  | cons x xs => rw [Grid.listMax, e, List.max?_cons']

theorem listMin_eq_some_iff {l : List Rat} {lo : Rat} :
    Grid.listMin l = some lo ↔ lo ∈ l ∧ ∀ v ∈ l, lo ≤ v := by
  rw [listMin_eq_min?, List.min?_eq_some_iff]

theorem listMax_eq_some_iff {l : List Rat} {hi : Rat} :
    Grid.listMax l = some hi ↔ hi ∈ l ∧ ∀ v ∈ l, v ≤ hi := by
  rw [listMax_eq_max?, List.max?_eq_some_iff]

/-- `np.min` / `np.max` of a non-empty array: members, and bounds of every member -/
theorem listMin_listMax_spec (vals : List Rat) (hne : vals ≠ []) :
    ∃ lo hi, Grid.listMin vals = some lo ∧ Grid.listMax vals = some hi ∧ lo ∈ vals ∧ hi ∈ vals ∧
      ∀ v ∈ vals, lo ≤ v ∧ v ≤ hi := by
  cases vals with
  | nil => exact (hne rfl).elim
  | cons x xs =>
    have a := listMin_eq_some_iff.mp (rfl : Grid.listMin (x :: xs) = some _)
    have b := listMax_eq_some_iff.mp (rfl : Grid.listMax (x :: xs) = some _)
    exact ⟨_, _, rfl, rfl, a.1, b.1, fun y hy => ⟨a.2 y hy, b.2 y hy⟩⟩

theorem foldl_min_eq {a m : Int} {l : List Int} (hm : m ∈ a :: l) (hle : ∀ b ∈ a :: l, m ≤ b) : l.foldl min a = m :=
  Option.some.inj (List.min?_cons'.symm.trans (List.min?_eq_some_iff.mpr ⟨hm, hle⟩))

theorem foldl_max_eq {a m : Int} {l : List Int} (hm : m ∈ a :: l) (hle : ∀ b ∈ a :: l, b ≤ m) : l.foldl max a = m :=
  Option.some.inj (List.max?_cons'.symm.trans (List.max?_eq_some_iff.mpr ⟨hm, hle⟩))

theorem minO_comm (a b : Option Rat) : Stats.minO a b = Stats.minO b a := by
  cases a <;> cases b <;> simp only [Stats.minO]
  rename_i x y
  congr 1
  by_cases h1 : y < x <;> by_cases h2 : x < y <;> simp [h1, h2] <;> linarith

theorem maxO_comm (a b : Option Rat) : Stats.maxO a b = Stats.maxO b a := by
  cases a <;> cases b <;> simp only [Stats.maxO]
  rename_i x y
  congr 1
  by_cases h1 : y < x <;> by_cases h2 : x < y <;> simp [h1, h2] <;> linarith

theorem nscale_nscale (a : NRat) (c : Rat) (hc : c ≠ 0) : nscale (nscale a c) (1 / c) = a := by
  cases a with
  | none => rfl
  | some x => simp only [nscale, Option.map_some]; rw [mul_assoc, mul_one_div_cancel hc, mul_one]

theorem map_cancel {l : List Rat} {f g : Rat → Rat} (h : ∀ x, g (f x) = x) : (l.map f).map g = l := by
  rw [List.map_map]
  exact (List.map_congr_left fun x _ => h x).trans (List.map_id l)

theorem sum_map_div (l : List Rat) (c : Rat) : (l.map (· / c)).sum = l.sum / c := by
  induction l with
  | nil => simp
  | cons a t ih => simp only [List.map_cons, List.sum_cons, ih]; ring

theorem sum_map_mul (l : List Rat) (c : Rat) : (l.map (· * c)).sum = l.sum * c := by
  induction l with
  | nil => simp
  | cons a t ih => simp only [List.map_cons, List.sum_cons, ih]; ring

theorem stats_add_comm (a b : Stats) : a.add b = b.add a := by
  unfold Stats.add
  by_cases ha : a.valid = true <;> by_cases hb : b.valid = true <;>
    simp [ha, hb, add_comm, minO_comm a.min b.min, maxO_comm a.max b.max]

theorem sameBins_symm (fo : FloatOps) (a b : H1) : a.sameBins fo b = b.sameBins fo a := by
  unfold sameBins
  by_cases h : a.bins fo = b.bins fo
  · simp [h]
  · have : ¬ b.bins fo = a.bins fo := fun e => h e.symm
    simp [h, this]

end Physt
