import Physt.Proofs.MergeRuns
/-!
# Merging one axis does not change the marginal along another axis; the `min_frequency` maps of
# `merge_bins(axis=None)` are those of the ORIGINAL marginals

Summing over the axis that was just regrouped gives the sum of the old array over that axis, so the
marginal along `k` is not changed by a merge along `j ≠ k`, and the marginal along the merged axis is
the merged marginal.  Hence in `merge_bins(axis=None)`, which merges the axes one after the other and
computes each bin map on the partly merged histogram, every map is the one of the original histogram
(`MarginalUpTo` is the loop invariant), and acceptance is decided on the original
(`HN.mergeAll_ok_iff`).
-/
namespace Physt
open H1

/-- **Summing over the axis that was just regrouped.**  If every old position of `axis` occurs in
    exactly one `src j` (`j < newN`), exactly once, then summing the gathered array over `axis`
    gives the same array as summing the old one over `axis`. -/
theorem Arr.sumAxis_gather_self (a : Arr) (axis newN : Nat) (src : Nat → List Nat)
    (hax : axis < a.shape.length)
    (hsrc : ∀ k, k < a.shape[axis]?.getD 0 → ((List.range newN).flatMap src).count k = 1) :
    (a.gather axis newN src).sumAxis axis = a.sumAxis axis := by
  have hs : ((a.gather axis newN src).sumAxis axis).shape = (a.sumAxis axis).shape := by
    rw [Arr.shape_sumAxis, Arr.shape_sumAxis, Arr.shape_gather, removeAt_setAt]
  apply Arr.ext_get _ _ (Arr.wellShaped_sumAxis _ _) (Arr.wellShaped_sumAxis _ _) hs
  intro idx _
  have hN : (a.gather axis newN src).shape[axis]?.getD 0 = newN := by simp [hax]
  rw [Arr.get_sumAxis_insAt _ axis idx (by simpa using hax), Arr.get_sumAxis_insAt a axis idx hax, hN,
    Arr.sum_get_gather_insAt a axis newN src idx hax]
  exact sum_map_of_count_one _ _ _ (fun k hk => Arr.get_insAt_of_ge a idx axis k hax hk) hsrc

/-- **Merging an axis and then summing over it = summing over it** (the map has an entry for every
    old bin of the axis, each below `newN`). -/
theorem Arr.sumAxis_mergeAxis_self (a : Arr) (axis : Nat) (map : List Nat) (newN : Nat)
    (hax : axis < a.shape.length) (hl : map.length = a.shape[axis]?.getD 0) (hm : ∀ m ∈ map, m < newN) :
    (a.mergeAxis axis map newN).sumAxis axis = a.sumAxis axis :=
  Arr.sumAxis_gather_self a axis newN _ hax
    (mergeAxis_src_count map newN _ hl.ge fun _ _ _ h => hm _ (List.mem_of_getElem? h))

/-- summing a lower axis `j` after a decreasing list of higher axes = summing `j` first and then
    the higher axes, each one place further left -/
theorem Arr.sumAxes_sumAxis_low (a : Arr) (hi : List Nat) (j : Nat) (hd : hi.Pairwise (· > ·))
    (hgt : ∀ x ∈ hi, j < x) (hlt : ∀ x ∈ hi, x < a.shape.length) :
    (a.sumAxes hi).sumAxis j = (a.sumAxis j).sumAxes (hi.map (· - 1)) := by
  induction hi generalizing a with
  | nil => rfl
  | cons x xs ih =>
    have hx : j < x := hgt x (List.mem_cons_self ..)
    have hxl : x < a.shape.length := hlt x (List.mem_cons_self ..)
    have hp := List.pairwise_cons.mp hd
    rw [Arr.sumAxes_cons, List.map_cons, Arr.sumAxes_cons,
      ih (a.sumAxis x) hp.2 (fun y hy => hgt y (List.mem_cons_of_mem _ hy))
        (fun y hy => by
          have := hp.1 y hy
          rw [Arr.shape_length_sumAxis a x hxl]; omega),
      Arr.sumAxis_comm' a j x hx hxl]

theorem pairwise_gt_split (l : List Nat) (j : Nat) (hd : l.Pairwise (· > ·)) (hj : j ∈ l) :
    ∃ hi lo, l = hi ++ j :: lo ∧ (∀ x ∈ hi, j < x) ∧ hi.Pairwise (· > ·) := by
  obtain ⟨hi, lo, rfl⟩ := List.append_of_mem hj
  have hp := List.pairwise_append.mp hd
  exact ⟨hi, lo, rfl, fun x hx => hp.2.2 x hx j (List.mem_cons_self ..), hp.1⟩

/-- **Two arrays with the same number of axes and the same sum over axis `j` have the same sum over
    any decreasing list of (valid) axes that contains `j`.** -/
theorem Arr.sumAxes_congr_of_sumAxis (a b : Arr) (l : List Nat) (j : Nat) (hd : l.Pairwise (· > ·))
    (hj : j ∈ l) (hl : ∀ x ∈ l, x < a.shape.length) (hlen : a.shape.length = b.shape.length)
    (h : a.sumAxis j = b.sumAxis j) : a.sumAxes l = b.sumAxes l := by
  obtain ⟨hi, lo, rfl, hgt, hdh⟩ := pairwise_gt_split l j hd hj
  have hlh : ∀ x ∈ hi, x < a.shape.length := fun x hx => hl x (List.mem_append_left _ hx)
  rw [Arr.sumAxes_append, Arr.sumAxes_append, Arr.sumAxes_cons, Arr.sumAxes_cons,
    Arr.sumAxes_sumAxis_low a hi j hdh hgt hlh,
    Arr.sumAxes_sumAxis_low b hi j hdh hgt (fun x hx => by rw [← hlen]; exact hlh x hx), h]

/-- **Merging another axis does not change the marginal.**  For an array with `n` axes, `j ≠ k`,
    `j < n`, and a bin map with one entry per old bin of axis `j`, each below `newN`: the marginal
    along `k` after the merge along `j` is the marginal along `k` before. -/
theorem Arr.marginal_mergeAxis' (a : Arr) (n j k : Nat) (map : List Nat) (newN : Nat)
    (hn : a.shape.length = n) (hj : j < n) (hjk : j ≠ k)
    (hl : map.length = a.shape[j]?.getD 0) (hm : ∀ m ∈ map, m < newN) :
    (a.mergeAxis j map newN).marginal n k = a.marginal n k := by
  have hshape : (a.mergeAxis j map newN).shape.length = n := by
    rw [Arr.shape_mergeAxis]; simpa [Arr.setAt] using hn
  refine Arr.sumAxes_congr_of_sumAxis _ _ _ j (dropList_desc _ _) ?_ (fun x hx => ?_) (hshape.trans hn.symm)
    (Arr.sumAxis_mergeAxis_self a j map newN (by omega) hl hm)
  · rw [List.mem_reverse, List.mem_filter]
    exact ⟨List.mem_range.mpr hj, by simpa using hjk⟩
  · rw [hshape]; exact dropList_lt _ _ x hx

/-! ### the marginal along the merged axis itself -/

/-- position of axis `j` after axis `i ≠ j` has been removed -/
def posAfter (i j : Nat) : Nat := if i < j then j - 1 else j

theorem posAfter_lt {i j n : Nat} (hij : i ≠ j) (hi : i < n) (hj : j < n) : posAfter i j < n - 1 := by
  unfold posAfter
  split
  · exact Nat.sub_lt_sub_right (by omega) hj
  · exact Nat.lt_of_lt_of_le (by omega) (Nat.le_sub_one_of_lt hi)

theorem removeAt_setAt_ne {α} (l : List α) (i j : Nat) (x : α) (hij : i ≠ j) :
    Arr.removeAt (Arr.setAt l j x) i = Arr.setAt (Arr.removeAt l i) (posAfter i j) x := by
  unfold posAfter Arr.removeAt Arr.setAt
  by_cases h : i < j
  · simp only [h, if_true]; exact List.eraseIdx_set_lt h
  · simp only [h, if_false]; exact List.eraseIdx_set_gt (by omega)

theorem insAt_getElem?_ne (idx : List Nat) (i k j : Nat) (hi : i ≤ idx.length) (hij : i ≠ j) :
    (insAt idx i k)[j]? = idx[posAfter i j]? := by
  rw [insAt_eq_insertIdx idx i k hi, List.getElem?_insertIdx, posAfter]
  by_cases h : i < j
  · rw [if_neg (by omega), if_neg (by omega), if_pos h]
  · rw [if_pos (by omega), if_neg h]

/-- an index tuple is what is left when position `i` is removed, with its `i`-th entry put back:
    so a change at `j ≠ i` can be made before or after `k` is inserted at `i` -/
theorem setAt_insAt_ne (idx : List Nat) (i k j m : Nat) (hi : i ≤ idx.length) (hij : i ≠ j) :
    Arr.setAt (insAt idx i k) j m = insAt (Arr.setAt idx (posAfter i j) m) i k := by
  rw [insAt_eq_insertIdx idx i k hi, insAt_eq_insertIdx _ i k (by simpa [Arr.setAt] using hi)]
  have hlen : i < (Arr.setAt (idx.insertIdx i k) j m).length := by
    simp only [Arr.setAt, List.length_set, List.length_insertIdx_of_le_length hi]; omega
  have h1 : Arr.removeAt (Arr.setAt (idx.insertIdx i k) j m) i = Arr.setAt idx (posAfter i j) m := by
    rw [removeAt_setAt_ne _ i j m hij, Arr.removeAt, List.eraseIdx_insertIdx_self]
  have h2 : (Arr.setAt (idx.insertIdx i k) j m)[i] = k := by
    simp only [Arr.setAt, List.getElem_set_ne (Ne.symm hij), List.getElem_insertIdx_self]
  refine (List.insertIdx_eraseIdx_getElem hlen).symm.trans ?_
  rw [h2, ← h1, Arr.removeAt]

/-- **Summing over axis `i` commutes with regrouping another axis `j`** (afterwards `j` sits at
    `posAfter i j`). -/
theorem Arr.sumAxis_gather_ne (a : Arr) (i j N : Nat) (src : Nat → List Nat) (hij : i ≠ j)
    (hi : i < a.shape.length) :
    (a.gather j N src).sumAxis i = (a.sumAxis i).gather (posAfter i j) N src := by
  have hs : ((a.gather j N src).sumAxis i).shape = ((a.sumAxis i).gather (posAfter i j) N src).shape := by
    rw [Arr.shape_sumAxis, Arr.shape_gather, Arr.shape_gather, Arr.shape_sumAxis]
    exact removeAt_setAt_ne _ _ _ _ hij
  apply Arr.ext_get _ _ (Arr.wellShaped_sumAxis _ _) (Arr.wellShaped_gather _ _ _ _) hs
  intro idx hv
  rw [hs, Arr.shape_gather, Arr.shape_sumAxis] at hv
  have hlen : i ≤ idx.length := by
    have := validIdx_length _ _ hv
    rw [Arr.setAt_eq, List.length_set, length_removeAt _ _ hi] at this
    omega
  have hp : posAfter i j < idx.length → idx[posAfter i j]?.getD 0 < N := validIdx_setAt_lt _ idx _ N hv
  have hNi : (a.gather j N src).shape[i]?.getD 0 = a.shape[i]?.getD 0 := by
    rw [Arr.shape_gather, Arr.setAt_eq, List.getElem?_set_ne hij.symm]
  -- both sides are the double sum, over `k` along `i` and `m ∈ src _` along `j`, of the entries of `a`
  rw [Arr.get_sumAxis_insAt _ i idx (by simpa using hi), hNi, Arr.get_gather_of_lt _ _ N src idx hp]
  have hk : ∀ k, j < (insAt idx i k).length → (insAt idx i k)[j]?.getD 0 < N := fun k hj => by
    rw [insAt_getElem?_ne idx i k j hlen hij]
    rw [length_insAt] at hj
    exact hp (posAfter_lt hij (Nat.lt_succ_of_le hlen) hj)
  simp only [fun m => Arr.get_sumAxis_insAt a i (Arr.setAt idx (posAfter i j) m) hi,
    fun k => Arr.get_gather_of_lt a j N src (insAt idx i k) (hk k),
    insAt_getElem?_ne idx i _ j hlen hij, setAt_insAt_ne idx i _ j _ hlen hij]
  exact sum_map_comm _ _ _

/-- … and with any decreasing list of other axes: the regrouped axis ends up at some position `p`
    of the result -/
theorem Arr.sumAxes_gather_ne (a : Arr) (l : List Nat) (j N : Nat) (src : Nat → List Nat)
    (hd : l.Pairwise (· > ·)) (hjl : j ∉ l) (hl : ∀ x ∈ l, x < a.shape.length) (hj : j < a.shape.length) :
    ∃ p, p < (a.sumAxes l).shape.length ∧ (a.gather j N src).sumAxes l = (a.sumAxes l).gather p N src := by
  induction l generalizing a j with
  | nil => exact ⟨j, hj, rfl⟩
  | cons x xs ih =>
    have hx : x < a.shape.length := hl x (List.mem_cons_self ..)
    have hp := List.pairwise_cons.mp hd
    have hxj : x ≠ j := fun e => hjl (e ▸ List.mem_cons_self ..)
    rw [Arr.sumAxes_cons, Arr.sumAxes_cons, Arr.sumAxis_gather_ne a x j N src hxj hx]
    have hlen := Arr.shape_length_sumAxis a x hx
    apply ih (a.sumAxis x) (posAfter x j) hp.2
    · intro hmem
      have h1 := hp.1 _ hmem
      unfold posAfter at hmem h1
      by_cases hc : x < j
      · simp only [hc, if_true] at h1; omega
      · simp only [hc, if_false] at hmem; exact hjl (List.mem_cons_of_mem _ hmem)
    · intro y hy
      have := hp.1 y hy
      rw [hlen]; omega
    · rw [hlen]; exact posAfter_lt hxj hx hj

/-- **The marginal along the regrouped axis is the regrouped marginal.** -/
theorem Arr.marginal_gather_self (a : Arr) (n k N : Nat) (src : Nat → List Nat)
    (hn : a.shape.length = n) (hk : k < n) :
    (a.gather k N src).marginal n k = (a.marginal n k).gather 0 N src := by
  rw [Arr.marginal_eq_dropList, Arr.marginal_eq_dropList]
  obtain ⟨p, hp, e⟩ := Arr.sumAxes_gather_ne a (dropList n fun i => i == k) k N src (dropList_desc _ _)
    (by
      unfold dropList
      rw [List.mem_reverse, List.mem_filter]
      simp)
    (fun x hx => by rw [hn]; exact dropList_lt _ _ x hx) (by omega)
  rw [← Arr.marginal_eq_dropList, Arr.marginal_shape a n k hn hk] at hp
  have : p = 0 := by simpa using hp
  subst this
  exact e

theorem Arr.marginal_mergeAxis_self (a : Arr) (n k : Nat) (map : List Nat) (newN : Nat)
    (hn : a.shape.length = n) (hk : k < n) :
    (a.mergeAxis k map newN).marginal n k = (a.marginal n k).mergeAxis 0 map newN :=
  Arr.marginal_gather_self a n k newN _ hn hk

/-! ### 1-D arrays -/

theorem allIdx_singleton (N : Nat) : allIdx [N] = (List.range N).map fun i => [i] := by
  simp only [allIdx, List.map_cons, List.map_nil]
  induction (List.range N) with
  | nil => rfl
  | cons x xs ih => simp [List.flatMap_cons, ih]

/-- the entries of `d` with key `j`, read off position by position -/
theorem zip_filter_eq_range (d : List Rat) (m : List Nat) (hl : m.length = d.length) (j : Nat) :
    ((d.zip m).filter (·.2 == j)).map (·.1)
      = ((List.range m.length).filter fun k => m[k]? == some j).map fun k => d[k]?.getD 0 := by
  have hz : d.zip m = (List.range m.length).map fun k => (d[k]?.getD 0, m[k]?.getD 0) := by
    apply List.ext_getElem (by simp [hl])
    intro k h1 h2
    rw [List.length_zip] at h1
    rw [List.getElem_zip, List.getElem_map, List.getElem_range, List.getElem?_eq_getElem (by omega),
      List.getElem?_eq_getElem (by omega)]
    rfl
  rw [hz, List.filter_map, List.map_map]
  congr 1
  apply List.filter_congr
  intro k hk
  have hk' : k < m.length := List.mem_range.mp hk
  simp only [Function.comp, List.getElem?_eq_getElem hk', Option.getD_some, Option.some_beq_some]

/-! ## `merge_bins(axis=None)`: the bin map of every axis is the one of the ORIGINAL histogram -/

/-- the array after the axes below `i` have been merged, axis `k` with the map `maps k` -/
def Arr.mergeAxesUpTo (a : Arr) (maps : Nat → List Nat) (i : Nat) : Arr :=
  (List.range i).foldl (fun b k => b.mergeAxis k (maps k) (newCount (maps k))) a

theorem Arr.mergeAxesUpTo_succ (a : Arr) (maps : Nat → List Nat) (i : Nat) :
    a.mergeAxesUpTo maps (i + 1) = (a.mergeAxesUpTo maps i).mergeAxis i (maps i) (newCount (maps i)) := by
  unfold Arr.mergeAxesUpTo
  rw [List.range_succ, List.foldl_append]
  rfl

theorem HN.axisMap_minfreq (h : HN) (k : Nat) (t : Rat) :
    h.axisMap k none (some t) = minFreqMap t (h.freq.marginal h.axes.length k).data := rfl

/-- the state of `merge_bins(axis=None)` after the axes below `i` have been merged, with every bin
    map computed on the ORIGINAL histogram `h` (`h.axisMap k`: the `amount` map of the original axis
    length, or `minFreqMap` of the original marginal along `k`) -/
structure MarginalUpTo (fo : FloatOps) (amount : Option Nat) (thr : Option Rat) (h : HN) (i : Nat) (g : HN) : Prop where
  base : MergedUpTo fo amount h i g
  /-- the marginals along the axes not yet merged are still those of the original -/
  marg : ∀ k, i ≤ k → k < h.axes.length →
    g.freq.marginal h.axes.length k = h.freq.marginal h.axes.length k
  /-- the marginals along the axes already merged are the merged original marginals -/
  margDone : ∀ k, k < i → g.freq.marginal h.axes.length k
    = (h.freq.marginal h.axes.length k).mergeAxis 0 (h.axisMap k amount thr) (newCount (h.axisMap k amount thr))
  /-- the axes already merged were merged with the original's maps -/
  maps : ∀ k bn, k < i → h.axes[k]? = some bn →
    0 < (bn.bins fo).length ∧ MapRunsMeet (bn.bins fo) (h.axisMap k amount thr) ∧
    g.axes[k]? = some (.static (mergedByMap (bn.bins fo) (h.axisMap k amount thr)) bn.ire)
  freq : g.freq = h.freq.mergeAxesUpTo (fun k => h.axisMap k amount thr) i
  err2 : g.err2 = h.err2.mergeAxesUpTo (fun k => h.axisMap k amount thr) i

theorem MarginalUpTo.start (fo : FloatOps) (amount : Option Nat) (thr : Option Rat) (h : HN)
    (hfs : h.freq.shape = h.shape fo) (hes : h.err2.shape = h.shape fo)
    (hfw : h.freq.WellShaped) (hew : h.err2.WellShaped) : MarginalUpTo fo amount thr h 0 h :=
  ⟨MergedUpTo.start fo amount h hfs hes hfw hew, fun _ _ _ => rfl, fun k hk => absurd hk (Nat.not_lt_zero k),
    fun k _ hk => absurd hk (Nat.not_lt_zero k), rfl, rfl⟩

/-- **the map the loop computes on axis `i` (on the partly merged histogram) is the map of the
    original histogram** -/
theorem MarginalUpTo.axisMap_eq {fo : FloatOps} {amount : Option Nat} {thr : Option Rat} {h g : HN} {i : Nat}
    (inv : MarginalUpTo fo amount thr h i g) (hfs : h.freq.shape = h.shape fo) (hi : i < h.axes.length) :
    g.axisMap i amount thr = h.axisMap i amount thr := by
  unfold HN.axisMap
  cases amount with
  | some a =>
    simp only
    rw [inv.base.fshape, hfs]
    simp only [HN.shape, List.getElem?_map, inv.base.rest i (Nat.le_refl _)]
  | none =>
    cases thr with
    | none => rfl
    | some t =>
      simp only
      have := inv.marg i (Nat.le_refl _) hi
      unfold Arr.marginal at this
      rw [inv.base.len, this]

theorem MarginalUpTo.step (fo : FloatOps) (amount : Option Nat) (thr : Option Rat) (h g g' : HN) (i : Nat)
    (hfs : h.freq.shape = h.shape fo) (hi : i < h.axes.length)
    (inv : MarginalUpTo fo amount thr h i g) (hr : g.mergeAxis fo i amount thr = .ok g') :
    MarginalUpTo fo amount thr h (i + 1) g' := by
  have base' := MergedUpTo.step fo amount thr h g g' i hi inv.base hr
  obtain ⟨hm, bn, hbn, hpos, hmeet, rfl⟩ :=
    (HN.mergeAxis_ok_iff fo g g' i amount thr inv.base.fshape inv.base.fws).mp hr
  obtain ⟨⟨hl, hc, _⟩, _⟩ := HN.axisMap_stepChain fo g i bn amount thr hm hbn inv.base.fshape inv.base.fws
  rw [inv.axisMap_eq hfs hi] at hmeet hc hl base' ⊢
  have hig : i < g.axes.length := by rw [inv.base.len]; exact hi
  have hflen : g.freq.shape.length = h.axes.length := by
    rw [inv.base.fshape, ← inv.base.len]; simp [HN.shape]
  have hbnh : h.axes[i]? = some bn := (inv.base.rest i (Nat.le_refl _)).symm.trans hbn
  -- merging axis `i` leaves the marginal along any other axis alone
  have hother : ∀ k, k ≠ i → (g.freq.mergeAxis i (h.axisMap i amount thr) (newCount (h.axisMap i amount thr))).marginal
      h.axes.length k = g.freq.marginal h.axes.length k := fun k hk =>
    Arr.marginal_mergeAxis' g.freq h.axes.length i k _ _ hflen hi (Ne.symm hk)
      (by rw [hl, inv.base.fshape, HN.shape_getElem? fo g i bn hbn]; rfl) (stepChain_lt_newCount _ hc)
  refine ⟨base', fun k hk hkn => (hother k (by omega)).trans (inv.marg k (by omega) hkn), ?_, ?_,
    by rw [Arr.mergeAxesUpTo_succ, ← inv.freq], by rw [Arr.mergeAxesUpTo_succ, ← inv.err2]⟩
  · intro k hk
    rcases Nat.lt_succ_iff_lt_or_eq.mp hk with hk' | rfl
    · exact (hother k (by omega)).trans (inv.margDone k hk')
    · exact (Arr.marginal_mergeAxis_self g.freq h.axes.length k _ _ hflen hi).trans (by rw [inv.marg k (Nat.le_refl _) hi])
  · intro k bn' hk hbn'
    rcases Nat.lt_succ_iff_lt_or_eq.mp hk with hk' | rfl
    · obtain ⟨h1, h2, h3⟩ := inv.maps k bn' hk' hbn'
      exact ⟨h1, h2, (List.getElem?_set_ne (by omega)).trans h3⟩
    · obtain rfl : bn = bn' := Option.some.inj (hbnh.symm.trans hbn')
      exact ⟨hpos, hmeet, List.getElem?_set_self hig⟩

/-- **`merge_bins(axis=None)`, when accepted**: the invariant holds with all axes merged. -/
theorem HN.mergeAll_marginal_spec (fo : FloatOps) (h r : HN) (amount : Option Nat) (thr : Option Rat)
    (hfs : h.freq.shape = h.shape fo) (hes : h.err2.shape = h.shape fo)
    (hfw : h.freq.WellShaped) (hew : h.err2.WellShaped)
    (hr : h.mergeAll fo amount thr = .ok r) : MarginalUpTo fo amount thr h h.axes.length r := by
  rw [HN.mergeAll_eq] at hr
  exact foldlM_range'_inv (MarginalUpTo fo amount thr h) _ h.axes.length h r
    (fun i a a' hi hP hf => MarginalUpTo.step fo amount thr h a a' i hfs hi hP hf)
    (MarginalUpTo.start fo amount thr h hfs hes hfw hew) hr

/-- **Acceptance is decided on the original histogram**: with a usable way of calling it,
    `merge_bins(axis=None)` is accepted iff every axis has a bin and the bin map of every axis —
    computed on the original histogram — has no gap inside a run. -/
theorem HN.mergeAll_ok_iff (fo : FloatOps) (h : HN) (amount : Option Nat) (thr : Option Rat)
    (hm : MergeMode amount thr)
    (hfs : h.freq.shape = h.shape fo) (hes : h.err2.shape = h.shape fo)
    (hfw : h.freq.WellShaped) (hew : h.err2.WellShaped) :
    (∃ r, h.mergeAll fo amount thr = .ok r) ↔
      ∀ (k : Nat) (bn : Binning), h.axes[k]? = some bn →
        0 < (bn.bins fo).length ∧ MapRunsMeet (bn.bins fo) (h.axisMap k amount thr) := by
  constructor
  · rintro ⟨r, hr⟩ k bn hbn
    have inv := HN.mergeAll_marginal_spec fo h r amount thr hfs hes hfw hew hr
    obtain ⟨h1, h2, _⟩ := inv.maps k bn (List.getElem?_eq_some_iff.mp hbn).1 hbn
    exact ⟨h1, h2⟩
  · intro hall
    rw [HN.mergeAll_eq]
    refine foldlM_range'_ok (MarginalUpTo fo amount thr h) _ h.axes.length h
      (fun i g g' hi hP hf => MarginalUpTo.step fo amount thr h g g' i hfs hi hP hf)
      (MarginalUpTo.start fo amount thr h hfs hes hfw hew) ?_
    intro i g hi inv
    obtain ⟨bn, hbn⟩ : ∃ bn, h.axes[i]? = some bn := ⟨h.axes[i], List.getElem?_eq_getElem hi⟩
    obtain ⟨hpos, hmeet⟩ := hall i bn hbn
    exact ⟨_, (HN.mergeAxis_ok_iff fo g _ i amount thr inv.base.fshape inv.base.fws).mpr
      ⟨hm, bn, (inv.base.rest i (Nat.le_refl _)).trans hbn, hpos, by rw [inv.axisMap_eq hfs hi]; exact hmeet, rfl⟩⟩

/-- **`merge_bins(amount)` on all axes is accepted** when every axis has a bin and no run of
    `amount` bins on any axis has a gap inside. -/
theorem HN.mergeAll_amount_ok (fo : FloatOps) (h : HN) (a : Nat) (thr : Option Rat) (ha : 0 < a)
    (hfs : h.freq.shape = h.shape fo) (hes : h.err2.shape = h.shape fo)
    (hfw : h.freq.WellShaped) (hew : h.err2.WellShaped)
    (hall : ∀ (k : Nat) (bn : Binning), h.axes[k]? = some bn → 0 < (bn.bins fo).length ∧ RunsMeet (bn.bins fo) a) :
    ∃ r, h.mergeAll fo (some a) thr = .ok r :=
  (HN.mergeAll_ok_iff fo h (some a) thr (Or.inl ⟨a, rfl, ha⟩) hfs hes hfw hew).mpr fun k bn hbn =>
    ⟨(hall k bn hbn).1, by
      rw [show h.axisMap k (some a) thr = amountMap (bn.bins fo).length a by
        simp only [HN.axisMap, hfs, HN.shape_getElem? fo h k bn hbn, Option.getD_some]]
      exact (mapRunsMeet_amount _ _).mpr (hall k bn hbn).2⟩

/-- the bin map `merge_bins(min_frequency=t)` uses on axis `k`, computed on the marginal of `h` itself -/
def HN.minFreqMapOf (h : HN) (t : Rat) (k : Nat) : List Nat :=
  minFreqMap t (h.freq.marginal h.axes.length k).data

end Physt
