import Physt.Proofs.PathsND
import Physt.Theorems.C09
import Physt.Theorems.C10
/-!
# Laws of the N-d array primitive `Arr.gather` (every shape, every number of axes)

Everything that rearranges an array along one axis (`sumAxis`, `selectInt`, `selectSlice`, `cumsum`,
`mergeAxis`, `shiftAxis`) is `gather`, optionally followed by `squeeze`.  Its entries are read at the
tuple `insAt js axis j` of a tuple `js` of the other axes; with extensionality (`Arr.ext_get`) and Fubini
along one axis (`sum_allIdx_split`) this gives conservation of the total (`Arr.total_gather`), that summing
axes commutes, and that projecting in steps is projecting once (`Arr.sumAxes_steps`, `HN.projection_steps`).
`mergedBins` / `RunsMeet` say what `merge_bins(amount)` must produce and when it is accepted.
-/
namespace Physt

/-- the parent index tuple: `k` inserted at position `axis` (this is literally the expression used
    by `Arr.squeeze`) -/
def insAt (idx : List Nat) (axis k : Nat) : List Nat := idx.take axis ++ [k] ++ idx.drop axis

def Arr.WellShaped (a : Arr) : Prop := a.data.length = prodL a.shape

instance (a : Arr) : Decidable a.WellShaped := by unfold Arr.WellShaped; infer_instance

/-- `HasShape` (PathsND) is `WellShaped` with the shape named -/
theorem Arr.hasShape_iff {a : Arr} {s : List Nat} : a.HasShape s ↔ a.shape = s ∧ a.WellShaped := by
  unfold Arr.HasShape Arr.WellShaped
  constructor <;> rintro ⟨rfl, h⟩ <;> exact ⟨rfl, h⟩

theorem Arr.HasShape.wellShaped {a : Arr} {s : List Nat} (h : a.HasShape s) : a.WellShaped :=
  (Arr.hasShape_iff.mp h).2

theorem Arr.wellShaped_ofFn (shape : List Nat) (g : List Nat → Rat) : (Arr.ofFn shape g).WellShaped :=
  (Arr.hasShape_ofFn shape g).wellShaped

/-- an array with an axis of length 0 holds nothing -/
theorem Arr.total_of_empty_axis (a : Arr) (hw : a.WellShaped) (i : Nat) (h : a.shape[i]? = some 0) :
    a.total = 0 := by
  have : a.data = [] := List.length_eq_zero_iff.mp (by rw [hw, prodL_eq_zero a.shape i h])
  simp [Arr.total, this]

/-! ## index tuples -/

@[simp] theorem insAt_zero (idx : List Nat) (k : Nat) : insAt idx 0 k = k :: idx := by simp [insAt]
@[simp] theorem insAt_succ_cons (i : Nat) (is : List Nat) (ax k : Nat) :
    insAt (i :: is) (ax + 1) k = i :: insAt is ax k := by simp [insAt]
@[simp] theorem insAt_succ_nil (ax k : Nat) : insAt [] (ax + 1) k = [k] := by simp [insAt]

theorem length_insAt (idx : List Nat) (j k : Nat) : (insAt idx j k).length = idx.length + 1 := by
  simp only [insAt, List.length_append, List.length_take, List.length_drop, List.length_cons, List.length_nil]
  omega

theorem insAt_eq_insertIdx (idx : List Nat) (axis k : Nat) (h : axis ≤ idx.length) :
    insAt idx axis k = idx.insertIdx axis k := by
  induction axis generalizing idx with
  | zero => simp
  | succ ax ih =>
    cases idx with
    | nil => simp at h
    | cons i is => simp [ih is (by simpa using h)]

theorem insAt_getElem? (idx : List Nat) (axis k : Nat) (h : axis ≤ idx.length) :
    (insAt idx axis k)[axis]? = some k := by
  rw [insAt_eq_insertIdx idx axis k h, List.getElem?_insertIdx_self, if_pos h]

theorem setAt_insAt (idx : List Nat) (axis j k : Nat) (h : axis ≤ idx.length) :
    Arr.setAt (insAt idx axis j) axis k = insAt idx axis k := by
  have hl : (idx.take axis).length = axis := List.length_take_of_le h
  simp only [insAt, Arr.setAt_eq, List.append_assoc]
  rw [List.set_append_right _ _ (by omega), hl, Nat.sub_self]
  rfl

theorem allIdx_valid (shape idx : List Nat) (h : idx ∈ allIdx shape) : validIdx shape idx = true := by
  induction shape generalizing idx with
  | nil => simp [allIdx] at h; subst h; rfl
  | cons n rest ih =>
    simp only [allIdx, List.mem_flatMap, List.mem_range, List.mem_map] at h
    obtain ⟨i, hi, is, his, rfl⟩ := h
    simp [validIdx, hi, ih is his]

theorem validIdx_insAt (shape idx : List Nat) (axis k : Nat) (hax : axis < shape.length) :
    validIdx shape (insAt idx axis k) = true ↔
      (validIdx (Arr.removeAt shape axis) idx = true ∧ k < shape[axis]?.getD 0) := by
  rw [Arr.removeAt_eq]
  induction axis generalizing shape idx with
  | zero =>
    cases shape with
    | nil => cases hax
    | cons n rest =>
      simp only [insAt_zero, validIdx, Bool.and_eq_true, decide_eq_true_eq, List.eraseIdx_cons_zero,
        List.getElem?_cons_zero, Option.getD_some, and_comm]
  | succ ax ih =>
    cases shape with
    | nil => cases hax
    | cons n rest =>
      have hax' : ax < rest.length := Nat.lt_of_succ_lt_succ hax
      cases idx with
      | nil =>
        cases rest with
        | nil => cases hax'
        | cons m rest' => simp [validIdx]
      | cons i is =>
        simp only [insAt_succ_cons, validIdx, List.eraseIdx_cons_succ, Bool.and_eq_true, decide_eq_true_eq,
          ih rest is hax', List.getElem?_cons_succ, and_assoc]

/-! ## extensionality -/

theorem Arr.ofFn_congr_valid (shape : List Nat) (g1 g2 : List Nat → Rat)
    (h : ∀ i, validIdx shape i = true → g1 i = g2 i) : Arr.ofFn shape g1 = Arr.ofFn shape g2 := by
  unfold Arr.ofFn
  congr 1
  apply List.map_congr_left
  intro i hi
  exact h i (allIdx_valid shape i hi)

theorem Arr.eq_ofFn_get (a : Arr) (hw : a.WellShaped) : a = Arr.ofFn a.shape a.get := by
  obtain ⟨sh, d⟩ := a
  unfold Arr.WellShaped at hw
  simp only at hw
  simp only [Arr.ofFn, Arr.mk.injEq, true_and]
  apply List.ext_getElem?
  intro p
  rw [List.getElem?_map]
  by_cases hp : p < d.length
  · obtain ⟨idx, e1, e2, e3⟩ := allIdx_unravel sh p (by omega)
    rw [e1]
    simp [Arr.get, e2, e3, List.getElem?_eq_getElem hp]
  · have hp' : (allIdx sh).length ≤ p := by rw [allIdx_length]; omega
    simp [List.getElem?_eq_none (Nat.le_of_not_lt hp), List.getElem?_eq_none hp']

theorem Arr.ext_get (a b : Arr) (ha : a.WellShaped) (hb : b.WellShaped) (hs : a.shape = b.shape)
    (h : ∀ idx, validIdx a.shape idx = true → a.get idx = b.get idx) : a = b := by
  rw [Arr.eq_ofFn_get a ha, Arr.eq_ofFn_get b hb, ← hs]
  exact Arr.ofFn_congr_valid _ _ _ h

/-! ## sums over all index tuples -/

theorem sum_map_comm {α β} (l1 : List α) (l2 : List β) (f : α → β → Rat) :
    (l1.map fun x => (l2.map fun y => f x y).sum).sum = (l2.map fun y => (l1.map fun x => f x y).sum).sum := by
  induction l1 with
  | nil => simp
  | cons x xs ih => simp only [List.map_cons, List.sum_cons, ih, List.sum_map_add]

theorem sum_flatMap_map {α β} (l : List α) (s : α → List β) (f : β → Rat) :
    ((l.flatMap s).map f).sum = (l.map fun j => ((s j).map f).sum).sum := by
  induction l with
  | nil => simp
  | cons x xs ih => simp [List.flatMap_cons, ih]

/-- **Fubini along one axis**: the sum over all index tuples is the sum, over the tuples of the
    other axes, of the sums along `axis`. -/
theorem sum_allIdx_split (shape : List Nat) (axis : Nat) (hax : axis < shape.length) (g : List Nat → Rat) :
    ((allIdx shape).map g).sum
      = ((allIdx (Arr.removeAt shape axis)).map fun js =>
          ((List.range (shape[axis]?.getD 0)).map fun k => g (insAt js axis k)).sum).sum := by
  induction axis generalizing shape g with
  | zero =>
    cases shape with
    | nil => simp at hax
    | cons n rest =>
      simp only [allIdx, Arr.removeAt, List.eraseIdx_cons_zero, List.getElem?_cons_zero, Option.getD_some,
        insAt_zero]
      rw [sum_flatMap_map]
      simp only [List.map_map, Function.comp_def]
      exact sum_map_comm _ _ _
  | succ ax ih =>
    cases shape with
    | nil => simp at hax
    | cons n rest =>
      have hax' : ax < rest.length := by simpa using hax
      simp only [allIdx, Arr.removeAt, List.eraseIdx_cons_succ, List.getElem?_cons_succ]
      rw [sum_flatMap_map, sum_flatMap_map]
      simp only [List.map_map, Function.comp_def, insAt_succ_cons]
      congr 1
      apply List.map_congr_left
      intro i _
      have := ih rest hax' (fun is => g (i :: is))
      simp only [Arr.removeAt] at this
      exact this

theorem Arr.total_eq_sum_get (a : Arr) (hw : a.WellShaped) : a.total = ((allIdx a.shape).map a.get).sum := by
  conv => lhs; rw [Arr.eq_ofFn_get a hw]
  rfl

theorem sum_map_filter_of_zero (L : List Nat) (p : Nat → Bool) (f : Nat → Rat) (h : ∀ k, p k = false → f k = 0) :
    (L.map f).sum = ((L.filter p).map f).sum := by
  induction L with
  | nil => rfl
  | cons x xs ih =>
    by_cases hx : p x = true
    · simp [hx, ih]
    · have := h x (by simpa using hx)
      simp [hx, ih, this]

/-- a list of indices that contains every `k < n` exactly once (and anything else only where `f`
    vanishes) sums `f` like `range n` -/
theorem sum_map_of_count_one (L : List Nat) (n : Nat) (f : Nat → Rat) (h0 : ∀ k, n ≤ k → f k = 0)
    (h1 : ∀ k, k < n → L.count k = 1) : (L.map f).sum = ((List.range n).map f).sum := by
  rw [sum_map_filter_of_zero L (fun k => decide (k < n)) f (by intro k hk; exact h0 k (by simpa using hk))]
  have hp : (L.filter fun k => decide (k < n)).Perm (List.range n) := by
    rw [List.perm_iff_count]
    intro k
    rw [List.count_range]
    by_cases hk : k < n
    · rw [List.count_filter (by simpa using hk), h1 k hk, if_pos hk]
    · rw [if_neg hk, List.count_eq_zero]
      intro hm
      have := (List.mem_filter.mp hm).2
      simp [hk] at this
  exact (hp.map f).sum_eq

theorem removeAt_setAt {α} (l : List α) (i : Nat) (x : α) : Arr.removeAt (Arr.setAt l i x) i = Arr.removeAt l i := by
  simp [List.eraseIdx_set_eq]

theorem length_removeAt {α} (l : List α) (i : Nat) (h : i < l.length) : (Arr.removeAt l i).length = l.length - 1 := by
  simp [List.length_eraseIdx, h]

theorem length_le_of_valid_removeAt (shape js : List Nat) (axis : Nat) (hax : axis < shape.length)
    (hv : validIdx (Arr.removeAt shape axis) js = true) : axis ≤ js.length := by
  rw [validIdx_length _ _ hv, length_removeAt _ _ hax]; omega

/-! ## reading entries: every operation is `gather`, optionally followed by `squeeze`

The lemmas read the entry at `insAt js axis j` for *every* tuple `js` of the other axes: for a `js`
outside the shape both sides are `0`, so they rewrite under binders without side conditions. -/

@[simp] theorem Arr.shape_gather (a : Arr) (axis newN : Nat) (src : Nat → List Nat) :
    (a.gather axis newN src).shape = Arr.setAt a.shape axis newN := rfl

theorem Arr.wellShaped_gather (a : Arr) (axis newN : Nat) (src : Nat → List Nat) :
    (a.gather axis newN src).WellShaped := Arr.wellShaped_ofFn _ _

@[simp] theorem Arr.shape_squeeze (b : Arr) (axis : Nat) : (b.squeeze axis).shape = Arr.removeAt b.shape axis := rfl

@[simp] theorem Arr.shape_sumAxis (a : Arr) (axis : Nat) : (a.sumAxis axis).shape = Arr.removeAt a.shape axis :=
  removeAt_setAt _ _ _

theorem Arr.shape_length_sumAxis (a : Arr) (axis : Nat) (hax : axis < a.shape.length) :
    (a.sumAxis axis).shape.length = a.shape.length - 1 := by
  rw [Arr.shape_sumAxis, length_removeAt _ _ hax]

theorem Arr.wellShaped_sumAxis (a : Arr) (axis : Nat) : (a.sumAxis axis).WellShaped := Arr.wellShaped_ofFn _ _

/-- a parent tuple reads `0` unless the other coordinates are a tuple of the other axes and the
    inserted one is below the axis length -/
theorem Arr.get_insAt_eq_zero (a : Arr) (js : List Nat) (axis k : Nat) (hax : axis < a.shape.length)
    (h : ¬ (validIdx (Arr.removeAt a.shape axis) js = true ∧ k < a.shape[axis]?.getD 0)) :
    a.get (insAt js axis k) = 0 :=
  Arr.get_invalid a _ (Bool.eq_false_iff.mpr (mt (validIdx_insAt a.shape js axis k hax).mp h))

theorem Arr.get_insAt_of_ge (a : Arr) (js : List Nat) (axis k : Nat) (hax : axis < a.shape.length)
    (hk : a.shape[axis]?.getD 0 ≤ k) : a.get (insAt js axis k) = 0 :=
  Arr.get_insAt_eq_zero a js axis k hax fun h => absurd h.2 (Nat.not_lt.mpr hk)

/-- **Reading `gather`**: entry `j` along `axis` is the sum of the parent entries `k ∈ src j`
    (`C09_gather` in terms of the tuple of the other axes). -/
theorem Arr.get_gather_insAt (a : Arr) (axis N : Nat) (src : Nat → List Nat) (js : List Nat) (j : Nat)
    (hax : axis < a.shape.length) (hj : j < N) :
    (a.gather axis N src).get (insAt js axis j) = ((src j).map fun k => a.get (insAt js axis k)).sum := by
  have hax1 : axis < (Arr.setAt a.shape axis N).length := by simpa using hax
  by_cases hv : validIdx (Arr.removeAt a.shape axis) js = true
  · have hlen := length_le_of_valid_removeAt a.shape js axis hax hv
    rw [C09_gather _ _ _ _ _ ((validIdx_insAt _ _ _ _ hax1).mpr ⟨by rwa [removeAt_setAt], by simpa [hax] using hj⟩),
      insAt_getElem? js axis j hlen]
    simp only [Option.getD_some, setAt_insAt js axis j _ hlen]
  · rw [Arr.get_insAt_eq_zero _ js axis j hax1 fun h => hv (by rw [← removeAt_setAt]; exact h.1)]
    simp only [fun k => Arr.get_insAt_eq_zero a js axis k hax fun h => hv h.1, List.sum_map_zero]

theorem Arr.sum_get_gather_insAt (a : Arr) (axis N : Nat) (src : Nat → List Nat) (js : List Nat)
    (hax : axis < a.shape.length) :
    ((List.range N).map fun j => (a.gather axis N src).get (insAt js axis j)).sum
      = (((List.range N).flatMap src).map fun k => a.get (insAt js axis k)).sum := by
  rw [sum_flatMap_map]
  exact congrArg List.sum (List.map_congr_left fun j hj =>
    Arr.get_gather_insAt a axis N src js j hax (List.mem_range.mp hj))

/-- `C09_gather` at any tuple whose coordinate on `axis` (if it has one) is below `N`: for a tuple
    outside the shape both sides are `0` -/
theorem Arr.get_gather_of_lt (a : Arr) (axis N : Nat) (src : Nat → List Nat) (idx : List Nat)
    (h : axis < idx.length → idx[axis]?.getD 0 < N) :
    (a.gather axis N src).get idx = ((src (idx[axis]?.getD 0)).map fun k => a.get (Arr.setAt idx axis k)).sum := by
  by_cases hv : validIdx (Arr.setAt a.shape axis N) idx = true
  · exact C09_gather a axis N src idx hv
  · rw [Arr.get_invalid _ _ (Bool.eq_false_iff.mpr hv)]
    refine (List.sum_eq_zero fun x hx => ?_).symm
    obtain ⟨k, _, rfl⟩ := List.mem_map.mp hx
    refine Arr.get_invalid a _ (Bool.eq_false_iff.mpr fun hk => hv ?_)
    rw [validIdx_iff_getD] at hk ⊢
    simp only [Arr.setAt_eq, List.length_set] at hk ⊢
    refine ⟨hk.1, fun p hp => ?_⟩
    have hp' := hk.2 p hp
    by_cases e : axis = p
    · subst e
      rw [List.getElem?_set_self hp, Option.getD_some]
      exact h (hk.1 ▸ hp)
    · rwa [List.getElem?_set_ne e] at hp' ⊢

theorem Arr.get_squeeze (b : Arr) (axis : Nat) (js : List Nat) (hax : axis < b.shape.length) :
    (b.squeeze axis).get js = b.get (insAt js axis 0) := by
  by_cases hv : validIdx (Arr.removeAt b.shape axis) js = true
  · exact Arr.get_ofFn _ _ _ hv
  · rw [Arr.get_invalid _ _ (Bool.eq_false_iff.mpr hv), Arr.get_insAt_eq_zero b js axis 0 hax fun h => hv h.1]

/-- **Marginal, entry by entry**: entry `idx` of `a.sum(axis)` is the sum over all `k` of the
    parent entries with `k` inserted at `axis` (`C09_marginal` with its two index side conditions
    discharged; outside the shape both sides are `0`). -/
theorem Arr.get_sumAxis_insAt (a : Arr) (axis : Nat) (idx : List Nat) (hax : axis < a.shape.length) :
    (a.sumAxis axis).get idx
      = ((List.range (a.shape[axis]?.getD 0)).map fun k => a.get (insAt idx axis k)).sum := by
  unfold Arr.sumAxis
  rw [Arr.get_squeeze _ _ _ (by simpa using hax), Arr.get_gather_insAt a axis 1 _ idx 0 hax Nat.one_pos]

/-! ## conservation for `gather` -/

theorem Arr.total_gather_eq (a : Arr) (axis newN : Nat) (src : Nat → List Nat) (hax : axis < a.shape.length) :
    (a.gather axis newN src).total
      = ((allIdx (Arr.removeAt a.shape axis)).map fun js =>
          ((((List.range newN).flatMap src).map fun k => a.get (insAt js axis k)).sum)).sum := by
  rw [Arr.total_eq_sum_get _ (Arr.wellShaped_gather _ _ _ _), sum_allIdx_split _ axis (by simpa using hax),
    Arr.shape_gather, removeAt_setAt]
  have hN : (Arr.setAt a.shape axis newN)[axis]?.getD 0 = newN := by simp [hax]
  simp only [hN, fun js => Arr.sum_get_gather_insAt a axis newN src js hax]

/-- **Conservation for the array primitive.**  If every old position `k` of the axis occurs in
    exactly one `src j` (`j < newN`), exactly once, the total is unchanged.  (Entries of `src j`
    beyond the old axis length read as `0` and are harmless.) -/
theorem Arr.total_gather (a : Arr) (hw : a.WellShaped) (axis newN : Nat) (src : Nat → List Nat)
    (hax : axis < a.shape.length)
    (hsrc : ∀ k, k < a.shape[axis]?.getD 0 → ((List.range newN).flatMap src).count k = 1) :
    (a.gather axis newN src).total = a.total := by
  rw [Arr.total_gather_eq a axis newN src hax, Arr.total_eq_sum_get a hw, sum_allIdx_split a.shape axis hax]
  apply congrArg List.sum
  apply List.map_congr_left
  intro js _
  exact sum_map_of_count_one _ _ _ (fun k hk => Arr.get_insAt_of_ge a js axis k hax hk) hsrc

theorem Arr.total_squeeze (b : Arr) (hw : b.WellShaped) (axis : Nat) (hax : axis < b.shape.length)
    (h1 : b.shape[axis]? = some 1) : (b.squeeze axis).total = b.total := by
  rw [Arr.total_eq_sum_get b hw, sum_allIdx_split b.shape axis hax, h1]
  unfold Arr.squeeze
  rw [Arr.total_ofFn]
  simp [insAt]

theorem Arr.total_sumAxis (a : Arr) (hw : a.WellShaped) (axis : Nat) (hax : axis < a.shape.length) :
    (a.sumAxis axis).total = a.total := by
  unfold Arr.sumAxis
  rw [Arr.total_squeeze _ (Arr.wellShaped_gather _ _ _ _) axis (by simpa [Arr.shape_gather, Arr.setAt] using hax)
    (by simp [Arr.shape_gather, Arr.setAt, hax])]
  apply Arr.total_gather a hw axis 1 _ hax
  intro k hk
  simp [List.count_range, hk]

theorem Arr.wellShaped_sumAxes (a : Arr) (hw : a.WellShaped) (l : List Nat) : (a.sumAxes l).WellShaped := by
  unfold Arr.sumAxes
  induction l generalizing a with
  | nil => exact hw
  | cons x xs ih => exact ih _ (Arr.wellShaped_sumAxis a x)

/-- **Summing over several axes keeps the total** (axes in strictly decreasing order, all valid). -/
theorem Arr.total_sumAxes (a : Arr) (hw : a.WellShaped) (l : List Nat) (hd : l.Pairwise (· > ·))
    (hl : ∀ x ∈ l, x < a.shape.length) : (a.sumAxes l).total = a.total := by
  unfold Arr.sumAxes
  induction l generalizing a with
  | nil => rfl
  | cons x xs ih =>
    have hx := hl x (List.mem_cons_self ..)
    rw [List.foldl_cons, ih (a.sumAxis x) (Arr.wellShaped_sumAxis a x) (List.pairwise_cons.mp hd).2]
    · exact Arr.total_sumAxis a hw x hx
    · intro y hy
      have := (List.pairwise_cons.mp hd).1 y hy
      rw [Arr.shape_sumAxis, length_removeAt _ _ hx]
      omega

/-! ## instances: `mergeAxis` (merge_bins, C10 in N dimensions) and `shiftAxis` (adaptive growth) -/

/-- the bin map of a merge sends every old bin to exactly one new bin -/
theorem mergeAxis_src_count (map : List Nat) (newN n : Nat) (hl : n ≤ map.length)
    (hm : ∀ k j, k < n → map[k]? = some j → j < newN) (k : Nat) (hk : k < n) :
    ((List.range newN).flatMap fun j => (List.range map.length).filter fun k => map[k]? == some j).count k = 1 := by
  have hkl : k < map.length := by omega
  have hmk : map[k]? = some map[k] := List.getElem?_eq_getElem hkl
  rw [List.count_flatMap, sum_range_single newN map[k] _ (hm k _ hk hmk)]
  · simp only [Function.comp]
    rw [List.count_filter (by simp [hmk]), List.count_range, if_pos hkl]
  · intro j _ hne
    simp only [Function.comp]
    rw [List.count_eq_zero]
    intro hmem
    have := (List.mem_filter.mp hmem).2
    rw [hmk] at this
    simp at this
    exact hne this.symm

/-- **merge_bins keeps the total, on any axis of an array with any number of axes**: the bin map
    sends every old bin of the axis to one of the `newN` new bins. -/
theorem Arr.total_mergeAxis (a : Arr) (hw : a.WellShaped) (axis : Nat) (map : List Nat) (newN : Nat)
    (hax : axis < a.shape.length) (hl : a.shape[axis]?.getD 0 ≤ map.length)
    (hm : ∀ k j, k < a.shape[axis]?.getD 0 → map[k]? = some j → j < newN) :
    (a.mergeAxis axis map newN).total = a.total :=
  Arr.total_gather a hw axis newN _ hax (mergeAxis_src_count map newN _ hl hm)

/-- the form used by `merge_bins`: the map has one entry per old bin, each below `newN` -/
theorem Arr.total_mergeAxis' (a : Arr) (hw : a.WellShaped) (axis : Nat) (map : List Nat) (newN : Nat)
    (hax : axis < a.shape.length) (hl : map.length = a.shape[axis]?.getD 0) (hm : ∀ j ∈ map, j < newN) :
    (a.mergeAxis axis map newN).total = a.total :=
  Arr.total_mergeAxis a hw axis map newN hax (by omega) (fun _ _ _ h => hm _ (List.mem_of_getElem? h))

theorem Arr.shape_mergeAxis (a : Arr) (axis : Nat) (map : List Nat) (newN : Nat) :
    (a.mergeAxis axis map newN).shape = Arr.setAt a.shape axis newN := rfl

/-- **adaptive growth keeps the total**: shifting the old contents `k` cells up along an axis that
    grows to `newN ≥ k + old` cells. -/
theorem Arr.total_shiftAxis (a : Arr) (hw : a.WellShaped) (axis k newN : Nat) (hax : axis < a.shape.length)
    (hn : k + a.shape[axis]?.getD 0 ≤ newN) : (a.shiftAxis axis k newN).total = a.total := by
  unfold Arr.shiftAxis
  apply Arr.total_gather a hw axis newN _ hax
  intro k' hk'
  rw [List.count_flatMap, sum_range_single newN (k' + k) _ (by omega)]
  · simp [Function.comp, hk']
  · intro j _ hne
    simp only [Function.comp]
    split
    · rename_i hc
      have : ¬ k' = j - k := by omega
      rw [List.count_eq_zero]
      simpa using this
    · exact List.count_nil

theorem Arr.shape_shiftAxis (a : Arr) (axis k newN : Nat) :
    (a.shiftAxis axis k newN).shape = Arr.setAt a.shape axis newN := rfl

/-! ## the axes `HN.projection` sums over -/

/-- the axes `projection` sums over: those below `n` that are not kept, in decreasing order -/
def dropList (n : Nat) (keep : Nat → Bool) : List Nat := ((List.range n).filter fun i => !keep i).reverse

theorem dropList_desc (n : Nat) (keep : Nat → Bool) : (dropList n keep).Pairwise (· > ·) := by
  unfold dropList
  rw [List.pairwise_reverse]
  exact filter_range_sorted _ _

theorem dropList_lt (n : Nat) (keep : Nat → Bool) : ∀ x ∈ dropList n keep, x < n := by
  intro x hx
  unfold dropList at hx
  exact List.mem_range.mp (List.mem_filter.mp (List.mem_reverse.mp hx)).1

/-! ## summing two axes commutes -/

theorem eraseIdx_eraseIdx_of_le {α} (l : List α) (i j : Nat) (h : i ≤ j) :
    (l.eraseIdx (j + 1)).eraseIdx i = (l.eraseIdx i).eraseIdx j := by
  induction i generalizing l j with
  | zero => cases l <;> simp
  | succ i ih =>
    cases l with
    | nil => simp
    | cons x xs =>
      cases j with
      | zero => omega
      | succ j => simp [ih xs j (by omega)]

theorem insAt_comm (idx : List Nat) (i j k l : Nat) (hij : i ≤ j) (hj : j ≤ idx.length) :
    insAt (insAt idx i k) (j + 1) l = insAt (insAt idx j l) i k := by
  rw [insAt_eq_insertIdx idx i k (by omega), insAt_eq_insertIdx idx j l hj,
    insAt_eq_insertIdx _ (j + 1) l (by rw [List.length_insertIdx_of_le_length (by omega)]; omega),
    insAt_eq_insertIdx _ i k (by rw [List.length_insertIdx_of_le_length hj]; omega)]
  exact List.insertIdx_comm k l hij hj

/-- **Summing over two axes does not depend on the order** (`i ≤ j`: after axis `i` is gone, the
    old axis `j + 1` sits at position `j`).  Full equality of arrays; `a` need not be well-shaped. -/
theorem Arr.sumAxis_comm (a : Arr) (i j : Nat) (hij : i ≤ j) (hj : j + 1 < a.shape.length) :
    (a.sumAxis (j + 1)).sumAxis i = (a.sumAxis i).sumAxis j := by
  have hs : ((a.sumAxis (j + 1)).sumAxis i).shape = ((a.sumAxis i).sumAxis j).shape := by
    simp only [Arr.shape_sumAxis, Arr.removeAt_eq]
    exact eraseIdx_eraseIdx_of_le _ _ _ hij
  apply Arr.ext_get _ _ (Arr.wellShaped_sumAxis _ _) (Arr.wellShaped_sumAxis _ _) hs
  intro idx hv
  have hl1 := Arr.shape_length_sumAxis a (j + 1) hj
  have hl2 := Arr.shape_length_sumAxis a i (by omega)
  have hlen : idx.length = a.shape.length - 1 - 1 := by
    rw [validIdx_length _ _ hv, Arr.shape_length_sumAxis _ i (by omega), hl1]
  have e1 : (a.sumAxis (j + 1)).shape[i]? = a.shape[i]? := by
    simp only [Arr.shape_sumAxis, Arr.removeAt_eq]; exact List.getElem?_eraseIdx_of_lt (by omega)
  have e2 : (a.sumAxis i).shape[j]? = a.shape[j + 1]? := by
    simp only [Arr.shape_sumAxis, Arr.removeAt_eq]; exact List.getElem?_eraseIdx_of_ge hij
  rw [Arr.get_sumAxis_insAt _ i idx (by omega), Arr.get_sumAxis_insAt _ j idx (by omega), e1, e2]
  simp only [Arr.get_sumAxis_insAt a (j + 1) _ hj, Arr.get_sumAxis_insAt a i _ (show i < a.shape.length by omega),
    insAt_comm idx i j _ _ hij (by omega)]
  exact sum_map_comm _ _ _

/-- the same, in the form "for `i < j`, `sum(j)` then `sum(i)` = `sum(i)` then `sum(j - 1)`" -/
theorem Arr.sumAxis_comm' (a : Arr) (i j : Nat) (hij : i < j) (hj : j < a.shape.length) :
    (a.sumAxis j).sumAxis i = (a.sumAxis i).sumAxis (j - 1) := by
  obtain ⟨j', rfl⟩ : ∃ j', j = j' + 1 := ⟨j - 1, by omega⟩
  exact Arr.sumAxis_comm a i j' (by omega) hj

/-! ## projecting in steps = projecting once -/

theorem Arr.sumAxes_cons (a : Arr) (x : Nat) (xs : List Nat) : a.sumAxes (x :: xs) = (a.sumAxis x).sumAxes xs := rfl

theorem Arr.sumAxes_append (a : Arr) (l1 l2 : List Nat) : a.sumAxes (l1 ++ l2) = (a.sumAxes l1).sumAxes l2 := by
  simp [Arr.sumAxes, List.foldl_append]

/-- summing a later axis `j` commutes with summing a decreasing list of earlier axes: afterwards
    the old axis `j` sits `l.length` places further left -/
theorem Arr.sumAxes_sumAxis_comm (a : Arr) (l : List Nat) (j : Nat) (hd : l.Pairwise (· > ·))
    (hl : ∀ x ∈ l, x < j) (hj : j < a.shape.length) :
    (a.sumAxes l).sumAxis (j - l.length) = (a.sumAxis j).sumAxes l := by
  induction l generalizing a j with
  | nil => rfl
  | cons x xs ih =>
    have hx : x < j := hl x (List.mem_cons_self ..)
    have hp := List.pairwise_cons.mp hd
    rw [Arr.sumAxes_cons, Arr.sumAxes_cons, Arr.sumAxis_comm' a x j hx hj]
    have := ih (a.sumAxis x) (j - 1) hp.2 (fun y hy => by have := hp.1 y hy; omega)
      (by rw [Arr.shape_length_sumAxis a x (by omega)]; omega)
    rw [← this]
    congr 1
    simp only [List.length_cons]
    omega

def keptBelow (keep : Nat → Bool) (m : Nat) : Nat := ((List.range m).filter keep).length

/-- keeping `k1` of the parent's axes and then `k2` of the result's axes keeps parent axis `i` iff
    `k1` keeps it and `k2` keeps the position it has in the intermediate result -/
def composeKeep (k1 k2 : Nat → Bool) : Nat → Bool := fun i => k1 i && k2 (keptBelow k1 i)

theorem filter_range_beq (n i : Nat) (hi : i < n) : (List.range n).filter (fun k => k == i) = [i] := by
  rw [List.filter_beq, List.count_range, if_pos hi]
  rfl

theorem filter_range_div (a j : Nat) (ha : 0 < a) (n : Nat) :
    (List.range n).filter (fun k => k / a == j) = List.range' (j * a) (min ((j + 1) * a) n - j * a) := by
  have he : (j + 1) * a = j * a + a := Nat.succ_mul j a
  induction n with
  | zero => simp
  | succ n ih =>
    have hdiv : (n / a == j) = true ↔ j * a ≤ n ∧ n ≤ j * a + a - 1 := by rw [beq_iff_eq, Nat.div_eq_iff ha]
    rw [filter_range_succ, ih]
    by_cases h : (n / a == j) = true
    · have := hdiv.mp h
      obtain ⟨d, hd⟩ : ∃ d, n = j * a + d := ⟨n - j * a, by omega⟩
      rw [if_pos h, show min ((j + 1) * a) (n + 1) - j * a = d + 1 by omega,
        show min ((j + 1) * a) n - j * a = d by omega, List.range'_1_concat, hd]
    · have := mt hdiv.mpr h
      rw [if_neg h, List.append_nil, show min ((j + 1) * a) (n + 1) - j * a = min ((j + 1) * a) n - j * a by omega]

theorem dropList_succ (m : Nat) (keep : Nat → Bool) :
    dropList (m + 1) keep = (if keep m then [] else [m]) ++ dropList m keep := by
  unfold dropList
  rw [filter_range_succ, List.reverse_append]
  cases keep m <;> rfl

theorem keptBelow_succ (keep : Nat → Bool) (m : Nat) :
    keptBelow keep (m + 1) = keptBelow keep m + (if keep m then 1 else 0) := by
  unfold keptBelow
  rw [filter_range_succ, List.length_append]
  cases keep m <;> rfl

theorem keptBelow_eq (keep : Nat → Bool) (m : Nat) : keptBelow keep m = m - (dropList m keep).length := by
  have := List.length_eq_length_filter_add (l := List.range m) keep
  simp only [List.length_range] at this
  simp only [keptBelow, dropList, List.length_reverse]
  omega

/-- **Projecting in steps = projecting once** (array level, any number of axes).  Summing away
    the axes below `m` not kept by `k1`, and then, of the result, the axes not kept by `k2`, is
    summing away once the axes not kept by the composition. -/
theorem Arr.sumAxes_steps (a : Arr) (k1 k2 : Nat → Bool) (m : Nat) (hm : m ≤ a.shape.length) :
    (a.sumAxes (dropList m k1)).sumAxes (dropList (keptBelow k1 m) k2)
      = a.sumAxes (dropList m (composeKeep k1 k2)) := by
  induction m generalizing a with
  | zero => rfl
  | succ m ih =>
    rw [dropList_succ m k1, dropList_succ m (composeKeep k1 k2), keptBelow_succ]
    have hlen : (a.sumAxis m).shape.length = a.shape.length - 1 := Arr.shape_length_sumAxis a m (by omega)
    cases h1 : k1 m with
    | false =>
      simp only [composeKeep, h1, Bool.false_and, Bool.false_eq_true, if_false, Nat.add_zero, List.singleton_append,
        Arr.sumAxes_cons]
      exact ih (a.sumAxis m) (by omega)
    | true =>
      cases h2 : k2 (keptBelow k1 m) with
      | true =>
        simp only [composeKeep, h1, h2, Bool.and_self, if_true, List.nil_append, dropList_succ]
        exact ih a (by omega)
      | false =>
        simp only [composeKeep, h1, h2, Bool.and_false, Bool.false_eq_true, if_true, if_false, List.nil_append,
          dropList_succ, List.singleton_append, Arr.sumAxes_cons]
        rw [keptBelow_eq k1 m, Arr.sumAxes_sumAxis_comm a (dropList m k1) m (dropList_desc _ _) (dropList_lt _ _)
          (by omega), ← keptBelow_eq]
        exact ih (a.sumAxis m) (by omega)

theorem dropList_congr (n : Nat) (k k' : Nat → Bool) (h : ∀ i, i < n → k i = k' i) : dropList n k = dropList n k' :=
  congrArg List.reverse (filter_range_congr n _ _ fun i hi => by rw [h i hi])

theorem length_filterMap_getElem? {α} (l : List α) (is : List Nat) (h : ∀ i ∈ is, i < l.length) :
    (is.filterMap (l[·]?)).length = is.length := by
  induction is with
  | nil => rfl
  | cons i is ih =>
    have hi := h i (List.mem_cons_self ..)
    simp [List.getElem?_eq_getElem hi, ih (fun j hj => h j (List.mem_cons_of_mem _ hj))]

/-! ## selection along one axis of an N-d array (C11, ND part) -/

@[simp] theorem Arr.shape_selectInt (a : Arr) (axis i : Nat) : (a.selectInt axis i).shape = Arr.removeAt a.shape axis :=
  removeAt_setAt _ _ _

/-- **`a[..., i, ...]`**: the entries are the parent entries with `i` inserted at `axis`. -/
theorem Arr.get_selectInt (a : Arr) (axis i : Nat) (idx : List Nat) (hax : axis < a.shape.length) :
    (a.selectInt axis i).get idx = a.get (insAt idx axis i) := by
  unfold Arr.selectInt
  rw [Arr.get_squeeze _ _ _ (by simpa using hax), Arr.get_gather_insAt a axis 1 _ idx 0 hax Nat.one_pos]
  simp

@[simp] theorem Arr.shape_selectSlice (a : Arr) (axis lo hi : Nat) :
    (a.selectSlice axis lo hi).shape = Arr.setAt a.shape axis (hi - lo) := rfl

/-- **`a[..., lo:hi, ...]`**: entry `j` along `axis` is parent entry `lo + j`. -/
theorem Arr.get_selectSlice (a : Arr) (axis lo hi : Nat) (idx : List Nat)
    (hv : validIdx (Arr.setAt a.shape axis (hi - lo)) idx = true) :
    (a.selectSlice axis lo hi).get idx = a.get (Arr.setAt idx axis (lo + idx[axis]?.getD 0)) := by
  unfold Arr.selectSlice
  rw [C09_gather _ _ _ _ _ hv]
  simp

theorem Arr.get_selectSlice_insAt (a : Arr) (axis lo hi j : Nat) (js : List Nat) (hax : axis < a.shape.length)
    (hj : j < hi - lo) :
    (a.selectSlice axis lo hi).get (insAt js axis j) = a.get (insAt js axis (lo + j)) := by
  unfold Arr.selectSlice
  rw [Arr.get_gather_insAt a axis _ _ js j hax hj]
  simp

/-! ## `cumsum` along one axis (C09 accumulate, C16) -/

theorem setAt_getD_self (l : List Nat) (i : Nat) : Arr.setAt l i (l[i]?.getD 0) = l := by
  apply List.ext_getElem?
  intro j
  rw [Arr.setAt_eq, List.getElem?_set]
  by_cases hij : i = j
  · subst hij
    by_cases hi : i < l.length <;> simp [hi]
  · simp [hij]

@[simp] theorem Arr.shape_cumsum (a : Arr) (axis : Nat) : (a.cumsum axis).shape = a.shape :=
  setAt_getD_self _ _

/-- entry `j` of the cumulative sum along `axis` is the sum of the parent entries `0..j` -/
theorem Arr.get_cumsum_insAt (a : Arr) (axis j : Nat) (js : List Nat) (hax : axis < a.shape.length)
    (hj : j < a.shape[axis]?.getD 0) :
    (a.cumsum axis).get (insAt js axis j)
      = ((List.range (j + 1)).map fun k => a.get (insAt js axis k)).sum :=
  Arr.get_gather_insAt a axis _ _ js j hax hj

/-! ## merged bins reach from the run's first left edge to its last right edge (C10) -/

/-- bin `k` of a list of bins (`(0, 0)` beyond the end; never read there below) -/
def binAt (bins : Bins) (k : Nat) : Bin := bins[k]?.getD (0, 0)

/-- what `merge_bins(amount)` must produce: `⌈n / amount⌉` bins, the `j`-th reaching from the left
    edge of old bin `j * amount` to the right edge of old bin `min ((j + 1) * amount) n - 1` -/
def mergedBins (bins : Bins) (amount : Nat) : Bins :=
  (List.range ((bins.length + amount - 1) / amount)).map fun j =>
    ((binAt bins (j * amount)).1, (binAt bins (min ((j + 1) * amount) bins.length - 1)).2)

/-- adjacent bins of one run of `amount` bins meet (no gap inside a run) -/
def RunsMeet (bins : Bins) (amount : Nat) : Prop :=
  ∀ k, k + 1 < bins.length → k / amount = (k + 1) / amount → (binAt bins k).2 = (binAt bins (k + 1)).1

theorem binAt_eq (bins : Bins) (k : Nat) (h : k < bins.length) : binAt bins k = bins[k] := by
  simp [binAt, List.getElem?_eq_getElem h]

theorem mergedBins_length (bins : Bins) (amount : Nat) :
    (mergedBins bins amount).length = (bins.length + amount - 1) / amount := by
  rw [mergedBins, List.length_map, List.length_range]

theorem ceilDiv_eq (n a : Nat) (hn : 0 < n) (ha : 0 < a) : (n + a - 1) / a = (n - 1) / a + 1 := by
  have : n + a - 1 = (n - 1) + a := by omega
  rw [this, Nat.add_div_right _ ha]

theorem mergedBins_getElem? (bins : Bins) (amount j : Nat) (hj : j < (bins.length + amount - 1) / amount) :
    (mergedBins bins amount)[j]?
      = some ((binAt bins (j * amount)).1, (binAt bins (min ((j + 1) * amount) bins.length - 1)).2) := by
  rw [mergedBins, List.getElem?_map, List.getElem?_range hj]
  rfl

theorem amountMap_lt (n amount : Nat) (ha : 0 < amount) : ∀ j ∈ H1.amountMap n amount, j < (n + amount - 1) / amount := by
  intro j hj
  simp only [H1.amountMap, List.mem_map, List.mem_range] at hj
  obtain ⟨k, hk, rfl⟩ := hj
  rw [ceilDiv_eq n amount (by omega) ha]
  have : k / amount ≤ (n - 1) / amount := Nat.div_le_div_right (by omega)
  omega

/-! ## projecting in steps = projecting once: the whole histogram (bins, names, dtype, arrays) -/

def keptOf {α} (A : List α) (keep : Nat → Bool) (m : Nat) : List α :=
  ((List.range m).filter keep).filterMap (A[·]?)

theorem keptOf_succ' {α} (A : List α) (keep : Nat → Bool) (m : Nat) :
    keptOf A keep (m + 1) = keptOf A keep m ++ (if keep m then A[m]?.toList else []) := by
  unfold keptOf
  rw [filter_range_succ, List.filterMap_append]
  cases keep m
  · rfl
  · cases h2 : A[m]? <;> simp [h2]

theorem keptOf_succ {α} (A : List α) (keep : Nat → Bool) (m : Nat) (hm : m < A.length) :
    keptOf A keep (m + 1) = keptOf A keep m ++ (if keep m then [A[m]] else []) := by
  rw [keptOf_succ', List.getElem?_eq_getElem hm]
  rfl

theorem keptOf_length {α} (A : List α) (keep : Nat → Bool) (m : Nat) (hm : m ≤ A.length) :
    (keptOf A keep m).length = keptBelow keep m := by
  unfold keptOf keptBelow
  apply length_filterMap_getElem?
  intro i hi
  have := List.mem_range.mp (List.mem_filter.mp hi).1
  omega

theorem keptOf_congr_left {α} (A B : List α) (keep : Nat → Bool) (m : Nat) (h : ∀ i, i < m → A[i]? = B[i]?) :
    keptOf A keep m = keptOf B keep m :=
  List.filterMap_congr fun i hi => h i (List.mem_range.mp (List.mem_filter.mp hi).1)

theorem keptOf_eraseIdx {α} (A : List α) (keep : Nat → Bool) (m : Nat) :
    keptOf (A.eraseIdx m) keep m = keptOf A keep m :=
  keptOf_congr_left _ _ _ _ fun _ hi => List.getElem?_eraseIdx_of_lt hi

theorem keptOf_map {α β} (A : List α) (f : α → β) (keep : Nat → Bool) (m : Nat) :
    keptOf (A.map f) keep m = (keptOf A keep m).map f := by
  unfold keptOf
  rw [List.map_filterMap]
  apply List.filterMap_congr
  intro i _
  simp

theorem Arr.shape_sumAxes_dropList (a : Arr) (keep : Nat → Bool) (m : Nat) (hm : m ≤ a.shape.length) :
    (a.sumAxes (dropList m keep)).shape = keptOf a.shape keep m ++ a.shape.drop m := by
  induction m generalizing a with
  | zero => simp [dropList, Arr.sumAxes, keptOf]
  | succ m ih =>
    have hm' : m < a.shape.length := by omega
    rw [dropList_succ, keptOf_succ _ _ _ hm']
    cases hk : keep m with
    | true =>
      simp only [if_true, List.nil_append]
      rw [ih a (by omega), List.drop_eq_getElem_cons hm', List.append_assoc]
      rfl
    | false =>
      simp only [Bool.false_eq_true, if_false, List.singleton_append, List.append_nil]
      rw [Arr.sumAxes_cons, ih (a.sumAxis m) (by rw [Arr.shape_length_sumAxis a m hm']; omega), Arr.shape_sumAxis]
      simp only [Arr.removeAt]
      rw [keptOf_eraseIdx, List.eraseIdx_eq_take_drop_succ]
      congr 1
      rw [List.drop_append_of_le_length (by simp; omega)]
      simp

/-- selecting `k2` of the entries selected by `k1` = selecting by the composition -/
theorem keptOf_steps {α} (A : List α) (k1 k2 : Nat → Bool) (m : Nat) (hm : m ≤ A.length) :
    keptOf (keptOf A k1 m) k2 (keptBelow k1 m) = keptOf A (composeKeep k1 k2) m := by
  induction m with
  | zero => rfl
  | succ m ih =>
    have hm' : m < A.length := by omega
    have hBl := keptOf_length A k1 m (by omega)
    rw [keptOf_succ A (composeKeep k1 k2) m hm', keptBelow_succ, keptOf_succ A k1 m hm', ← ih (by omega)]
    cases h1 : k1 m with
    | false => simp only [composeKeep, h1, Bool.false_and, Bool.false_eq_true, if_false, Nat.add_zero, List.append_nil]
    | true =>
      rw [if_pos rfl, if_pos rfl, keptOf_succ',
        keptOf_congr_left _ (keptOf A k1 m) k2 _ fun p hp => List.getElem?_append_left (by omega)]
      simp only [composeKeep, h1, Bool.true_and, ← hBl, List.getElem?_concat_length, Option.toList]

/-- `projection`, written out: the result in terms of the resolved axis positions -/
theorem HN.projection_eq (h r : HN) (axes : List (Sum Int String)) (hr : h.projection axes = .ok r) :
    ∃ ax, axes.mapM h.getAxis = .ok ax ∧
      r = { h with
        axes := keptOf h.axes (fun i => ax.contains i) h.axes.length,
        names := keptOf h.names (fun i => ax.contains i) h.axes.length,
        freq := h.freq.sumAxes (dropList h.axes.length fun i => ax.contains i),
        err2 := h.err2.sumAxes (dropList h.axes.length fun i => ax.contains i),
        missed := some 0, keep := true,
        dtype := if h.dtype.isInt then .i64 else h.dtype } :=
  HN.projection_ok h r axes hr

theorem keptOf_congr {α} (A : List α) (k k' : Nat → Bool) (m : Nat) (h : ∀ i, i < m → k i = k' i) :
    keptOf A k m = keptOf A k' m :=
  congrArg (List.filterMap (A[·]?)) (filter_range_congr m k k' h)

/-- **Projecting in steps equals projecting once onto the final axes** (`HN.projection`).  If `h`
    is projected onto `axes1` (resolved to positions `ax1`) and the result onto `axes2` (positions
    `ax2` *in the result*), then the projection of `h` onto any axis list whose positions `ax` are
    exactly the composition — parent axis `i` is in `ax` iff it is in `ax1` and its position among
    the kept axes is in `ax2` — has the same contents and squared errors. -/
theorem HN.projection_steps (h r1 r2 r : HN) (axes1 axes2 axes : List (Sum Int String))
    (hfs : h.axes.length ≤ h.freq.shape.length) (hes : h.axes.length ≤ h.err2.shape.length)
    (h1 : h.projection axes1 = .ok r1) (h2 : r1.projection axes2 = .ok r2) (h3 : h.projection axes = .ok r) :
    ∃ ax1 ax2 ax, axes1.mapM h.getAxis = .ok ax1 ∧ axes2.mapM r1.getAxis = .ok ax2 ∧
      axes.mapM h.getAxis = .ok ax ∧
      ((∀ i, i < h.axes.length →
          ax.contains i = composeKeep (fun i => ax1.contains i) (fun i => ax2.contains i) i) →
        r.freq = r2.freq ∧ r.err2 = r2.err2) := by
  obtain ⟨ax1, m1, rfl⟩ := HN.projection_eq h r1 axes1 h1
  obtain ⟨ax2, m2, rfl⟩ := HN.projection_eq _ r2 axes2 h2
  obtain ⟨ax, m3, rfl⟩ := HN.projection_eq h r axes h3
  refine ⟨ax1, ax2, ax, m1, m2, m3, fun hc => ?_⟩
  dsimp only
  rw [keptOf_length _ _ _ (Nat.le_refl _), dropList_congr _ _ _ hc, Arr.sumAxes_steps _ _ _ _ hfs,
    Arr.sumAxes_steps _ _ _ _ hes]
  exact ⟨rfl, rfl⟩

/-! ## Non-vacuity and the side conditions (a 2×3 array, a 2×2×2 array) -/

namespace ArrayLawsExamples

def a23 : Arr := { shape := [2, 3], data := [1, 2, 3, 4, 5, 6] }
def a222 : Arr := { shape := [2, 2, 2], data := [1, 2, 3, 4, 5, 6, 7, 8] }

example : a23.WellShaped := by decide +kernel

/-- totals of the marginals, of a merge, of a shift -/
example : (a23.sumAxis 0).total = 21 ∧ (a23.sumAxis 1).total = 21 ∧ a23.total = 21 ∧
    (a23.sumAxes [1, 0]).data = [21] ∧
    (a23.mergeAxis 1 [0, 0, 1] 2).data = [3, 3, 9, 6] ∧ (a23.mergeAxis 1 [0, 0, 1] 2).shape = [2, 2] ∧
    (a23.mergeAxis 0 [0, 0] 1).data = [5, 7, 9] ∧
    (a23.shiftAxis 1 1 5).data = [0, 1, 2, 3, 0, 0, 4, 5, 6, 0] ∧ (a23.shiftAxis 1 1 5).total = 21 := by
  decide +kernel

/-- summing two axes in either order; projecting in steps = once (keep axes {0, 2}, then of those
    keep position 1: the composition keeps parent axis 2) -/
example : (a23.sumAxis 1).sumAxis 0 = (a23.sumAxis 0).sumAxis 0 ∧
    (a222.sumAxis 2).sumAxis 0 = (a222.sumAxis 0).sumAxis 1 ∧
    (a222.sumAxes (dropList 3 fun i => [0, 2].contains i)).sumAxes (dropList 2 fun i => [1].contains i)
      = a222.sumAxes (dropList 3 fun i => [2].contains i) ∧
    (∀ i, i < 3 → [2].contains i = composeKeep (fun i => [0, 2].contains i) (fun i => [1].contains i) i) ∧
    (a222.sumAxes (dropList 3 fun i => [2].contains i)).data = [16, 20] := by
  have hc : ∀ i, i < 3 → [2].contains i = composeKeep (fun i => [0, 2].contains i) (fun i => [1].contains i) i := by
    decide
  refine ⟨Arr.sumAxis_comm' a23 0 1 (by decide) (by decide), Arr.sumAxis_comm' a222 0 2 (by decide) (by decide), ?_,
    hc, by decide +kernel⟩
  rw [dropList_congr 3 _ _ hc]
  exact Arr.sumAxes_steps a222 _ _ 3 (by decide)

/-- selection and cumulative sums -/
example : (a23.selectInt 1 2).data = [3, 6] ∧ (a23.selectInt 1 2).shape = [2] ∧
    (a23.selectInt 0 1).data = [4, 5, 6] ∧
    (a23.selectSlice 1 1 3).data = [2, 3, 5, 6] ∧ (a23.selectSlice 1 1 3).shape = [2, 2] ∧
    ((a23.selectSlice 1 1 3).sumAxis 1).data = [5, 11] ∧
    (a23.cumsum 1).get [1, 2] = (a23.sumAxis 1).get [1] ∧ (a23.cumsum 0).get [1, 1] = (a23.sumAxis 0).get [1] := by
  decide +kernel

/-- merged bins: 5 bins in runs of 2 (the gap between the runs, `(1, 2)` / `(5/2, 3)`, is allowed) -/
example : mergedBins [(0, 1), (1, 2), (5 / 2, 3), (3, 4), (4, 5)] 2 = [(0, 2), (5 / 2, 4), (4, 5)] ∧
    (H1.mergeBinsAux ([(0, 1), (1, 2), (5 / 2, 3), (3, 4), (4, 5)].zip (H1.amountMap 5 2)) none).toOption
      = some [(0, 2), (5 / 2, 4), (4, 5)] := by
  decide +kernel

/-- … and a gap *inside* a run is refused (`RunsMeet` is needed) -/
example : (H1.mergeBinsAux ([(0, 1), (3 / 2, 2), (2, 3)].zip (H1.amountMap 3 2)) none).toOption = none := by
  decide +kernel

/-- **Side condition `axis < ndim` is needed**: summing over an axis that does not exist gives
    zeros (not an error) in the model, so the total is lost. -/
example : (a23.sumAxis 2).data = [0, 0, 0, 0, 0, 0] ∧ (a23.sumAxis 2).total ≠ a23.total := by decide +kernel

/-- **"decreasing" is needed for `sumAxes`**: in increasing order the second position is stale -/
example : (a23.sumAxes [0, 1]).total = 0 ∧ (a23.sumAxes [1, 0]).total = 21 := by decide +kernel

/-- **Well-shapedness is needed**: surplus stored entries are counted by `total` but unreachable
    by index -/
example : ({ shape := [1], data := [1, 2] } : Arr).total = 3 ∧
    (({ shape := [1], data := [1, 2] } : Arr).sumAxis 0).total = 1 := by decide +kernel

/-- **the conservation hypothesis of `total_gather` is needed**: a map with a value `≥ newN`
    drops that bin; a shift that does not fit drops the top cells -/
example : (a23.mergeAxis 1 [0, 0, 2] 2).total = 12 ∧ (a23.shiftAxis 1 1 3).total = 12 := by decide +kernel

/-- a 3-D histogram projected in steps and at once (`C09_steps` instantiated) -/
def h3 : HN :=
  { axes := [.static [(0, 1), (1, 2)] true, .static [(0, 2), (2, 4)] true, .static [(0, 3), (3, 6)] false],
    freq := a222, err2 := a222, names := ["x", "y", "z"] }

example : ((h3.projection [.inl 2, .inr "x"]).bind fun r1 => r1.projection [.inl 1]).toOption
      = (h3.projection [.inr "z"]).toOption ∧
    ((h3.projection [.inr "z"]).toOption.map fun r => (r.freq.data, r.names)) = some ([16, 20], ["z"]) := by
  decide +kernel

end ArrayLawsExamples

end Physt
