import Physt.Proofs.Lists
import Physt.Theorems.C01
/-! `calc1d` is additive in the data (a monoid homomorphism) and known on no point and on one point;
    a `foldlM` of steps that each keep "the state holds these rows" holds all the rows at its end. -/
namespace Physt
open H1

theorem wsum_nil : wsum [] = 0 := rfl
theorem w2sum_nil : w2sum [] = 0 := rfl

theorem calc1d_freq_length (bins : Bins) (d : List Pt) : (calc1d bins d).freq.length = bins.length :=
  (C01_shape bins d).1
theorem calc1d_err2_length (bins : Bins) (d : List Pt) : (calc1d bins d).err2.length = bins.length :=
  (C01_shape bins d).2

/-! The three facts below are about the closed form of `calc1d_cells`, for any per-point quantity `f`;
    contents (`f = weight`) and squared errors (`f = weight²`) are its two instances. -/

theorem cells_append (f : Pt → Rat) (q : Nat → Pt → Bool) (n : Nat) (a b : List Pt) :
    ((List.range n).map fun i => (((a ++ b).filter (q i)).map f).sum)
      = zipAdd ((List.range n).map fun i => ((a.filter (q i)).map f).sum)
          ((List.range n).map fun i => ((b.filter (q i)).map f).sum) := by
  rw [zipAdd, List.zipWith_map, List.zipWith_self]
  exact List.map_congr_left fun i _ => by rw [List.filter_append, List.map_append, List.sum_append]

theorem cells_nil (f : Pt → Rat) (q : Nat → Pt → Bool) (n : Nat) :
    ((List.range n).map fun i => ((([] : List Pt).filter (q i)).map f).sum) = zeros n := by
  rw [zeros, List.eq_replicate_iff]
  exact ⟨by rw [List.length_map, List.length_range], fun x hx => by
    obtain ⟨i, _, rfl⟩ := List.mem_map.mp hx
    rfl⟩

/-- one point lying in cell `k` and in no other -/
theorem cells_single (f : Pt → Rat) (q : Nat → Pt → Bool) (n : Nat) (p : Pt) (k : Nat)
    (hk : ∀ i, q i p = true ↔ i = k) :
    ((List.range n).map fun i => (([p].filter (q i)).map f).sum) = indicator n k (f p) :=
  List.map_congr_left fun i _ => by
    by_cases hi : i = k
    · rw [List.filter_cons_of_pos ((hk i).mpr hi), if_pos hi]
      simp
    · rw [List.filter_cons_of_neg (mt (hk i).mp hi), if_neg hi]
      rfl

theorem calc1d_append_freq (bins : Bins) (hb : Rising bins) (a b : List Pt) :
    (calc1d bins (a ++ b)).freq = zipAdd (calc1d bins a).freq (calc1d bins b).freq := by
  rw [calc1d_freq_eq _ _ hb, calc1d_freq_eq _ _ hb, calc1d_freq_eq _ _ hb]
  exact cells_append (·.2) _ _ a b

theorem calc1d_append_err2 (bins : Bins) (hb : Rising bins) (a b : List Pt) :
    (calc1d bins (a ++ b)).err2 = zipAdd (calc1d bins a).err2 (calc1d bins b).err2 := by
  rw [calc1d_err2_eq _ _ hb, calc1d_err2_eq _ _ hb, calc1d_err2_eq _ _ hb]
  exact cells_append (fun p => p.2 * p.2) _ _ a b

theorem calc1d_append_missed (bins : Bins) (hne : bins ≠ []) (a b : List Pt) :
    (calc1d bins (a ++ b)).under = nadd (calc1d bins a).under (calc1d bins b).under ∧
    (calc1d bins (a ++ b)).over = nadd (calc1d bins a).over (calc1d bins b).over := by
  by_cases hc : consecutiveB bins = true
  · cases bins with
    | nil => exact (hne rfl).elim
    | cons b0 bs =>
      have hl := List.getLast?_eq_some_getLast hne
      have e1 := C01_under_over _ (a ++ b) hc b0 _ rfl hl
      have e2 := C01_under_over _ a hc b0 _ rfl hl
      have e3 := C01_under_over _ b hc b0 _ rfl hl
      rw [e1.1, e1.2, e2.1, e2.2, e3.1, e3.2, List.filter_append, List.filter_append, wsum_append, wsum_append]
      exact ⟨rfl, rfl⟩
  · have hc' : consecutiveB bins = false := by simpa using hc
    rw [(C01_gaps bins (a ++ b) hc').1, (C01_gaps bins (a ++ b) hc').2, (C01_gaps bins a hc').1,
      (C01_gaps bins a hc').2]
    simp [nadd]

theorem calc1d_nil_freq (bins : Bins) (hb : Rising bins) : (calc1d bins []).freq = zeros bins.length := by
  rw [calc1d_freq_eq _ _ hb]
  exact cells_nil (·.2) _ _

theorem calc1d_nil_err2 (bins : Bins) (hb : Rising bins) : (calc1d bins []).err2 = zeros bins.length := by
  rw [calc1d_err2_eq _ _ hb]
  exact cells_nil (fun p => p.2 * p.2) _ _

/-- contents of the histogram of a single point -/
theorem calc1d_single (bins : Bins) (hb : Rising bins) (v w : Rat) :
    (∀ i, inBin bins true i v = true →
      (calc1d bins [(v, w)]).freq = indicator bins.length i w ∧
      (calc1d bins [(v, w)]).err2 = indicator bins.length i (w * w)) ∧
    ((∀ i, inBin bins true i v = false) →
      (calc1d bins [(v, w)]).freq = zeros bins.length ∧ (calc1d bins [(v, w)]).err2 = zeros bins.length) := by
  rw [calc1d_freq_eq _ _ hb, calc1d_err2_eq _ _ hb]
  constructor
  · intro i hi
    -- by `C01_once`, bin `i` is the only one that contains `v`
    have hk : ∀ j, inBin bins true j (v, w).1 = true ↔ j = i :=
      fun j => ⟨fun hj => C01_once bins hb v j i hj hi, fun e => e ▸ hi⟩
    exact ⟨cells_single (·.2) _ _ (v, w) i hk, cells_single (fun p => p.2 * p.2) _ _ (v, w) i hk⟩
  · intro hnone
    have h0 : ∀ f : Pt → Rat, ((List.range bins.length).map fun i =>
        (([(v, w)].filter fun p => inBin bins true i p.1).map f).sum) = zeros bins.length := fun f => by
      rw [← cells_nil f (fun i p => inBin bins true i p.1)]
      exact List.map_congr_left fun i _ => by
        rw [List.filter_cons_of_neg (by rw [hnone i]; exact Bool.false_ne_true)]
    exact ⟨h0 _, h0 _⟩

/-- A run of steps each of which appends its rows to what the state holds ends holding all of them. -/
theorem foldlM_tracks {σ ι ρ : Type} (step : σ → ι → R σ) (rowsOf : ι → List ρ) (Inv : σ → List ρ → Prop)
    (xs : List ι) (hstep : ∀ x ∈ xs, ∀ s r s', Inv s r → step s x = .ok s' → Inv s' (r ++ rowsOf x))
    (s : σ) (r : List ρ) (hi : Inv s r) (s' : σ) (hrun : xs.foldlM step s = .ok s') :
    Inv s' (r ++ (xs.map rowsOf).flatten) := by
  induction xs generalizing s r with
  | nil => cases hrun; simpa using hi
  | cons x xs ih =>
    rw [List.foldlM_cons] at hrun
    cases h1 : step s x with
    | error e => rw [h1] at hrun; cases hrun
    | ok m =>
      rw [h1] at hrun
      have := ih (fun y hy => hstep y (List.mem_cons_of_mem _ hy)) m _
        (hstep x (List.mem_cons_self ..) s r m hi h1) hrun
      simpa [List.append_assoc] using this

/-- … and the run is accepted when each step is. -/
theorem foldlM_accepted {σ ι ρ : Type} (step : σ → ι → R σ) (rowsOf : ι → List ρ) (Inv : σ → List ρ → Prop)
    (xs : List ι) (hstep : ∀ x ∈ xs, ∀ s r, Inv s r → ∃ s', step s x = .ok s' ∧ Inv s' (r ++ rowsOf x))
    (s : σ) (r : List ρ) (hi : Inv s r) : ∃ s', xs.foldlM step s = .ok s' := by
  induction xs generalizing s r with
  | nil => exact ⟨s, rfl⟩
  | cons x xs ih =>
    obtain ⟨m, hm, him⟩ := hstep x (List.mem_cons_self ..) s r hi
    obtain ⟨s', hs'⟩ := ih (fun y hy => hstep y (List.mem_cons_of_mem _ hy)) m _ him
    exact ⟨s', by rw [List.foldlM_cons, hm]; exact hs'⟩

end Physt
