import Physt.Proofs.Sorted
/-! Helper lemmas about `calc1d`, `Rising`, `inBin`. -/
namespace Physt

theorem sweepAux_getElem? (s : List Pt) (n : Nat) (bs : Bins) (k j : Nat) :
    (sweepAux s n k bs)[j]? = bs[j]?.map (binSlice s n (k + j)) := by
  induction bs generalizing k j with
  | nil => rfl
  | cons b bs ih =>
    cases j with
    | zero => rfl
    | succ j =>
      rw [sweepAux, List.getElem?_cons_succ, List.getElem?_cons_succ, ih (k + 1) j, Nat.add_right_comm k 1 j]
      rfl

theorem sweepAux_length (s : List Pt) (n : Nat) (bs : Bins) (k : Nat) :
    (sweepAux s n k bs).length = bs.length := by
  induction bs generalizing k with
  | nil => simp [sweepAux]
  | cons b bs ih => simp [sweepAux, ih]

theorem Rising.tail {b : Bin} {bs : Bins} (h : Rising (b :: bs)) : Rising bs := by
  cases bs with
  | nil => trivial
  | cons c cs => obtain ⟨l, r⟩ := b; obtain ⟨l', r'⟩ := c; exact h.2.2

theorem Rising.head_lt {b : Bin} {bs : Bins} (h : Rising (b :: bs)) : b.1 < b.2 := by
  cases bs with
  | nil => obtain ⟨l, r⟩ := b; exact h
  | cons c cs => obtain ⟨l, r⟩ := b; obtain ⟨l', r'⟩ := c; exact h.1

theorem Rising.lt {bins : Bins} (h : Rising bins) : ∀ b ∈ bins, b.1 < b.2 := by
  induction bins with
  | nil => intro b hb; cases hb
  | cons c cs ih =>
    intro b hb
    rcases List.mem_cons.mp hb with rfl | hb
    · exact h.head_lt
    · exact ih h.tail b hb

/-- In a rising binning every later bin starts at or after the end of every earlier bin. -/
theorem Rising.pairwise {bins : Bins} (h : Rising bins) :
    bins.Pairwise fun a b => a.2 ≤ b.1 := by
  induction bins with
  | nil => exact List.Pairwise.nil
  | cons c cs ih =>
    rw [List.pairwise_cons]
    refine ⟨?_, ih h.tail⟩
    cases cs with
    | nil => intro b hb; cases hb
    | cons d ds =>
      obtain ⟨l, r⟩ := c; obtain ⟨l', r'⟩ := d
      have h1 : r ≤ l' := h.2.1
      have hpw := ih h.tail
      rw [List.pairwise_cons] at hpw
      intro b hb
      rcases List.mem_cons.mp hb with rfl | hb
      · exact h1
      · exact le_trans h1 (le_trans (le_of_lt (Rising.tail h).head_lt) (hpw.1 b hb))

theorem rising_iff (bins : Bins) :
    Rising bins ↔ (∀ b ∈ bins, b.1 < b.2) ∧ bins.Pairwise fun a b => a.2 ≤ b.1 := by
  constructor
  · exact fun h => ⟨h.lt, h.pairwise⟩
  · rintro ⟨h1, h2⟩
    induction bins with
    | nil => trivial
    | cons b rest ih =>
      rw [List.pairwise_cons] at h2
      have ih' := ih (fun x hx => h1 x (List.mem_cons_of_mem _ hx)) h2.2
      obtain ⟨l, r⟩ := b
      cases rest with
      | nil => exact h1 (l, r) (List.mem_cons_self ..)
      | cons c rest =>
        obtain ⟨l', r'⟩ := c
        exact ⟨h1 (l, r) (List.mem_cons_self ..), h2.1 (l', r') (List.mem_cons_self ..), ih'⟩

/-- every selection of bins of a rising binning (slice, mask, increasing index array) is rising -/
theorem Rising.sublist {bins sub : Bins} (h : Rising bins) (hs : sub.Sublist bins) : Rising sub := by
  rw [rising_iff] at h ⊢
  exact ⟨fun b hb => h.1 b (hs.subset hb), h.2.sublist hs⟩

theorem Rising.sortedLeft {bins : Bins} (h : Rising bins) : SortedV bins :=
  h.pairwise.imp_of_mem fun ha _ hab => le_trans (le_of_lt (h.lt _ ha)) hab

theorem Rising.right_le_left {bins : Bins} (h : Rising bins) {i j : Nat} {a b : Bin}
    (hi : bins[i]? = some a) (hj : bins[j]? = some b) (hij : i < j) : a.2 ≤ b.1 := by
  obtain ⟨hi', rfl⟩ := List.getElem?_eq_some_iff.mp hi
  obtain ⟨hj', rfl⟩ := List.getElem?_eq_some_iff.mp hj
  exact List.pairwise_iff_getElem.mp h.pairwise i j hi' hj' hij

theorem inBin_iff {bins : Bins} {cl : Bool} {i : Nat} {v : Rat} :
    inBin bins cl i v = true ↔ ∃ l r, bins[i]? = some (l, r) ∧ l ≤ v ∧
      (v < r ∨ (cl = true ∧ i + 1 = bins.length ∧ v = r)) := by
  unfold inBin
  cases bins[i]? with
  | none => simp
  | some b => obtain ⟨l, r⟩ := b; simp [and_assoc]

theorem risingB_iff (bins : Bins) : risingB bins = true ↔ Rising bins := by
  induction bins with
  | nil => simp [risingB, Rising]
  | cons c cs ih =>
    cases cs with
    | nil => obtain ⟨l, r⟩ := c; simp [risingB, Rising]
    | cons d ds =>
      obtain ⟨l, r⟩ := c; obtain ⟨l', r'⟩ := d
      simp only [risingB, Rising, Bool.and_eq_true, decide_eq_true_eq]
      rw [ih]
      exact and_assoc

theorem not_decide_lt (a b : Rat) : (!decide (a < b)) = decide (b ≤ a) := by
  by_cases h : a < b
  · simp [h, not_le.mpr h]
  · simp [h, not_lt.mp h]

/-- The slice assigned to bin `i` is the filter of the sorted data by the bin's interval. -/
theorem binSlice_eq_filter (s : List Pt) (hs : SortedV s) (n i : Nat) (b : Bin) (hb : b.1 < b.2) :
    binSlice s n i b = s.filter fun p =>
      decide (b.1 ≤ p.1) && (if i + 1 = n then decide (p.1 ≤ b.2) else decide (p.1 < b.2)) := by
  unfold binSlice ssLeft ssRight
  by_cases hin : i + 1 = n
  · simp only [hin, if_true]
    rw [pySlice_eq_filter _ _ (downClosed_lt b.1) (downClosed_le b.2) ?_ s hs]
    · congr 1; funext p; rw [not_decide_lt]
    · exact fun x hx => decide_eq_true (le_of_lt (lt_trans (of_decide_eq_true hx) hb))
  · simp only [hin, if_false]
    rw [pySlice_eq_filter _ _ (downClosed_lt b.1) (downClosed_lt b.2) ?_ s hs]
    · congr 1; funext p; rw [not_decide_lt]
    · exact fun x hx => decide_eq_true (lt_trans (of_decide_eq_true hx) hb)

theorem inBin_eq (bins : Bins) (i : Nat) (l r : Rat) (h : bins[i]? = some (l, r)) (v : Rat) :
    inBin bins true i v =
      (decide (l ≤ v) && (if i + 1 = bins.length then decide (v ≤ r) else decide (v < r))) := by
  unfold inBin
  rw [h]
  by_cases hin : i + 1 = bins.length
  · simp only [hin, if_true, Bool.true_and, beq_self_eq_true]
    congr 1
    rw [Bool.eq_iff_iff]
    simp [le_iff_lt_or_eq]
  · have hb : (i + 1 == bins.length) = false := beq_eq_false_iff_ne.mpr hin
    simp [hb, hin]

/-- `calc1d` in closed form: for any per-point quantity `f` (the weight, its square), the sums of `f`
    over the slices the sweep assigns to the bins are the sums of `f` over the values inside each bin. -/
theorem calc1d_cells (f : Pt → Rat) (bins : Bins) (data : List Pt) (hb : Rising bins) :
    (sweepAux (sortPts data) bins.length 0 bins).map (fun c => (c.map f).sum)
      = (List.range bins.length).map fun i =>
          ((data.filter fun p => inBin bins true i p.1).map f).sum := by
  apply List.ext_getElem?
  intro i
  rw [List.getElem?_map, sweepAux_getElem?, List.getElem?_map, Nat.zero_add]
  by_cases hi : i < bins.length
  · have hpred : (fun p : Pt => inBin bins true i p.1) = fun p : Pt => decide (bins[i].1 ≤ p.1) &&
        (if i + 1 = bins.length then decide (p.1 ≤ bins[i].2) else decide (p.1 < bins[i].2)) :=
      funext fun p => inBin_eq bins i _ _ (List.getElem?_eq_getElem hi) p.1
    rw [List.getElem?_eq_getElem hi, List.getElem?_range hi, Option.map_some, Option.map_some,
      Option.map_some, binSlice_eq_filter _ (sortPts_sorted data) _ _ _ (hb.lt _ (List.getElem_mem hi)),
      hpred]
    exact congrArg some (((sortPts_perm data).filter _).map f).sum_eq
  · rw [List.getElem?_eq_none (Nat.le_of_not_lt hi),
      List.getElem?_eq_none (by rw [List.length_range]; exact Nat.le_of_not_lt hi)]
    rfl

theorem calc1d_freq_eq (bins : Bins) (data : List Pt) (hb : Rising bins) :
    (calc1d bins data).freq
      = (List.range bins.length).map fun i => wsum (data.filter fun p => inBin bins true i p.1) :=
  calc1d_cells (·.2) bins data hb

theorem calc1d_err2_eq (bins : Bins) (data : List Pt) (hb : Rising bins) :
    (calc1d bins data).err2
      = (List.range bins.length).map fun i => w2sum (data.filter fun p => inBin bins true i p.1) :=
  calc1d_cells (fun p => p.2 * p.2) bins data hb

end Physt
