import Physt.Proofs.ArrayLaws
import Physt.Proofs.MaskedEdges
/-!
# The projection of a histogram is the histogram of the kept columns (C09, "direct" clause)

For every number of axes, every shape, every list of rows (of any lengths).  `cellArr g` is either array
of `calcND` (`g w = w`: contents, `g w = w * w`: squared errors).  The cell of a row splits into its bin on
one axis and its cell on the others (`rowCell_split`), so summing `cellArr` over one axis gives the array,
over the other axes, of the rows that hit that axis, column erased (`cellArr_sumAxis`); iterated over the
axes `HN.projection` sums away (`cellArr_sumAxes`) the kept axes and kept coordinates stay in their original
order (`keptFrom`, `projRows`, `keptRows`).  At histogram level: the NaN mask of the kept columns
(`maskRows_keptOf`), the direct construction passes the same checks (`HN.construct_kept_accepted`), the
plain no-miss hypothesis (`NoMissDropped`, computable as `noMissDroppedB`) and `HN.projection_missed`.

The statements at the level of `calcND` and of histograms are in `Theorems/C09_Direct.lean`.
-/
namespace Physt

/-! ## a cell found along an axis is a bin of that axis (no hypothesis on the bins) -/

theorem maskedEdgesAux_mask_length (bins : Bins) (j : Nat) :
    (maskedEdgesAux bins j).2.length = bins.length := by
  fun_induction maskedEdgesAux bins j <;> simp_all

theorem maskedEdges_mask_length (bins : Bins) : (maskedEdges bins).2.length = bins.length := by
  cases bins with
  | nil => rfl
  | cons c rest =>
    obtain ⟨l, r⟩ := c
    rw [maskedEdges_cons]
    exact maskedEdgesAux_mask_length _ _

theorem axisCell_lt (bins : Bins) (ire : Bool) (x : Rat) (i : Nat) (h : axisCell bins ire x = some i) :
    i < bins.length := by
  rw [axisCell_eq] at h
  split at h
  · cases h
  · split at h
    · rename_i hlt
      cases h
      rw [← maskedEdges_mask_length bins]
      exact hlt
    · cases h

/-! ## the cell of a row, one axis set apart -/

theorem rowCell_cons (a : Bins × Bool) (as : AxesB) (x : Rat) (xs : List Rat) :
    rowCell (a :: as) (x :: xs) = (axisCell a.1 a.2 x).bind fun c => (rowCell as xs).map (c :: ·) := by
  unfold rowCell
  simp only [List.zip_cons_cons, List.mapM_cons, Option.bind_eq_bind, Option.pure_def]
  cases axisCell a.1 a.2 x with
  | none => rfl
  | some c =>
    simp only [Option.bind_some]
    cases List.mapM (fun x => axisCell x.1.1 x.1.2 x.2) (as.zip xs) <;> rfl

theorem rowCell_nil_left (v : List Rat) : rowCell [] v = some [] := by
  simp [rowCell]

theorem rowCell_nil_right (axes : AxesB) : rowCell axes [] = some [] := by
  simp [rowCell]

/-- a cell has one entry per axis that has a coordinate (`zip` stops at the shorter list) -/
theorem rowCell_length_min (axes : AxesB) (v : List Rat) (c : List Nat) (h : rowCell axes v = some c) :
    c.length = min axes.length v.length := by
  induction axes generalizing v c with
  | nil => rw [rowCell_nil_left] at h; cases h; simp
  | cons a as ih =>
    cases v with
    | nil => rw [rowCell_nil_right] at h; cases h; simp
    | cons x xs =>
      rw [rowCell_cons] at h
      cases h1 : axisCell a.1 a.2 x with
      | none => rw [h1] at h; cases h
      | some k =>
        cases h2 : rowCell as xs with
        | none => rw [h1, h2] at h; cases h
        | some cs =>
          rw [h1, h2] at h
          cases h
          simp only [List.length_cons, ih xs cs h2]
          omega

/-- **The cell of a row, axis `j` set apart** (any row that has a `j`-th coordinate): the row has a
    cell iff its `j`-th coordinate has a bin `k` on axis `j` and the other coordinates have a cell
    `idx` on the other axes; the cell is then `idx` with `k` inserted at position `j`. -/
theorem rowCell_split (axes : AxesB) (v : List Rat) (j : Nat) (hj : j < axes.length) (hv : j < v.length) :
    rowCell axes v =
      (axisCell (axes[j]).1 (axes[j]).2 v[j]).bind fun k =>
        (rowCell (axes.eraseIdx j) (v.eraseIdx j)).map fun idx => insAt idx j k := by
  induction j generalizing axes v with
  | zero =>
    cases axes with
    | nil => simp at hj
    | cons a as =>
      cases v with
      | nil => simp at hv
      | cons x xs =>
        rw [rowCell_cons]
        simp only [List.getElem_cons_zero, List.eraseIdx_cons_zero, insAt_zero]
  | succ j ih =>
    cases axes with
    | nil => simp at hj
    | cons a as =>
      cases v with
      | nil => simp at hv
      | cons x xs =>
        have hj' : j < as.length := by simpa using hj
        have hv' : j < xs.length := by simpa using hv
        rw [rowCell_cons, ih as xs hj' hv']
        simp only [List.getElem_cons_succ, List.eraseIdx_cons_succ, rowCell_cons]
        cases axisCell a.1 a.2 x <;> cases axisCell as[j].1 as[j].2 xs[j] <;>
          cases rowCell (as.eraseIdx j) (xs.eraseIdx j) <;> simp

theorem insAt_inj (idx idx' : List Nat) (j k k' : Nat) (h : j ≤ idx.length) (h' : j ≤ idx'.length) :
    insAt idx' j k' = insAt idx j k ↔ idx' = idx ∧ k' = k := by
  induction j generalizing idx idx' with
  | zero => simp [and_comm]
  | succ j ih =>
    cases idx with
    | nil => simp at h
    | cons i is =>
      cases idx' with
      | nil => simp at h'
      | cons i' is' =>
        have := ih is is' (by simpa using h) (by simpa using h')
        simp [this, and_assoc]

theorem rowCell_eq_insAt_iff (axes : AxesB) (v : List Rat) (j : Nat) (hj : j < axes.length)
    (hv : j < v.length) (idx : List Nat) (hidx : idx.length + 1 = axes.length) (k : Nat) :
    rowCell axes v = some (insAt idx j k) ↔
      (axisCell (axes[j]).1 (axes[j]).2 v[j] = some k ∧
        rowCell (axes.eraseIdx j) (v.eraseIdx j) = some idx) := by
  rw [rowCell_split axes v j hj hv]
  cases h1 : axisCell (axes[j]).1 (axes[j]).2 v[j] with
  | none => simp
  | some k0 =>
    cases h2 : rowCell (axes.eraseIdx j) (v.eraseIdx j) with
    | none => simp
    | some idx' =>
      have hl' := rowCell_length_min _ _ _ h2
      rw [List.length_eraseIdx_of_lt hj, List.length_eraseIdx_of_lt hv] at hl'
      simp only [Option.bind_some, Option.map_some, Option.some.injEq]
      rw [insAt_inj idx idx' j k k0 (by omega) (by omega)]
      exact and_comm

/-! ## the two arrays of `calcND`, uniformly -/

/-- the sum of `g weight` over the rows whose cell is `idx` (`g w = w`: contents; `g w = w * w`:
    squared errors) -/
def cellSum (g : Rat → Rat) (axes : AxesB) (rows : List Row) (idx : List Nat) : Rat :=
  (((rows.map fun r => (rowCell axes r.1, r.2)).filter fun c => c.1 == some idx).map fun c => g c.2).sum

def cellArr (g : Rat → Rat) (axes : AxesB) (rows : List Row) : Arr :=
  Arr.ofFn (axes.map (·.1.length)) (cellSum g axes rows)

theorem calcND_freq_eq (axes : AxesB) (rows : List Row) :
    (calcND axes rows).freq = cellArr (fun w => w) axes rows := rfl

theorem calcND_err2_eq (axes : AxesB) (rows : List Row) :
    (calcND axes rows).err2 = cellArr (fun w => w * w) axes rows := rfl

theorem cellSum_nil (g : Rat → Rat) (axes : AxesB) (idx : List Nat) : cellSum g axes [] idx = 0 := rfl

theorem cellSum_cons (g : Rat → Rat) (axes : AxesB) (r : Row) (rs : List Row) (idx : List Nat) :
    cellSum g axes (r :: rs) idx
      = (if rowCell axes r.1 = some idx then g r.2 else 0) + cellSum g axes rs idx := by
  unfold cellSum
  by_cases h : rowCell axes r.1 = some idx
  · simp [h]
  · simp [h]

theorem cellArr_map_congr (g : Rat → Rat) (axes : AxesB) (rows : List Row) (f1 f2 : Row → Row)
    (h : ∀ r ∈ rows, rowCell axes (f1 r).1 = rowCell axes (f2 r).1 ∧ (f1 r).2 = (f2 r).2) :
    cellArr g axes (rows.map f1) = cellArr g axes (rows.map f2) := by
  unfold cellArr
  apply Arr.ofFn_congr
  intro idx
  induction rows with
  | nil => rfl
  | cons r rs ih =>
    obtain ⟨h1, h2⟩ := h r (List.mem_cons_self ..)
    rw [List.map_cons, List.map_cons, cellSum_cons, cellSum_cons, h1, h2,
      ih (fun q hq => h q (List.mem_cons_of_mem _ hq))]

/-- the row has a coordinate `j` and that coordinate lies in some bin of axis `j` -/
def hitsAxis (axes : AxesB) (j : Nat) (v : List Rat) : Bool :=
  match axes[j]?, v[j]? with
  | some a, some x => (axisCell a.1 a.2 x).isSome
  | _, _ => false

/-- the rows that did not miss axis `j`, with column `j` erased -/
def hitRows (axes : AxesB) (j : Nat) (rows : List Row) : List Row :=
  (rows.filter fun r => hitsAxis axes j r.1).map fun r => (r.1.eraseIdx j, r.2)

theorem hitRows_cons_pos (axes : AxesB) (j : Nat) (r : Row) (rs : List Row) (h : hitsAxis axes j r.1 = true) :
    hitRows axes j (r :: rs) = (r.1.eraseIdx j, r.2) :: hitRows axes j rs := by
  simp [hitRows, h]

theorem hitRows_cons_neg (axes : AxesB) (j : Nat) (r : Row) (rs : List Row) (h : ¬ hitsAxis axes j r.1 = true) :
    hitRows axes j (r :: rs) = hitRows axes j rs := by
  simp [hitRows, h]

theorem hitsAxis_eq (axes : AxesB) (j : Nat) (v : List Rat) (hj : j < axes.length) (hv : j < v.length) :
    hitsAxis axes j v = (axisCell (axes[j]).1 (axes[j]).2 v[j]).isSome := by
  unfold hitsAxis
  rw [List.getElem?_eq_getElem hj, List.getElem?_eq_getElem hv]

theorem hitsAxis_short (axes : AxesB) (j : Nat) (v : List Rat) (hv : v.length ≤ j) : hitsAxis axes j v = false := by
  unfold hitsAxis
  rw [List.getElem?_eq_none hv]
  cases axes[j]? <;> rfl

/-- one row (of any length), summed along axis `j`: it is counted (once) iff it hits axis `j` and
    its other coordinates have the cell `idx` -/
theorem sum_range_rowCell (axes : AxesB) (v : List Rat) (j : Nat) (hj : j < axes.length)
    (idx : List Nat) (hidx : idx.length + 1 = axes.length) (x : Rat) :
    ((List.range (axes[j]).1.length).map fun k =>
        if rowCell axes v = some (insAt idx j k) then x else 0).sum
      = if hitsAxis axes j v = true ∧ rowCell (axes.eraseIdx j) (v.eraseIdx j) = some idx then x else 0 := by
  by_cases hv : j < v.length
  · rw [hitsAxis_eq axes j v hj hv]
    simp only [rowCell_eq_insAt_iff axes v j hj hv idx hidx]
    cases h1 : axisCell (axes[j]).1 (axes[j]).2 v[j] with
    | none => simp
    | some k0 =>
      have hk0 := axisCell_lt _ _ _ _ h1
      by_cases h2 : rowCell (axes.eraseIdx j) (v.eraseIdx j) = some idx
      · simp only [h2, and_true, Option.some.injEq, Option.isSome_some, and_self, if_true]
        exact (sum_range_single _ k0 _ hk0 fun k _ hne => if_neg (Ne.symm hne)).trans (if_pos rfl)
      · simp [h2]
  · -- the row has no `j`-th coordinate: its cell is too short to be a cell of the parent
    rw [hitsAxis_short axes j v (by omega)]
    have hne : ∀ k, ¬ rowCell axes v = some (insAt idx j k) := by
      intro k hc
      have := rowCell_length_min _ _ _ hc
      rw [length_insAt] at this
      omega
    simp [hne]

/-- **Fubini for the rows**: summing the cell sums along axis `j` gives the cell sum, over the
    other axes, of the rows that hit axis `j` -/
theorem sum_range_cellSum (g : Rat → Rat) (axes : AxesB) (rows : List Row) (j : Nat) (hj : j < axes.length)
    (idx : List Nat) (hidx : idx.length + 1 = axes.length) :
    ((List.range (axes[j]).1.length).map fun k => cellSum g axes rows (insAt idx j k)).sum
      = cellSum g (axes.eraseIdx j) (hitRows axes j rows) idx := by
  induction rows with
  | nil => simp only [cellSum_nil, List.sum_map_zero]; rfl
  | cons r rs ih =>
    simp only [cellSum_cons]
    rw [List.sum_map_add, ih, sum_range_rowCell axes r.1 j hj idx hidx (g r.2)]
    by_cases hh : hitsAxis axes j r.1 = true
    · rw [hitRows_cons_pos axes j r rs hh, cellSum_cons]
      simp only [hh, true_and]
    · rw [hitRows_cons_neg axes j r rs hh]
      simp [hh]

/-! ## one axis summed out -/

theorem cellArr_shape (g : Rat → Rat) (axes : AxesB) (rows : List Row) :
    (cellArr g axes rows).shape = axes.map (·.1.length) := rfl

theorem cellArr_wellShaped (g : Rat → Rat) (axes : AxesB) (rows : List Row) : (cellArr g axes rows).WellShaped :=
  Arr.wellShaped_ofFn _ _

theorem removeAt_shape (axes : AxesB) (j : Nat) :
    Arr.removeAt (axes.map (·.1.length)) j = (axes.eraseIdx j).map (·.1.length) := by
  simp [Arr.removeAt, List.eraseIdx_map]

/-- **Summing out one axis, general form** (either array of `calcND`; rows of any length): the sum
    over axis `j` is the array, over the remaining axes, of exactly the rows whose `j`-th coordinate
    lies in some bin of axis `j`, with that coordinate erased. -/
theorem cellArr_sumAxis (g : Rat → Rat) (axes : AxesB) (rows : List Row) (j : Nat) (hj : j < axes.length) :
    (cellArr g axes rows).sumAxis j = cellArr g (axes.eraseIdx j) (hitRows axes j rows) := by
  have hs : ((cellArr g axes rows).sumAxis j).shape = (cellArr g (axes.eraseIdx j) (hitRows axes j rows)).shape := by
    rw [Arr.shape_sumAxis, cellArr_shape, cellArr_shape, removeAt_shape]
  apply Arr.ext_get _ _ (Arr.wellShaped_sumAxis _ _) (cellArr_wellShaped _ _ _) hs
  intro idx hv
  rw [hs, cellArr_shape] at hv
  have hidx : idx.length + 1 = axes.length := by
    have := validIdx_length _ _ hv
    rw [List.length_map, List.length_eraseIdx_of_lt hj] at this
    omega
  have hn : (cellArr g axes rows).shape[j]?.getD 0 = (axes[j]).1.length := by
    simp [cellArr_shape, List.getElem?_eq_getElem hj]
  rw [Arr.get_sumAxis_insAt _ j idx (by simpa [cellArr_shape] using hj), hn]
  unfold cellArr
  rw [Arr.get_ofFn _ _ _ hv, ← sum_range_cellSum g axes rows j hj idx hidx]
  apply congrArg List.sum
  apply List.map_congr_left
  intro k hk
  apply Arr.get_ofFn
  rw [validIdx_insAt _ _ _ _ (by simpa using hj)]
  refine ⟨by rw [removeAt_shape]; exact hv, ?_⟩
  simpa [List.getElem?_eq_getElem hj] using List.mem_range.mp hk

theorem hitRows_all (axes : AxesB) (j : Nat) (rows : List Row) (hall : ∀ r ∈ rows, hitsAxis axes j r.1 = true) :
    hitRows axes j rows = rows.map fun r => (r.1.eraseIdx j, r.2) := by
  unfold hitRows
  rw [List.filter_eq_self.mpr hall]

/-! ## any set of axes summed out -/

/-- the entries of `A` kept below position `m`, followed by all entries from `m` on
    (`keptFrom A keep A.length = keptOf A keep A.length`: the kept entries, in their original order) -/
def keptFrom {α} (A : List α) (keep : Nat → Bool) (m : Nat) : List α := keptOf A keep m ++ A.drop m

/-- the row did not miss any of the dropped axes below `m` -/
def hitsDropped (axes : AxesB) (keep : Nat → Bool) (m : Nat) (v : List Rat) : Bool :=
  (List.range m).all fun i => keep i || hitsAxis axes i v

/-- the rows that did not miss any dropped axis below `m`, reduced to their kept coordinates -/
def projRows (axes : AxesB) (keep : Nat → Bool) (m : Nat) (rows : List Row) : List Row :=
  (rows.filter fun r => hitsDropped axes keep m r.1).map fun r => (keptFrom r.1 keep m, r.2)

theorem keptFrom_zero {α} (A : List α) (keep : Nat → Bool) : keptFrom A keep 0 = A := by
  simp [keptFrom, keptOf]

theorem keptFrom_length_self {α} (A : List α) (keep : Nat → Bool) : keptFrom A keep A.length = keptOf A keep A.length := by
  simp [keptFrom]

theorem drop_eq_toList_append {α} (A : List α) (m : Nat) : A.drop m = A[m]?.toList ++ A.drop (m + 1) := by
  by_cases hm : m < A.length
  · rw [List.drop_eq_getElem_cons hm, List.getElem?_eq_getElem hm]; rfl
  · rw [List.drop_eq_nil_of_le (by omega), List.drop_eq_nil_of_le (by omega), List.getElem?_eq_none (by omega)]
    rfl

theorem keptFrom_succ_keep {α} (A : List α) (keep : Nat → Bool) (m : Nat) (hk : keep m = true) :
    keptFrom A keep (m + 1) = keptFrom A keep m := by
  unfold keptFrom
  rw [keptOf_succ', hk, if_pos rfl, List.append_assoc, ← drop_eq_toList_append]

theorem drop_eraseIdx_self {α} (A : List α) (m : Nat) : (A.eraseIdx m).drop m = A.drop (m + 1) := by
  apply List.ext_getElem?
  intro i
  rw [List.getElem?_drop, List.getElem?_drop, List.getElem?_eraseIdx_of_ge (by omega)]
  congr 1
  omega

theorem keptFrom_succ_drop {α} (A : List α) (keep : Nat → Bool) (m : Nat) (hk : keep m = false) :
    keptFrom A keep (m + 1) = keptFrom (A.eraseIdx m) keep m := by
  unfold keptFrom
  rw [keptOf_succ', hk, keptOf_eraseIdx, drop_eraseIdx_self]
  simp

theorem hitsDropped_zero (axes : AxesB) (keep : Nat → Bool) (v : List Rat) : hitsDropped axes keep 0 v = true := rfl

theorem hitsDropped_succ (axes : AxesB) (keep : Nat → Bool) (m : Nat) (v : List Rat) :
    hitsDropped axes keep (m + 1) v = (hitsDropped axes keep m v && (keep m || hitsAxis axes m v)) := by
  unfold hitsDropped
  rw [List.range_succ, List.all_append, List.all_cons, List.all_nil, Bool.and_true]

theorem hitsAxis_eraseIdx (axes : AxesB) (v : List Rat) (i m : Nat) (h : i < m) :
    hitsAxis (axes.eraseIdx m) i (v.eraseIdx m) = hitsAxis axes i v := by
  unfold hitsAxis
  rw [List.getElem?_eraseIdx_of_lt h, List.getElem?_eraseIdx_of_lt h]

theorem hitsDropped_eraseIdx (axes : AxesB) (keep : Nat → Bool) (v : List Rat) (m n : Nat) (h : n ≤ m) :
    hitsDropped (axes.eraseIdx m) keep n (v.eraseIdx m) = hitsDropped axes keep n v := by
  induction n with
  | zero => rfl
  | succ n ih => rw [hitsDropped_succ, hitsDropped_succ, ih (by omega), hitsAxis_eraseIdx axes v n m (by omega)]

theorem projRows_zero (axes : AxesB) (keep : Nat → Bool) (rows : List Row) : projRows axes keep 0 rows = rows := by
  simp [projRows, hitsDropped_zero, keptFrom_zero]

theorem projRows_cons (axes : AxesB) (keep : Nat → Bool) (m : Nat) (r : Row) (rs : List Row) :
    projRows axes keep m (r :: rs)
      = if hitsDropped axes keep m r.1 = true then (keptFrom r.1 keep m, r.2) :: projRows axes keep m rs
        else projRows axes keep m rs := by
  unfold projRows
  by_cases h : hitsDropped axes keep m r.1 = true <;> simp [h]

theorem projRows_succ_keep (axes : AxesB) (keep : Nat → Bool) (m : Nat) (rows : List Row) (hk : keep m = true) :
    projRows axes keep (m + 1) rows = projRows axes keep m rows := by
  induction rows with
  | nil => rfl
  | cons r rs ih =>
    rw [projRows_cons, projRows_cons, ih, hitsDropped_succ, hk, keptFrom_succ_keep r.1 keep m hk]
    simp

theorem projRows_succ_drop (axes : AxesB) (keep : Nat → Bool) (m : Nat) (rows : List Row) (hk : keep m = false) :
    projRows axes keep (m + 1) rows = projRows (axes.eraseIdx m) keep m (hitRows axes m rows) := by
  induction rows with
  | nil => rfl
  | cons r rs ih =>
    rw [projRows_cons, ih, hitsDropped_succ, hk, keptFrom_succ_drop r.1 keep m hk]
    by_cases hh : hitsAxis axes m r.1 = true
    · rw [hitRows_cons_pos axes m r rs hh, projRows_cons]
      simp only [hitsDropped_eraseIdx axes keep r.1 m m (Nat.le_refl _), hh, Bool.false_or, Bool.and_true]
    · rw [hitRows_cons_neg axes m r rs hh]
      simp [hh]

/-- **Summing out any set of axes, general form** (either array of `calcND`; rows of any length):
    summing away the axes below `m` that are not kept gives the array, over the kept axes in their
    original order (and the axes from `m` on), of exactly the rows that missed none of the dropped
    axes, reduced to the kept coordinates in their original order. -/
theorem cellArr_sumAxes (g : Rat → Rat) (keep : Nat → Bool) (m : Nat) (axes : AxesB) (rows : List Row)
    (hm : m ≤ axes.length) :
    (cellArr g axes rows).sumAxes (dropList m keep)
      = cellArr g (keptFrom axes keep m) (projRows axes keep m rows) := by
  induction m generalizing axes rows with
  | zero => rw [keptFrom_zero, projRows_zero]; rfl
  | succ m ih =>
    have hm' : m < axes.length := by omega
    rw [dropList_succ]
    cases hk : keep m with
    | true =>
      rw [keptFrom_succ_keep axes keep m hk, projRows_succ_keep axes keep m rows hk]
      simpa using ih axes rows (by omega)
    | false =>
      rw [keptFrom_succ_drop axes keep m hk, projRows_succ_drop axes keep m rows hk]
      simp only [Bool.false_eq_true, if_false, List.singleton_append, Arr.sumAxes_cons]
      rw [cellArr_sumAxis g axes rows m hm']
      exact ih (axes.eraseIdx m) (hitRows axes m rows) (by rw [List.length_eraseIdx_of_lt hm']; omega)

/-! ## back to `calcND` -/

/-- the rows that missed none of the dropped axes (of `n`), reduced to the kept coordinates in
    their original order -/
def keptRows (axes : AxesB) (keep : Nat → Bool) (n : Nat) (rows : List Row) : List Row :=
  (rows.filter fun r => hitsDropped axes keep n r.1).map fun r => (keptOf r.1 keep n, r.2)

/-- coordinates beyond the last axis are never looked at -/
theorem rowCell_append_of_le (axes : AxesB) (u t : List Rat) (h : axes.length ≤ u.length) :
    rowCell axes (u ++ t) = rowCell axes u := by
  induction axes generalizing u with
  | nil => rw [rowCell_nil_left, rowCell_nil_left]
  | cons a as ih =>
    cases u with
    | nil => simp at h
    | cons x xs =>
      rw [List.cons_append, rowCell_cons, rowCell_cons, ih xs (by simpa using h)]

theorem keptOf_length_le {α} (A : List α) (keep : Nat → Bool) (m : Nat) : (keptOf A keep m).length ≤ keptBelow keep m := by
  unfold keptOf keptBelow
  exact List.length_filterMap_le _ _

/-- the rows of `projRows` and of `keptRows` differ only by coordinates beyond the last kept axis -/
theorem cellArr_projRows (g : Rat → Rat) (axes : AxesB) (keep : Nat → Bool) (rows : List Row) :
    cellArr g (keptOf axes keep axes.length) (projRows axes keep axes.length rows)
      = cellArr g (keptOf axes keep axes.length) (keptRows axes keep axes.length rows) := by
  unfold projRows keptRows
  apply cellArr_map_congr
  intro r _
  refine ⟨?_, rfl⟩
  show rowCell _ (keptFrom r.1 keep axes.length) = rowCell _ (keptOf r.1 keep axes.length)
  unfold keptFrom
  by_cases hl : axes.length ≤ r.1.length
  · apply rowCell_append_of_le
    rw [keptOf_length _ _ _ (Nat.le_refl _), keptOf_length _ _ _ hl]
  · rw [List.drop_eq_nil_of_le (by omega), List.append_nil]

theorem keptRows_all (axes : AxesB) (keep : Nat → Bool) (n : Nat) (rows : List Row)
    (hall : ∀ r ∈ rows, hitsDropped axes keep n r.1 = true) :
    keptRows axes keep n rows = rows.map fun r => (keptOf r.1 keep n, r.2) := by
  unfold keptRows
  rw [List.filter_eq_self.mpr hall]

/-! ## histogram level -/

theorem mem_keptOf {α} (A : List α) (keep : Nat → Bool) (m : Nat) (x : α) (h : x ∈ keptOf A keep m) : x ∈ A := by
  unfold keptOf at h
  obtain ⟨i, _, hi⟩ := List.mem_filterMap.mp h
  exact List.mem_of_getElem? hi

theorem all_keptOf {α} (A : List α) (p : α → Bool) (keep : Nat → Bool) (m : Nat) (h : A.all p = true) :
    (keptOf A keep m).all p = true := by
  rw [List.all_eq_true] at h ⊢
  intro x hx
  exact h x (mem_keptOf A keep m x hx)

/-- a complete row reduced to its kept columns, NaN mask before or after -/
theorem filterMap_id_keptOf (r : List (Option Rat)) (keep : Nat → Bool) (m : Nat) (h : r.all Option.isSome = true) :
    (keptOf r keep m).filterMap id = keptOf (r.filterMap id) keep m := by
  conv => lhs; rw [← map_some_filterMap_id r h, keptOf_map]
  exact filterMap_id_map_some _

theorem keptRows_cons (axes : AxesB) (keep : Nat → Bool) (n : Nat) (r : Row) (R : List Row) :
    keptRows axes keep n (r :: R)
      = if hitsDropped axes keep n r.1 = true then (keptOf r.1 keep n, r.2) :: keptRows axes keep n R
        else keptRows axes keep n R := by
  unfold keptRows
  by_cases h : hitsDropped axes keep n r.1 = true <;> simp [h]

theorem maskRows_keptOf_step (axes : AxesB) (keep : Nat → Bool) (n : Nat) (q : List (Option Rat)) (w : Rat)
    (L R : List Row)
    (hnm : (keptOf q keep n).all Option.isSome = true →
      q.all Option.isSome = true ∧ hitsDropped axes keep n (q.filterMap id) = true)
    (hLR : L = keptRows axes keep n R) :
    (if (keptOf q keep n).all Option.isSome = true then ((keptOf q keep n).filterMap id, w) :: L else L)
      = keptRows axes keep n (if q.all Option.isSome = true then (q.filterMap id, w) :: R else R) := by
  by_cases hk : (keptOf q keep n).all Option.isSome = true
  · obtain ⟨h1, h2⟩ := hnm hk
    rw [if_pos hk, if_pos h1, hLR, filterMap_id_keptOf q keep n h1, keptRows_cons, if_pos h2]
  · have h1 : ¬ q.all Option.isSome = true := fun h => hk (all_keptOf q _ keep n h)
    rw [if_neg hk, if_neg h1, hLR]

/-- **The NaN mask of the kept columns.**  If every row that is complete in its kept columns is
    complete and hits the dropped axes, masking the kept columns gives the masked rows that missed
    no dropped axis, reduced to their kept coordinates (weights stay paired). -/
theorem maskRows_keptOf (axes : AxesB) (keep : Nat → Bool) (n : Nat) (rows : List (List (Option Rat)))
    (ws : Option (List Rat))
    (hnm : ∀ q ∈ rows, (keptOf q keep n).all Option.isSome = true →
      q.all Option.isSome = true ∧ hitsDropped axes keep n (q.filterMap id) = true) :
    maskRows (rows.map fun q => keptOf q keep n) ws = keptRows axes keep n (maskRows rows ws) := by
  induction rows generalizing ws with
  | nil => cases ws <;> rfl
  | cons q qs ih =>
    have ih' := fun ws => ih ws (fun q' hq' => hnm q' (List.mem_cons_of_mem _ hq'))
    have hq := hnm q (List.mem_cons_self ..)
    cases ws with
    | none =>
      simp only [List.map_cons, maskRows]
      exact maskRows_keptOf_step axes keep n q 1 _ _ hq (ih' none)
    | some w =>
      cases w with
      | nil => rfl
      | cons w0 w' =>
        simp only [List.map_cons, maskRows]
        exact maskRows_keptOf_step axes keep n q w0 _ _ hq (ih' (some w'))

def keepOf (ax : List Nat) : Nat → Bool := fun i => ax.contains i

theorem axesOf_length (fo : FloatOps) (axes : List Binning) : (axesOf fo axes).length = axes.length := by
  simp [axesOf]

theorem keptOf_axesOf (fo : FloatOps) (axes : List Binning) (keep : Nat → Bool) (m : Nat) :
    keptOf (axesOf fo axes) keep m = axesOf fo (keptOf axes keep m) := by
  unfold axesOf
  exact keptOf_map axes _ keep m

/-! ### the plain form of "no row has a NaN in, or misses, a dropped column" -/

/-- every row has, in every dropped column, a number that lies in some bin of that axis -/
def NoMissDropped (fo : FloatOps) (axes : List Binning) (keep : Nat → Bool) (data : List (List (Option Rat))) : Prop :=
  ∀ q ∈ data, ∀ i b, keep i = false → axes[i]? = some b →
    ∃ x, q[i]? = some (some x) ∧ (axisCell (b.bins fo) b.ire x).isSome = true

theorem mem_keptOf_of {α} (A : List α) (keep : Nat → Bool) (m i : Nat) (x : α) (hi : i < m) (hk : keep i = true)
    (hx : A[i]? = some x) : x ∈ keptOf A keep m := by
  unfold keptOf
  exact List.mem_filterMap.mpr ⟨i, List.mem_filter.mpr ⟨List.mem_range.mpr hi, hk⟩, hx⟩

theorem getElem?_filterMap_id (q : List (Option Rat)) (h : q.all Option.isSome = true) (i : Nat) (x : Rat)
    (hx : q[i]? = some (some x)) : (q.filterMap id)[i]? = some x := by
  have e := map_some_filterMap_id q h
  generalize q.filterMap id = v at e ⊢
  subst e
  simpa using hx

theorem noMiss_weak (fo : FloatOps) (axes : List Binning) (keep : Nat → Bool) (data : List (List (Option Rat)))
    (hcol : ∀ q ∈ data, q.length = axes.length) (hno : NoMissDropped fo axes keep data) :
    ∀ q ∈ data, (keptOf q keep axes.length).all Option.isSome = true →
      q.all Option.isSome = true ∧ hitsDropped (axesOf fo axes) keep axes.length (q.filterMap id) = true := by
  intro q hq hk
  have hall : q.all Option.isSome = true := by
    rw [List.all_eq_true] at hk ⊢
    intro x hx
    obtain ⟨i, hi, rfl⟩ := List.getElem_of_mem hx
    have hin : i < axes.length := by rw [← hcol q hq]; exact hi
    cases hki : keep i with
    | true => exact hk _ (mem_keptOf_of q keep axes.length i _ hin hki (List.getElem?_eq_getElem hi))
    | false =>
      obtain ⟨x, h1, _⟩ := hno q hq i axes[i] hki (List.getElem?_eq_getElem hin)
      rw [List.getElem?_eq_getElem hi] at h1
      rw [Option.some.inj h1]; rfl
  refine ⟨hall, ?_⟩
  unfold hitsDropped
  rw [List.all_eq_true]
  intro i hi
  have hin : i < axes.length := List.mem_range.mp hi
  cases hki : keep i with
  | true => rfl
  | false =>
    obtain ⟨x, h1, h2⟩ := hno q hq i axes[i] hki (List.getElem?_eq_getElem hin)
    have e1 : (axesOf fo axes)[i]? = some ((axes[i]).bins fo, (axes[i]).ire) := by
      simp [axesOf, List.getElem?_eq_getElem hin]
    simp only [Bool.false_or, hitsAxis, e1, getElem?_filterMap_id q hall i x h1, h2]

/-- **The direct construction is accepted** whenever the parent construction was: the kept columns
    pass the argument checks of `construct` over the kept binnings (same weights, same `dropna`). -/
theorem HN.construct_kept_accepted (fo : FloatOps) (axes : List Binning) (data : List (List (Option Rat)))
    (ws : Option (List Rat)) (wkind : DType) (dropna : Bool) (names : Option (List String)) (h : HN)
    (hc : HN.construct fo axes data ws wkind dropna names = .ok h)
    (keep : Nat → Bool) (wkind' : DType) (names' : Option (List String)) :
    ∃ c, HN.construct fo (keptOf axes keep axes.length) (data.map fun q => keptOf q keep axes.length)
      ws wkind' dropna names' = .ok c := by
  obtain ⟨h1, h2, h3, h4, _⟩ := (HN.construct_ok_iff fo axes data ws wkind dropna names h).mp hc
  refine ⟨_, (HN.construct_ok_iff _ _ _ _ _ _ _ _).mpr ⟨?_, ?_, ?_, ?_, rfl⟩⟩
  · rw [List.any_eq_false] at h1 ⊢
    intro r hr
    obtain ⟨q, hq, rfl⟩ := List.mem_map.mp hr
    have hq' : q.length = axes.length := by simpa using h1 q hq
    rw [keptOf_length _ _ _ (by rw [hq']), keptOf_length _ _ _ (Nat.le_refl _)]
    simp
  · cases dropna with
    | true => rfl
    | false =>
      simp only [Bool.not_false, Bool.true_and, List.any_eq_false] at h2 ⊢
      intro r hr
      obtain ⟨q, hq, rfl⟩ := List.mem_map.mp hr
      rw [List.any_eq_true]
      rintro ⟨x, hx, hxn⟩
      exact h2 q hq (List.any_eq_true.mpr ⟨x, mem_keptOf q keep _ x hx, hxn⟩)
  · simpa using h3
  · rw [List.any_eq_false] at h4 ⊢
    intro b hb
    exact h4 b (mem_keptOf axes keep _ b hb)

/-- a computable form of `NoMissDropped` (for closed examples) -/
def noMissDroppedB (fo : FloatOps) (axes : List Binning) (keep : Nat → Bool) (data : List (List (Option Rat))) : Bool :=
  data.all fun q => (List.range axes.length).all fun i => keep i ||
    (match axes[i]?, q[i]? with
     | some b, some (some x) => (axisCell (b.bins fo) b.ire x).isSome
     | _, _ => false)

theorem noMissDropped_of_B (fo : FloatOps) (axes : List Binning) (keep : Nat → Bool) (data : List (List (Option Rat)))
    (hB : noMissDroppedB fo axes keep data = true) : NoMissDropped fo axes keep data := by
  intro q hq i b hk hb
  have hi : i < axes.length := (List.getElem?_eq_some_iff.mp hb).1
  unfold noMissDroppedB at hB
  have h1 := List.all_eq_true.mp (List.all_eq_true.mp hB q hq) i (List.mem_range.mpr hi)
  rw [hk, hb, Bool.false_or] at h1
  split at h1
  · next b' x hb' hx => cases hb'; exact ⟨x, hx, h1⟩
  · cases h1

/-- the projection of any histogram reports no missed weight (the model follows physt here) -/
theorem HN.projection_missed (h r : HN) (sel : List (Sum Int String)) (hr : h.projection sel = .ok r) :
    r.missed = some 0 := by
  obtain ⟨ax, _, e⟩ := HN.projection_eq h r sel hr
  rw [e]

end Physt
