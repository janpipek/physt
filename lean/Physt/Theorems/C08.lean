import Physt.Model.Json
/-!
# C08 — JSON round trip reproduces the histogram exactly
-/
namespace Physt
open H1

/-- **Round trip.** Reading back what was written reproduces bins (type and parameters), contents,
    squared errors, dtype, the three missed slots (NaN markers included), `keep_missed` and
    adaptivity. -/
theorem C08_roundtrip (fo : FloatOps) (h : H1) : fromDict (toDict fo h) = canon fo h := by
  unfold fromDict toDict canon
  cases h.keep <;> simp

/-- the pinned observables are literally preserved -/
theorem C08_fields (fo : FloatOps) (h : H1) :
    (fromDict (toDict fo h)).freq = h.freq ∧ (fromDict (toDict fo h)).err2 = h.err2 ∧
    (fromDict (toDict fo h)).dtype = h.dtype ∧ (fromDict (toDict fo h)).keep = h.keep ∧
    (fromDict (toDict fo h)).underflow = h.underflow ∧ (fromDict (toDict fo h)).overflow = h.overflow ∧
    (fromDict (toDict fo h)).innerMissed = h.innerMissed ∧
    (fromDict (toDict fo h)).binning.isAdaptive = h.binning.isAdaptive := by
  rw [C08_roundtrip]
  refine ⟨rfl, rfl, rfl, rfl, ?_⟩
  -- the missed slots depend on `keep` only, adaptivity on the kind of binning only
  unfold underflow overflow innerMissed canon
  cases h.keep <;> cases h.binning <;> exact ⟨rfl, rfl, rfl, rfl⟩

theorem binning_dict_roundtrip (fo : FloatOps) (b : Binning) : (b.toDict fo).toBinning.toDict fo = b.toDict fo := by
  cases b <;> rfl

/-- the bins (bit-identical edges) survive; for a fixed-width binning the grid parameters do -/
theorem C08_bins (fo : FloatOps) (h : H1) : (fromDict (toDict fo h)).bins fo = h.bins fo := by
  unfold fromDict toDict H1.bins
  cases h.binning with
  | static b i => rfl
  | fixed g => simp [Binning.toDict, BinningDict.toBinning, Binning.bins, Grid.bins, Grid.edgeAt]

/-- **Stability.** Serialising the parsed object again gives the same document. -/
theorem C08_stable (fo : FloatOps) (h : H1) (hk : h.keep = true) : toDict fo (fromDict (toDict fo h)) = toDict fo h := by
  unfold toDict fromDict
  simp [hk, binning_dict_roundtrip]

theorem C08_stable_off (fo : FloatOps) (h : H1) (hk : h.keep = false) :
    toDict fo (fromDict (toDict fo (fromDict (toDict fo h)))) = toDict fo (fromDict (toDict fo h)) := by
  unfold toDict fromDict
  simp [hk, binning_dict_roundtrip]

theorem cmpRelease_refl (a : List Nat) : cmpRelease a a = .eq := by
  induction a with
  | nil => rfl
  | cons x xs ih => simp [cmpRelease, ih]

theorem cmpPre_refl (a : Option (Nat × Nat)) : cmpPre a a = .eq := by
  cases a with
  | none => rfl
  | some p => obtain ⟨k, n⟩ := p; simp [cmpPre]

/-- **Version gate.** A document is refused iff the running version is older than the one it
    requires; a document requiring exactly the running version (or an older one, e.g. a smaller
    patch number) is accepted; a newer patch, minor or major number is refused; a pre-release of a
    version is older than the version itself. -/
theorem C08_version (cur : Version) :
    versionRefused cur cur = false ∧
    versionRefused ⟨[0, 8, 4], none⟩ ⟨[0, 8, 5], none⟩ = true ∧
    versionRefused ⟨[0, 8, 4], none⟩ ⟨[0, 8, 14], none⟩ = true ∧
    versionRefused ⟨[0, 8, 4], none⟩ ⟨[0, 9], none⟩ = true ∧
    versionRefused ⟨[0, 8, 4], none⟩ ⟨[1], none⟩ = true ∧
    versionRefused ⟨[0, 8, 4], none⟩ ⟨[0, 8, 4, 0], none⟩ = false ∧
    versionRefused ⟨[0, 8, 4], none⟩ ⟨[0, 8, 3], none⟩ = false ∧
    versionRefused ⟨[0, 8, 4], none⟩ ⟨[0, 3, 20], none⟩ = false ∧
    versionRefused ⟨[0, 8, 4], some (2, 1)⟩ ⟨[0, 8, 4], none⟩ = true ∧
    versionRefused ⟨[0, 8, 4], none⟩ ⟨[0, 8, 4], some (2, 1)⟩ = false := by
  refine ⟨?_, by decide⟩
  simp [versionRefused, Version.cmp, cmpRelease_refl, cmpPre_refl]

theorem cmpRelease_nil_right (l : List Nat) : cmpRelease l [] ≠ .lt := by
  induction l with
  | nil => simp [cmpRelease, allZero]
  | cons z zs ih => simp only [cmpRelease]; split <;> simp_all

theorem cmpRelease_nil_left (l : List Nat) (h : cmpRelease [] l = .lt) : cmpRelease l [] = .gt := by
  induction l with
  | nil => simp [cmpRelease, allZero] at h
  | cons y ys ih =>
    simp only [cmpRelease, allZero] at h ⊢
    by_cases hy : y = 0
    · subst hy
      simp only [beq_self_eq_true, Bool.true_and] at h
      simp only [if_true]
      apply ih
      simp only [cmpRelease]; exact h
    · simp [hy]

/-- the order on release tuples is antisymmetric in the sense the gate needs: if `a` is older than
    `b` then `b` is newer than `a` (so the two directions can never both be refused) -/
theorem cmpRelease_antisymm (a b : List Nat) : cmpRelease a b = .lt → cmpRelease b a = .gt := by
  induction a generalizing b with
  | nil => exact cmpRelease_nil_left b
  | cons x xs ih =>
    cases b with
    | nil => intro h; exact absurd h (cmpRelease_nil_right _)
    | cons y ys =>
      simp only [cmpRelease]
      by_cases h1 : x < y
      · have : ¬ y < x := by omega
        simp [h1, this]
      · by_cases h2 : y < x
        · simp [h1, h2]
        · simp only [h1, h2, if_false]; exact ih ys

/-! Non-vacuity: a histogram with NaN markers and tracking on -/
example : fromDict (toDict FloatOps.exact
    { binning := .static [(0, 1), (2, 3)] true, freq := [1, 2], err2 := [1, 4], under := none, over := none, keep := true })
    = { binning := .static [(0, 1), (2, 3)] true, freq := [1, 2], err2 := [1, 4], under := none, over := none, keep := true,
        stats := Stats.invalid } := by decide +kernel

end Physt
