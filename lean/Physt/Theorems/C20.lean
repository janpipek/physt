import Physt.Model.Plot
import Mathlib.Algebra.Order.Field.Rat
/-!
# C20 — plots show exactly the histogram's data and never modify it

Plot functions are pure in the model (they map a histogram value to lists of marks), so
"plotting never modifies the histogram" is a correspondence-only clause (snapshot before / after);
rendering, colour maps and layout of the backends are outside the model.
-/
namespace Physt

theorem cumsumFrom_length (acc : Rat) (l : List Rat) : (cumsumFrom acc l).length = l.length := by
  induction l generalizing acc with
  | nil => rfl
  | cons x xs ih => exact congrArg (· + 1) (ih _)

/-- the last running sum is the total; `getD acc` covers the empty list, so the induction needs no
    case split on the tail -/
theorem cumsumFrom_getLast (acc : Rat) (l : List Rat) :
    (cumsumFrom acc l).getLast?.getD acc = acc + l.sum := by
  induction l generalizing acc with
  | nil => exact (add_zero acc).symm
  | cons x xs ih => rw [cumsumFrom, List.getLast?_cons, Option.getD_some, ih, List.sum_cons, add_assoc]

/-- **Heights**: the frequencies, the densities (`density=True`) or the cumulative sums
    (`cumulative=True`, ending at the total). -/
theorem C20_heights (freq sizes : List Rat) :
    getData freq sizes false false = freq ∧
    getData freq sizes true false = List.zipWith (· / ·) freq sizes ∧
    (getData freq sizes false true).length = freq.length ∧
    (freq ≠ [] → (getData freq sizes false true).getLast? = some freq.sum) := by
  refine ⟨rfl, rfl, cumsumFrom_length 0 freq, fun h => ?_⟩
  obtain ⟨x, xs, rfl⟩ := List.exists_cons_of_ne_nil h
  show (cumsumFrom 0 (x :: xs)).getLast? = _
  rw [cumsumFrom, List.getLast?_cons, cumsumFrom_getLast, List.sum_cons, zero_add]

/-- **Bars sit at the bins' left edges with the bins' widths** and the requested heights; line /
    scatter / fill marks sit at the bin centres. -/
theorem C20_bar_geometry (bins : Bins) (data : List Rat) (i : Nat) (b : Bin) (d : Rat)
    (hb : bins[i]? = some b) (hd : data[i]? = some d) :
    (barMarks bins data)[i]? = some { left := b.1, width := b.2 - b.1, height := d } ∧
    (centreMarks bins data)[i]? = some ((b.1 + b.2) / 2, d) := by
  simp only [barMarks, centreMarks, List.getElem?_zipWith, hb, hd, and_self]

/-- one bar / one point per bin -/
theorem C20_one_mark_per_bin (bins : Bins) (data : List Rat) (h : data.length = bins.length) :
    (barMarks bins data).length = bins.length ∧ (centreMarks bins data).length = bins.length := by
  simp only [barMarks, centreMarks, List.length_zipWith, h, Nat.min_self, and_self]

/-- **Error bars**: `err² = errors2`, divided by the squared bin size for densities -/
theorem C20_errors (err2 sizes : List Rat) :
    getErr2Data err2 sizes false = err2 ∧
    getErr2Data err2 sizes true = List.zipWith (fun e s => e / (s * s)) err2 sizes := ⟨rfl, rfl⟩

/-- **2-D maps: one cell per bin, at the bin's position** (lower-left corner and widths) -/
theorem C20_map_cells (xb yb : Bins) (data : List Rat) (h : data.length = xb.length * yb.length) :
    (mapCells xb yb data).length = xb.length * yb.length := by
  rw [mapCells, List.length_zipWith, h, List.length_flatMap]
  simp only [List.length_map, List.map_const', List.sum_replicate_nat, Nat.min_self]

/-- `Normalize(clip=True)` clamps the affine coordinate to `[0, 1]` -/
theorem normalizeColor_eq (lo hi v : Rat) :
    normalizeColor lo hi v = max 0 (min 1 ((v - lo) / (hi - lo))) := by
  unfold normalizeColor
  simp only
  split_ifs with h0 h1
  · exact (max_eq_left ((min_le_right _ _).trans h0.le)).symm
  · rw [min_eq_left h1.le, max_eq_right zero_le_one]
  · rw [min_eq_right (not_lt.mp h1), max_eq_right (not_lt.mp h0)]

/-- **Colour is monotone in the value**: the normalisation fed to the colour map never decreases
    when the value increases (so any monotone colour map gives a monotone colour). -/
theorem C20_colour_monotone (lo hi v w : Rat) (hlh : lo < hi) (hvw : v ≤ w) :
    normalizeColor lo hi v ≤ normalizeColor lo hi w ∧ 0 ≤ normalizeColor lo hi v ∧ normalizeColor lo hi v ≤ 1 := by
  rw [normalizeColor_eq, normalizeColor_eq]
  have hmono : (v - lo) / (hi - lo) ≤ (w - lo) / (hi - lo) :=
    div_le_div_of_nonneg_right (sub_le_sub_right hvw lo) (sub_nonneg.mpr hlh.le)
  exact ⟨max_le_max le_rfl (min_le_min le_rfl hmono), le_max_left _ _, max_le zero_le_one (min_le_left _ _)⟩

/-- **Refusal by dimension**: 1-D kinds refuse 2-D histograms and vice versa; an unknown kind is
    accepted for no dimension. -/
theorem C20_refuse :
    plotAccepted "bar" 1 = true ∧ plotAccepted "bar" 2 = false ∧ plotAccepted "map" 2 = true ∧ plotAccepted "map" 1 = false ∧
    plotAccepted "image" 1 = false ∧ plotAccepted "step" 2 = false ∧ plotAccepted "no_such_kind" 1 = false ∧
    plotAccepted "hbar" 2 = false := by decide +kernel

theorem mem_map_intRange {α : Type} (f : Int → α) (a b : Int) (t : α) :
    t ∈ (List.range (b - a + 1).toNat).map (fun i : Nat => f (a + i)) ↔ ∃ k, a ≤ k ∧ k ≤ b ∧ t = f k := by
  simp only [List.mem_map, List.mem_range, Int.lt_toNat]
  constructor
  · rintro ⟨i, hi, rfl⟩
    exact ⟨a + i, by omega, by omega, rfl⟩
  · rintro ⟨k, h1, h2, rfl⟩
    obtain ⟨i, hi⟩ := Int.eq_ofNat_of_zero_le (Int.sub_nonneg_of_le h1)
    exact ⟨i, by omega, by rw [← hi, add_sub_cancel]⟩

/-- **Time ticks are exactly the multiples of the unit inside the range**: every tick is `k·w`
    with `lo ≤ k·w ≤ hi`, and every such multiple is a tick. -/
theorem C20_ticks (lo hi w : Rat) (hw : 0 < w) (t : Rat) :
    t ∈ timeTicks lo hi w ↔ ∃ k : Int, t = (k : Rat) * w ∧ lo ≤ t ∧ t ≤ hi := by
  unfold timeTicks
  simp only [← Rat.ceil_eq_neg_floor_neg]
  rw [mem_map_intRange (fun k : Int => (k : Rat) * w)]
  refine exists_congr fun k => ?_
  rw [Rat.ceil_le_iff, div_le_iff₀ hw, Rat.le_floor_iff, le_div_iff₀ hw]
  constructor
  · rintro ⟨h1, h2, rfl⟩
    exact ⟨rfl, h1, h2⟩
  · rintro ⟨rfl, h1, h2⟩
    exact ⟨h1, h2, rfl⟩

/-- one label per tick -/
theorem C20_labels (ticks : List Rat) (fmt : Rat → String) : (ticks.map fmt).length = ticks.length := List.length_map fmt

/-! Non-vacuity -/
example : timeTicks (-150) 150 60 = [-120, -60, 0, 60, 120] ∧ timeTicks 30 100 60 = [60] := by decide +kernel
example : asciiBars [1, 2, 1] 8 = [2, 4, 2] ∧ roundHalfEven (5 / 2) = 2 ∧ roundHalfEven (7 / 2) = 4 := by decide +kernel
example : stepMarks [0, 1, 2] [5, 7] = [(0, 5), (1, 5), (2, 7)] := by decide +kernel

end Physt
