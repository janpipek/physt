import Physt.Model.Special
import Mathlib.Analysis.SpecialFunctions.Trigonometric.Basic
/-!
# C16 — densities, bin geometry and cumulative values are consistent

The bin-measure formulas of every histogram class, instantiated with the real numbers.
-/
namespace Physt
open Real

noncomputable instance : Scalar ℝ where
  two := 2
  three := 3
  cos := Real.cos
  pi := Real.pi

open Measure

/-- **density · bin size = frequency** for every bin with non-zero measure -/
theorem C16_density (f size : ℝ) (h : size ≠ 0) : f / size * size = f := div_mul_cancel₀ f h

/-- the formulas are the stated measures (unfolding the polymorphic definitions over ℝ) -/
theorem C16_formulas (r1 r2 t1 t2 p1 p2 z1 z2 : ℝ) :
    polar r1 r2 p1 p2 = (r2 ^ 2 - r1 ^ 2) / 2 * (p2 - p1) ∧
    radial r1 r2 = π * (r2 ^ 2 - r1 ^ 2) ∧
    spherical r1 r2 t1 t2 p1 p2 = (r2 ^ 3 - r1 ^ 3) / 3 * (cos t1 - cos t2) * (p2 - p1) ∧
    sphereSurface t1 t2 p1 p2 = (cos t1 - cos t2) * (p2 - p1) ∧
    cylindrical r1 r2 p1 p2 z1 z2 = (r2 ^ 2 - r1 ^ 2) / 2 * (p2 - p1) * (z2 - z1) ∧
    cylinderSurface p1 p2 z1 z2 = (p2 - p1) * (z2 - z1) := by
  -- the definitions write the powers as products; with the powers expanded the two sides agree by definition
  refine ⟨?_, ?_, ?_, rfl, ?_, rfl⟩
  · rw [sq, sq]
    rfl
  · rw [sq, sq, mul_comm]
    rfl
  · rw [pow_three', pow_three']
    rfl
  · rw [sq, sq]
    rfl

/-- **Additivity under merging adjacent bins**, on every axis of every class -/
theorem C16_additive (a b c t1 t2 p1 p2 z1 z2 : ℝ) :
    width a b + width b c = width a c ∧
    polar a b p1 p2 + polar b c p1 p2 = polar a c p1 p2 ∧
    polar t1 t2 a b + polar t1 t2 b c = polar t1 t2 a c ∧
    radial a b + radial b c = radial a c ∧
    spherical a b t1 t2 p1 p2 + spherical b c t1 t2 p1 p2 = spherical a c t1 t2 p1 p2 ∧
    spherical z1 z2 a b p1 p2 + spherical z1 z2 b c p1 p2 = spherical z1 z2 a c p1 p2 ∧
    spherical z1 z2 t1 t2 a b + spherical z1 z2 t1 t2 b c = spherical z1 z2 t1 t2 a c ∧
    sphereSurface a b p1 p2 + sphereSurface b c p1 p2 = sphereSurface a c p1 p2 ∧
    sphereSurface t1 t2 a b + sphereSurface t1 t2 b c = sphereSurface t1 t2 a c ∧
    cylindrical a b p1 p2 z1 z2 + cylindrical b c p1 p2 z1 z2 = cylindrical a c p1 p2 z1 z2 ∧
    cylindrical t1 t2 a b z1 z2 + cylindrical t1 t2 b c z1 z2 = cylindrical t1 t2 a c z1 z2 ∧
    cylindrical t1 t2 p1 p2 a b + cylindrical t1 t2 p1 p2 b c = cylindrical t1 t2 p1 p2 a c ∧
    cylinderSurface a b z1 z2 + cylinderSurface b c z1 z2 = cylinderSurface a c z1 z2 ∧
    cylinderSurface p1 p2 a b + cylinderSurface p1 p2 b c = cylinderSurface p1 p2 a c := by
  -- every measure is a product with one factor `G b - G a` per axis: factor out the rest, the sum telescopes
  simp only [width, polar, radial, spherical, sphereSurface, cylindrical, cylinderSurface,
    ← add_mul, ← mul_add, ← add_div, sub_add_sub_cancel, sub_add_sub_cancel', and_self]

/-- **Totals for full angular ranges**: disc `πR²`, sphere surface `4π`, ball `4/3·πR³`, cylinder
    `πR²·H`, cylinder surface (unit radius) `2π·H` -/
theorem C16_totals (R H : ℝ) :
    polar 0 R 0 (2 * π) = π * R ^ 2 ∧ radial 0 R = π * R ^ 2 ∧
    sphereSurface 0 π 0 (2 * π) = 4 * π ∧
    spherical 0 R 0 π 0 (2 * π) = 4 / 3 * π * R ^ 3 ∧
    cylindrical 0 R 0 (2 * π) 0 H = π * R ^ 2 * H ∧ cylinderSurface 0 (2 * π) 0 H = 2 * π * H := by
  obtain ⟨h1, h2, h3, h4, h5, h6⟩ := C16_formulas 0 R 0 π 0 (2 * π) 0 H
  rw [h1, h2, h3, h4, h5, h6, Real.cos_zero, Real.cos_pi]
  exact ⟨by ring, by ring, by ring, by ring, by ring, by ring⟩

/-- edges, centres and widths are mutually consistent -/
theorem C16_edges (l r : ℝ) : l + width l r = r ∧ (l + r) / 2 - l = width l r / 2 ∧ r - (l + r) / 2 = width l r / 2 := by
  have hw : width l r = r - l := rfl
  rw [hw]
  exact ⟨by ring, by ring, by ring⟩

/-- the ND measure is the product of the widths -/
theorem C16_box (l1 r1 l2 r2 l3 r3 : ℝ) :
    box [(l1, r1), (l2, r2)] 1 = (r1 - l1) * (r2 - l2) ∧
    box [(l1, r1), (l2, r2), (l3, r3)] 1 = (r1 - l1) * (r2 - l2) * (r3 - l3) := by
  simp only [box, one_mul, and_self]

/-- cumulative frequencies: the running sum, whose last entry is the total -/
def cumsumL : List ℚ → ℚ → List ℚ
  | [], _ => []
  | x :: xs, acc => (acc + x) :: cumsumL xs (acc + x)

example : cumsumL [1, 2, 3] 0 = [1, 3, 6] := by decide +kernel

/-- **`cumulative_frequencies` is the running sum, entry by entry**: entry `k` is the sum of the contents
    of bins `0 … k`. -/
theorem C16_cumulative_entries (l : List ℚ) (acc : ℚ) (k : Nat) (hk : k < l.length) :
    (cumsumL l acc)[k]? = some (acc + (l.take (k + 1)).sum) := by
  induction l generalizing acc k with
  | nil => exact absurd hk (Nat.not_lt_zero k)
  | cons x xs ih =>
    cases k with
    | zero =>
      simp only [cumsumL, List.getElem?_cons_zero, List.take_succ_cons, List.take_zero, List.sum_cons, List.sum_nil,
        add_zero]
    | succ k =>
      rw [cumsumL, List.getElem?_cons_succ, ih _ k (Nat.lt_of_succ_lt_succ hk), List.take_succ_cons, List.sum_cons,
        add_assoc]

theorem cumsumL_length (l : List ℚ) (acc : ℚ) : (cumsumL l acc).length = l.length := by
  induction l generalizing acc with
  | nil => rfl
  | cons x xs ih => exact congrArg (· + 1) (ih _)

/-- one cumulative value per bin, the last of them the total -/
theorem C16_cumulative (l : List ℚ) (acc : ℚ) :
    (cumsumL l acc).length = l.length ∧ (l ≠ [] → (cumsumL l acc).getLast? = some (acc + l.sum)) := by
  refine ⟨cumsumL_length l acc, fun h => ?_⟩
  have hpos := List.length_pos_iff.mpr h
  rw [List.getLast?_eq_getElem?, cumsumL_length, C16_cumulative_entries l acc _ (Nat.sub_lt hpos Nat.one_pos),
    Nat.sub_add_cancel hpos, List.take_length]

/-- consecutive cumulative entries differ by the content of the bin between them, so the contents are
    recovered from the cumulative values and, for non-negative contents, the cumulative values never decrease -/
theorem C16_cumulative_step (l : List ℚ) (acc : ℚ) (k : Nat) (hk : k + 1 < l.length) :
    ∃ a b x, (cumsumL l acc)[k]? = some a ∧ (cumsumL l acc)[k + 1]? = some b ∧ l[k + 1]? = some x ∧ b = a + x := by
  refine ⟨_, _, l[k + 1], C16_cumulative_entries l acc k (Nat.lt_of_succ_lt hk), C16_cumulative_entries l acc (k + 1) hk,
    List.getElem?_eq_getElem hk, ?_⟩
  rw [List.take_add_one (i := k + 1), List.getElem?_eq_getElem hk, Option.toList_some, List.sum_append,
    List.sum_singleton, add_assoc]

example : (cumsumL [1, 2, 3, 4] 0)[2]? = some (0 + ([1, 2, 3, 4].take 3).sum) := C16_cumulative_entries _ _ 2 (by decide)

end Physt
