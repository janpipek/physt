import Physt.Proofs.AdaptiveAdd
/-!
# C05 (continued) — adding adaptive fixed-width histograms: union of the ranges, nothing lost

Helper lemmas: `Proofs/AdaptiveAdd.lean`, on top of the invariant `GridTracks` of
`Proofs/AdaptiveHistory.lean` (an adaptive, aligned, right-open grid histogram holding exactly the
batch histogram of its data).  `InnerOK b` — the right operand recorded no value in a gap — is what
`__iadd__` itself demands before it adapts ("other has missed values").
-/
namespace Physt
open Grid H1

/-- **h(A) + h(B) = h(A and B together) for adaptive operands**: the sum is accepted, lives on the
    same grid (`w`, `shift`), spans exactly the union of both ranges, and holds the histogram of
    `A ++ B`. -/
theorem C05_adaptive (fo : FloatOps) (a b : H1) (ga gb : Grid) (A B : List Pt)
    (ta : GridTracks fo a ga A) (tb : GridTracks fo b gb B) (hw : ga.w = gb.w) (hs : ga.shift = gb.shift)
    (hm : EdgeMono fo ga.w ga.shift) (hin : InnerOK b) :
    ∃ (r : H1) (g' : Grid), a.iadd fo b = .ok r ∧ GridTracks fo r g' (A ++ B) ∧
      g'.w = ga.w ∧ g'.shift = ga.shift ∧
      (0 < ga.count → 0 < gb.count →
        g'.tmin = min ga.tmin gb.tmin ∧ g'.tmin + g'.count = max (ga.tmin + ga.count) (gb.tmin + gb.count)) ∧
      (gb.count = 0 → g'.tmin = ga.tmin ∧ g'.count = ga.count) ∧
      (ga.count = 0 → 0 < gb.count → g'.tmin = gb.tmin ∧ g'.count = gb.count) := by
  obtain ⟨r, g', e, tr, hw', hs', sp, _⟩ := gridTracks_iadd_full fo a b ga gb A B ta tb hw hs hm hin
  exact ⟨r, g', e, tr, hw', hs', sp.both, sp.rightEmpty, sp.leftEmpty⟩

/-- **Nothing is lost**: total = sum of the totals = weight of all the data; underflow and overflow
    stay zero; contents and squared errors are those of the combined data over the final bins; every
    value is found in the bin of its cell on the common grid. -/
theorem C05_adaptive_nothing_lost (fo : FloatOps) (a b : H1) (ga gb : Grid) (A B : List Pt)
    (ta : GridTracks fo a ga A) (tb : GridTracks fo b gb B) (hw : ga.w = gb.w) (hs : ga.shift = gb.shift)
    (hm : EdgeMono fo ga.w ga.shift) (hin : InnerOK b) :
    ∃ (r : H1) (g' : Grid), a.iadd fo b = .ok r ∧ r.binning = .fixed g' ∧
      r.total = a.total + b.total ∧ r.total = wsum (A ++ B) ∧
      r.under = some 0 ∧ r.over = some 0 ∧ r.underflow = some 0 ∧ r.overflow = some 0 ∧
      r.freq = (calc1d (r.bins fo) (A ++ B)).freq ∧ r.err2 = (calc1d (r.bins fo) (A ++ B)).err2 ∧
      r.under = (calc1d (r.bins fo) (A ++ B)).under ∧ r.over = (calc1d (r.bins fo) (A ++ B)).over ∧
      (∀ p ∈ A ++ B, ∃ k : Int, CellOf (fo.edge ga.w ga.shift) p.1 k ∧ g'.tmin ≤ k ∧ k < g'.tmin + g'.count ∧
        r.findBin fo p.1 = .bin (k - g'.tmin).toNat ∧
        (r.bins fo)[(k - g'.tmin).toNat]? = some (fo.edge ga.w ga.shift k, fo.edge ga.w ga.shift (k + 1))) := by
  obtain ⟨r, g', e, tr, hw', hs', _⟩ := gridTracks_iadd_full fo a b ga gb A B ta tb hw hs hm hin
  obtain ⟨e1, e2, e3, e4, e5, e6, e7, e8⟩ := tr.report hw' hs' hm
  refine ⟨r, g', e, tr.state.binning, ?_, e5, tr.under, tr.over, e6, e7, e1, e2, e3, e4, e8⟩
  rw [e5, ta.total hm, tb.total (by rw [← hw, ← hs]; exact hm), wsum_append]

/-- **Commutative** in everything the property pins: bins, contents, squared errors, underflow,
    overflow, total, statistics, dtype. -/
theorem C05_adaptive_comm (fo : FloatOps) (a b : H1) (ga gb : Grid) (A B : List Pt)
    (ta : GridTracks fo a ga A) (tb : GridTracks fo b gb B) (hw : ga.w = gb.w) (hs : ga.shift = gb.shift)
    (hm : EdgeMono fo ga.w ga.shift) (hina : InnerOK a) (hinb : InnerOK b) :
    ∃ r1 r2 : H1, a.iadd fo b = .ok r1 ∧ b.iadd fo a = .ok r2 ∧
      r1.bins fo = r2.bins fo ∧ r1.freq = r2.freq ∧ r1.err2 = r2.err2 ∧
      r1.under = r2.under ∧ r1.over = r2.over ∧ r1.total = r2.total ∧
      r1.stats = r2.stats ∧ r1.dtype = r2.dtype ∧ r1.keep = r2.keep ∧
      (a.inner = some 0 → b.inner = some 0 → r1.inner = r2.inner) := by
  obtain ⟨r1, g1, e1, t1, w1, s1, sp1, st1, d1, i1⟩ := gridTracks_iadd_full fo a b ga gb A B ta tb hw hs hm hinb
  obtain ⟨r2, g2, e2, t2, w2, s2, sp2, st2, d2, i2⟩ :=
    gridTracks_iadd_full fo b a gb ga B A tb ta hw.symm hs.symm (by rw [← hw, ← hs]; exact hm) hina
  -- the union of ranges is commutative
  have hb : g1.bins fo = g2.bins fo :=
    bins_eq_of_span fo (by rw [w1, w2, hw]) (by rw [s1, s2, hs]) (by rw [sp1.span, sp2.span, hull_comm])
  obtain ⟨b1, b2, b3, b4, b5, b6, b7⟩ := gridTracks_agree_swap t1 t2 (by rw [w1, s1]; exact hm) hb
  refine ⟨r1, r2, e1, e2, b1, b2, b3, b4, b5, b6, by rw [st1, st2, stats_add_comm], ?_, b7, ?_⟩
  · rw [d1, d2, DType.promote_comm]
  · intro ha hb
    have z1 : r1.inner = some 0 := by
      rcases i1 with h | h
      · rw [h, ha]
      · rw [h, ha, hb]; exact nadd_zero _
    have z2 : r2.inner = some 0 := by
      rcases i2 with h | h
      · rw [h, hb]
      · rw [h, hb, ha]; exact nadd_zero _
    rw [z1, z2]

/-- **Associative** likewise. -/
theorem C05_adaptive_assoc (fo : FloatOps) (a b c : H1) (ga gb gc : Grid) (A B C : List Pt)
    (ta : GridTracks fo a ga A) (tb : GridTracks fo b gb B) (tc : GridTracks fo c gc C)
    (hw : ga.w = gb.w) (hs : ga.shift = gb.shift) (hw2 : gb.w = gc.w) (hs2 : gb.shift = gc.shift)
    (hm : EdgeMono fo ga.w ga.shift) (hinb : InnerOK b) (hinc : InnerOK c) :
    ∃ ab abc bc abc' : H1, a.iadd fo b = .ok ab ∧ ab.iadd fo c = .ok abc ∧
      b.iadd fo c = .ok bc ∧ a.iadd fo bc = .ok abc' ∧
      abc.bins fo = abc'.bins fo ∧ abc.freq = abc'.freq ∧ abc.err2 = abc'.err2 ∧
      abc.under = abc'.under ∧ abc.over = abc'.over ∧ abc.total = abc'.total ∧ abc.dtype = abc'.dtype := by
  obtain ⟨ab, g1, e1, t1, w1, s1, sp1, _, d1, _⟩ := gridTracks_iadd_full fo a b ga gb A B ta tb hw hs hm hinb
  obtain ⟨abc, g2, e2, t2, w2, s2, sp2, _, d2, _⟩ :=
    gridTracks_iadd_full fo ab c g1 gc (A ++ B) C t1 tc (by rw [w1, hw, hw2]) (by rw [s1, hs, hs2])
      (by rw [w1, s1]; exact hm) hinc
  obtain ⟨bc, g3, e3, t3, w3, s3, sp3, _, d3, i3⟩ :=
    gridTracks_iadd_full fo b c gb gc B C tb tc hw2 hs2 (by rw [← hw, ← hs]; exact hm) hinc
  obtain ⟨abc', g4, e4, t4, w4, s4, sp4, _, d4, _⟩ :=
    gridTracks_iadd_full fo a bc ga g3 A (B ++ C) ta t3 (by rw [w3, hw]) (by rw [s3, hs]) hm
      (innerOK_iadd hinb hinc i3)
  -- the union of ranges is associative
  have hb : g2.bins fo = g4.bins fo :=
    bins_eq_of_span fo (by rw [w2, w1, w4]) (by rw [s2, s1, s4])
      (by rw [sp2.span, sp1.span, sp4.span, sp3.span, hull_assoc])
  rw [List.append_assoc] at t2
  have hf : abc.freq = abc'.freq := by rw [t2.freq, t4.freq, hb]
  refine ⟨ab, abc, bc, abc', e1, e2, e3, e4, by rw [t2.bins_eq, t4.bins_eq, hb], hf,
    by rw [t2.err2, t4.err2, hb], by rw [t2.under, t4.under], by rw [t2.over, t4.over],
    by unfold H1.total; rw [hf], ?_⟩
  rw [d2, d1, d4, d3, DType.promote_assoc]

/-- **sum() over any list of adaptive chunk histograms** (a partition of the data, dask chunks):
    accepted, and the result holds the histogram of all the data on the hull of all the ranges. -/
theorem C05_adaptive_sum (fo : FloatOps) (w s : Rat) (hm : EdgeMono fo w s)
    (rest : List (H1 × Grid × List Pt))
    (hrest : ∀ p ∈ rest, GridTracks fo p.1 p.2.1 p.2.2 ∧ p.2.1.w = w ∧ p.2.1.shift = s ∧ InnerOK p.1)
    (first : H1) (gf : Grid) (F : List Pt) (tf : GridTracks fo first gf F) (hw : gf.w = w) (hs : gf.shift = s) :
    ∃ (r : H1) (g' : Grid), rest.foldlM (fun acc p => acc.iadd fo p.1) first = .ok r ∧
      GridTracks fo r g' (F ++ (rest.map (·.2.2)).flatten) ∧ g'.w = w ∧ g'.shift = s ∧
      SpanList (gf :: rest.map (·.2.1)) g' := by
  obtain ⟨r, g', e, tr, hwr, hsr, hsp⟩ := gridTracks_sum_span fo w s hm rest hrest first gf F tf hw hs
  exact ⟨r, g', e, tr, hwr, hsr, SpanList.of_span hsp⟩

end Physt
