import Physt.Proofs.Account1D
import Physt.Proofs.GridCover
import Physt.Theorems.C04
import Physt.Model.Factories
import Mathlib.Tactic.FieldSimp
import Mathlib.Tactic.Positivity
/-!
# C07 — every binning schema is well-formed, covers its data and obeys its rule
-/
namespace Physt

theorem edgesToBins_eq_zip : ∀ e : List Rat, edgesToBins e = e.zip e.tail
  | [] => rfl
  | [_] => rfl
  | a :: b :: rest => by rw [edgesToBins, edgesToBins_eq_zip (b :: rest)]; rfl

theorem C07_bin_count (e : List Rat) : (edgesToBins e).length = e.length - 1 := by
  rw [edgesToBins_eq_zip, List.length_zip, List.length_tail]
  omega

theorem edgesToBins_get (e : List Rat) (i : Nat) (h : i + 1 < e.length) :
    (edgesToBins e)[i]? = some (e[i], e[i + 1]) := by
  rw [edgesToBins_eq_zip, List.getElem?_zip_eq_some, List.getElem?_tail]
  exact ⟨List.getElem?_eq_getElem _, List.getElem?_eq_getElem h⟩

theorem edgesToBins_getElem (e : List Rat) (i : Nat) (h : i < (edgesToBins e).length) :
    (edgesToBins e)[i] = (e[i]'(by rw [C07_bin_count] at h; omega), e[i + 1]'(by rw [C07_bin_count] at h; omega)) :=
  Option.some.inj <| (List.getElem?_eq_getElem h).symm.trans <|
    edgesToBins_get e i (by rw [C07_bin_count] at h; omega)

/-- the pair form and the edge form of a binning are inverse to each other (consecutive bins) -/
theorem C07_edges_pairs (e : List Rat) (h : 2 ≤ e.length) : binsToEdges (edgesToBins e) = e := by
  match e, h with
  | a :: b :: rest, _ =>
    rw [edgesToBins_eq_zip]
    show a :: b :: ((b :: rest).zip rest).map (·.2) = _
    rw [List.map_snd_zip (by simp)]

theorem consecutiveB_iff_getElem (bins : Bins) :
    consecutiveB bins = true ↔ ∀ i (h : i + 1 < bins.length), (bins[i]).2 = (bins[i + 1]).1 := by
  rw [consecutiveB_iff_isChain, List.isChain_iff_getElem]

/-- bins made from edges are consecutive; they are rising iff the edges strictly increase -/
theorem C07_edges_consecutive (e : List Rat) : consecutiveB (edgesToBins e) = true := by
  rw [consecutiveB_iff_getElem]
  intro i h
  rw [edgesToBins_getElem, edgesToBins_getElem]

theorem rising_edgesToBins_cons_cons (a b : Rat) (rest : List Rat) :
    Rising (edgesToBins (a :: b :: rest)) ↔ a < b ∧ Rising (edgesToBins (b :: rest)) := by
  cases rest with
  | nil => exact (and_iff_left trivial).symm
  | cons c v => exact and_congr_right fun _ => and_iff_right (le_refl b)

theorem rising_edgesToBins_iff : ∀ es : List Rat, Rising (edgesToBins es) ↔ es.Pairwise (· < ·)
  | [] => by simp [edgesToBins, Rising]
  | [_] => by simp [edgesToBins, Rising]
  | a :: b :: rest => by
    rw [rising_edgesToBins_cons_cons, rising_edgesToBins_iff (b :: rest), ← List.isChain_iff_pairwise,
      ← List.isChain_iff_pairwise, List.isChain_cons_cons]

theorem C07_edges_rising (e : List Rat) (h : e.Pairwise (· < ·)) : Rising (edgesToBins e) :=
  (rising_edgesToBins_iff e).mpr h

/-- **Well-formed = refused otherwise**: the validation `is_rising` is exactly "every bin has
    left < right and no bin starts before its predecessor ends"; unsorted, overlapping and
    zero-width specifications fail it. -/
theorem C07_refuse :
    risingB [(0, 1), (1 / 2, 2)] = false ∧ risingB [(1, 2), (0, 1)] = false ∧ risingB [(0, 0)] = false ∧
    risingB [(0, 1), (1, 1)] = false ∧ risingB [(0, 1), (2, 3)] = true := by decide +kernel

theorem linspace_get (start stop : Rat) {n i : Nat} (h : i ≤ n) :
    (linspace start stop n)[i]? = some (start + (i : Rat) * (stop - start) / n) := by
  unfold linspace
  rw [List.getElem?_map, List.getElem?_range (by omega)]
  rfl

/-- **numpy-style bins** (`linspace`): `n + 1` edges from `start` to `stop`, strictly rising, equally
    spaced — hence `n` rising, consecutive, equal-width bins covering `[start, stop]`. -/
theorem C07_linspace (start stop : Rat) (n : Nat) (hn : 0 < n) (h : start < stop) :
    (linspace start stop n).length = n + 1 ∧ (linspace start stop n).head? = some start ∧
    (linspace start stop n).getLast? = some stop ∧ (linspace start stop n).Pairwise (· < ·) ∧
    ∀ i, i < n → ∃ a b, (linspace start stop n)[i]? = some a ∧ (linspace start stop n)[i + 1]? = some b ∧
      b - a = (stop - start) / n := by
  have hn' : (0 : Rat) < n := Nat.cast_pos.mpr hn
  have hlen : (linspace start stop n).length = n + 1 := by
    rw [linspace, List.length_map, List.length_range]
  refine ⟨hlen, ?_, ?_, ?_, ?_⟩
  · rw [List.head?_eq_getElem?, linspace_get start stop (Nat.zero_le n), Nat.cast_zero, zero_mul,
      zero_div, add_zero]
  · rw [List.getLast?_eq_getElem?, hlen, Nat.add_sub_cancel, linspace_get start stop (le_refl n),
      mul_div_cancel_left₀ _ hn'.ne', add_sub_cancel]
  · rw [linspace, List.pairwise_map]
    refine List.Pairwise.imp (fun {i j} hij => ?_) List.pairwise_lt_range
    exact add_lt_add_right
      (div_lt_div_of_pos_right (mul_lt_mul_of_pos_right (Nat.cast_lt.mpr hij) (sub_pos.mpr h)) hn') _
  · intro i hi
    refine ⟨_, _, linspace_get start stop (le_of_lt hi), linspace_get start stop hi, ?_⟩
    push_cast
    ring

/-- **Fixed-width / integer / pretty bins derived from data** cover the data: growing an (empty or
    non-empty) grid for a value puts the value's cell inside the grid (C04), all bins have the same
    width and lie on the grid `origin + k·width` (exact instance). -/
theorem C07_fixed_width_cover (g : Grid) (v : Rat) (fuel : Nat) (halign : g.align = true) (hw : 0 < g.w) :
    let g' := (g.forceSingle FloatOps.exact fuel v false).1
    let k := FloatOps.exact.est g.w g.shift v
    g'.tmin ≤ k ∧ k < g'.tmin + g'.count ∧ g'.w = g.w ∧ g'.shift = g.shift ∧
    FloatOps.exact.edge g.w g.shift k ≤ v ∧ v < FloatOps.exact.edge g.w g.shift (k + 1) := by
  have hm : Grid.EdgeMono FloatOps.exact g.w g.shift := C04_exact_mono g.w g.shift hw
  have hcell : Grid.CellOf (g.edgeAt FloatOps.exact) v (FloatOps.exact.est g.w g.shift v) :=
    C04_exact_cell g.w g.shift v hw
  have cov := Grid.forceSingle_covers FloatOps.exact fuel g v _ halign hm hcell (by simp)
  simp only at cov ⊢
  exact ⟨cov.2.2.2.2.2.1, cov.2.2.2.2.2.2.1, cov.1, cov.2.1, hcell.1, hcell.2⟩

theorem grid_bins_regular (g : Grid) :
    Rising (g.bins FloatOps.exact) ∨ ¬ 0 < g.w := by
  by_cases hw : 0 < g.w
  · left
    rw [Grid.bins_eq_binsFrom]
    exact Grid.binsFrom_rising _ (C04_exact_mono g.w g.shift hw) _ _
  · right; exact hw

/-- **Pretty width**: the chosen width is one of the candidates and no candidate is closer to the
    raw width `range / bin_count` (distance = ratio, i.e. |log|). -/
theorem C07_pretty (raw : Rat) (cands : List Rat) (hne : cands ≠ []) :
    ∃ w, prettyChoice raw cands = some w ∧ w ∈ cands ∧ ∀ c ∈ cands, ratioDist raw w ≤ ratioDist raw c := by
  induction cands with
  | nil => exact (hne rfl).elim
  | cons c cs ih =>
    cases cs with
    | nil => exact ⟨c, rfl, by simp, by intro x hx; simp at hx; rw [hx]⟩
    | cons d ds =>
      obtain ⟨b, hb, hmem, hmin⟩ := ih (by simp)
      simp only [prettyChoice] at hb ⊢
      rw [hb]
      by_cases hlt : ratioDist raw b < ratioDist raw c
      · simp only [hlt, if_true]
        refine ⟨b, rfl, List.mem_cons_of_mem _ hmem, ?_⟩
        intro x hx
        rcases List.mem_cons.mp hx with rfl | hx
        · exact le_of_lt hlt
        · exact hmin x hx
      · simp only [hlt, if_false]
        refine ⟨c, rfl, List.mem_cons_self .., ?_⟩
        intro x hx
        rcases List.mem_cons.mp hx with rfl | hx
        · exact le_refl _
        · exact le_trans (not_lt.mp hlt) (hmin x hx)

/-- the candidates are `{1, 2, 2.5, 5}·10^k` (0.5 and 10 times a power of ten are 5 and 1 times
    the neighbouring powers) -/
theorem C07_pretty_set (p : Rat) : decimalCandidates p = [p / 2, p, 2 * p, 5 / 2 * p, 5 * p, 10 * p] := by
  show [1 / 2 * p, 1 * p, 2 * p, 5 / 2 * p, 5 * p, 10 * p] = _
  rw [one_div_mul_eq_div, one_mul]

/-- **Bin-count rules**: `sqrt` gives the least `k` with `k² ≥ n`, `sturges` `⌈log₂ n⌉ + 1`. -/
theorem C07_count_rules :
    idealBinCount "sqrt" 10 = some 4 ∧ idealBinCount "sqrt" 16 = some 4 ∧ idealBinCount "sqrt" 17 = some 5 ∧
    idealBinCount "sturges" 8 = some 4 ∧ idealBinCount "sturges" 9 = some 5 ∧ idealBinCount "sturges" 100 = some 8 ∧
    idealBinCount "rice" 8 = some 4 ∧ idealBinCount "rice" 27 = some 6 ∧ idealBinCount "rice" 100 = some 10 ∧
    idealBinCount "default" 20 = some 7 ∧ idealBinCount "sqrt" 0 = some 1 := by decide +kernel

theorem leastFrom_spec (p : Nat → Bool) (f k : Nat) (hex : ∃ j, k ≤ j ∧ j ≤ k + f ∧ p j = true) :
    p (leastFrom p f k) = true ∧ ∀ j, k ≤ j → j < leastFrom p f k → p j = false := by
  induction f generalizing k with
  | zero =>
    obtain ⟨j, h1, h2, h3⟩ := hex
    have : j = k := by omega
    subst this
    exact ⟨h3, fun i hi hlt => by simp [leastFrom] at hlt; omega⟩
  | succ f ih =>
    unfold leastFrom
    by_cases hk : p k = true
    · rw [if_pos hk]
      exact ⟨hk, fun i hi hlt => by omega⟩
    · rw [if_neg hk]
      obtain ⟨j, h1, h2, h3⟩ := hex
      have hjk : j ≠ k := fun e => hk (e ▸ h3)
      obtain ⟨a, b⟩ := ih (k + 1) ⟨j, by omega, by omega, h3⟩
      refine ⟨a, ?_⟩
      intro i hi hlt
      by_cases hik : i = k
      · subst hik; simpa using hk
      · exact b i (by omega) hlt

/-- `sqrt` rule: the least `k` with `k² ≥ n` -/
theorem C07_sqrt_rule (n : Nat) : n ≤ ceilSqrt n * ceilSqrt n ∧ ∀ k, k < ceilSqrt n → k * k < n := by
  have := leastFrom_spec (fun k => decide (n ≤ k * k)) n 0
    ⟨n, Nat.zero_le n, Nat.le_of_eq (Nat.zero_add n).symm, decide_eq_true (Nat.le_mul_self n)⟩
  exact ⟨of_decide_eq_true this.1,
    fun k hk => Nat.lt_of_not_le (of_decide_eq_false (this.2 k (Nat.zero_le k) hk))⟩

/-- `sturges` rule: `⌈log₂ n⌉` is the least `k` with `2^k ≥ n` -/
theorem C07_sturges_rule (n : Nat) : n ≤ 2 ^ ceilLog2 n ∧ ∀ k, k < ceilLog2 n → 2 ^ k < n := by
  have := leastFrom_spec (fun k => decide (n ≤ 2 ^ k)) n 0
    ⟨n, Nat.zero_le n, Nat.le_of_eq (Nat.zero_add n).symm, decide_eq_true (Nat.le_of_lt Nat.lt_two_pow_self)⟩
  exact ⟨of_decide_eq_true this.1,
    fun k hk => Nat.lt_of_not_le (of_decide_eq_false (this.2 k (Nat.zero_le k) hk))⟩

/-- **Quantile edges** are the data quantiles: 0 ↦ minimum, 1 ↦ maximum, 1/2 ↦ median. -/
theorem C07_quantile_examples :
    quantile [1, 2, 4, 8] 0 = some 1 ∧ quantile [1, 2, 4, 8] 1 = some 8 ∧ quantile [1, 2, 4, 8] (1 / 2) = some 3 ∧
    quantile [1, 2, 4, 8] (1 / 3) = some 2 ∧ quantile [5] (3 / 4) = some 5 := by decide +kernel

end Physt
