import Physt.Proofs.MergeMarginal
/-!
# C10 (continued) — merge_bins for ANY bin map that climbs in steps: runs, merged edges,
# min_frequency, all axes at once

Vocabulary (`Proofs/MergeRuns.lean`):

* `runOf (xs.zip map) j` — *run `j`*: the old bins (or old contents) that the bin map sends to new
  bin `j`, in their old order (the filter used by `C10_run_content`);
* `MapRunsMeet bins map` — whenever old bins `k`, `k + 1` go to the same new bin, the right edge of
  `k` is the left edge of `k + 1` (no gap *inside* a run; gaps *between* runs are allowed);
* `mergedByMap bins map` — `last map value + 1` bins, the `j`-th from the left edge of the first bin
  of run `j` to the right edge of its last bin;
* `StepChain 0 map` with head 0 — the map starts at 0 and climbs by 0 or 1 (`amountMap`, `minFreqMap`).
-/
namespace Physt
open H1

/-! ## merged edges for any step chain -/

/-- **Acceptance, for any bin map at all**: `apply_bin_map` returns bins iff no two neighbouring old
    bins with the same target are separated by a gap. -/
theorem C10_accept_iff (bins : Bins) (map : List Nat) :
    (∃ r, mergeBinsAux (bins.zip map) none = .ok r) ↔ MapRunsMeet bins map :=
  mergeBinsAux_ok_iff bins map

/-- … and for a step chain this says: **every run is a consecutive binning** (`is_consecutive`),
    i.e. within every run adjacent bins meet. -/
theorem C10_accept_runwise (bins : Bins) (map : List Nat) (hl : map.length = bins.length) (hc : StepChain 0 map) :
    MapRunsMeet bins map ↔ ∀ j, consecutiveB (runOf (bins.zip map) j) = true :=
  mapRunsMeet_iff_runs bins map hl hc

/-- **Merged edges for a step chain starting at 0** (one map entry per bin; this is the situation of
    `merge_bins(amount)` and of `merge_bins(min_frequency=…)`).  If no run has an inner gap the merge
    returns exactly `mergedByMap`; otherwise it is refused. -/
theorem C10_merged_by_map (bins : Bins) (map : List Nat) (hl : map.length = bins.length)
    (hc : StepChain 0 map) (h0 : ∀ x, map.head? = some x → x = 0) :
    (MapRunsMeet bins map → mergeBinsAux (bins.zip map) none = .ok (mergedByMap bins map)) ∧
    (¬ MapRunsMeet bins map → mergeBinsAux (bins.zip map) none = .error "merging non-consecutive bins") :=
  mergeBinsAux_stepChain bins map ⟨hl, hc, h0⟩

/-- **The new bins.**  There are `last map value + 1` of them (`newCount`); new bin `j` reaches from
    the left edge of the first old bin of run `j` to the right edge of its last old bin, and no run
    is empty. -/
theorem C10_new_bin (bins : Bins) (map : List Nat) (hl : map.length = bins.length)
    (hc : StepChain 0 map) (h0 : ∀ x, map.head? = some x → x = 0) :
    (mergedByMap bins map).length = newCount map ∧
    ∀ j, j < newCount map → ∃ f l, (runOf (bins.zip map) j).head? = some f ∧
      (runOf (bins.zip map) j).getLast? = some l ∧ (mergedByMap bins map)[j]? = some (f.1, l.2) :=
  ⟨mergedByMap_length bins map, fun j hj => mergedByMap_getElem? bins map ⟨hl, hc, h0⟩ j hj⟩

/-- **Every new bin is a union of adjacent old bins and nothing is lost**: the runs `0, 1, 2, …`
    written one after the other are the old list — for the bins and for the contents alike. -/
theorem C10_runs_partition {α} (xs : List α) (map : List Nat) (hl : map.length = xs.length) (hc : StepChain 0 map) :
    (List.range (newCount map)).flatMap (runOf (xs.zip map)) = xs := by
  have hs : ((xs.zip map).map (·.2)).Pairwise (· ≤ ·) := by
    rw [List.map_snd_zip (by omega)]; exact stepChain_sorted map 0 hc
  unfold runOf
  have hf := flatMap_filter_eq (fun z : α × Nat => z.2) (xs.zip map) hs (newCount map)
  rw [← List.map_flatMap, hf]
  have hall : (xs.zip map).filter (fun z => decide (z.2 < newCount map)) = xs.zip map := by
    rw [List.filter_eq_self]
    intro z hz
    simpa using stepChain_lt_newCount map hc z.2 (List.of_mem_zip hz).2
  rw [hall, List.map_fst_zip (by omega)]

/-- **The outer edges are unchanged** (first left edge, last right edge), and **rising bins stay
    rising**. -/
theorem C10_outer_edges (bins : Bins) (map : List Nat) (hl : map.length = bins.length)
    (h0 : ∀ x, map.head? = some x → x = 0) :
    firstEdge? (mergedByMap bins map) = firstEdge? bins ∧ lastEdge? (mergedByMap bins map) = lastEdge? bins :=
  ⟨head?_mergedByMap bins map hl h0, getLast?_mergedByMap bins map hl⟩

theorem C10_rising (bins r : Bins) (map : List Nat) (hl : bins.length ≤ map.length) (hb : Rising bins)
    (hr : mergeBinsAux (bins.zip map) none = .ok r) : Rising r := by
  have hm : MapRunsMeet bins map := (mergeBinsAux_ok_iff bins map).mp ⟨r, hr⟩
  rw [mergeBinsAux_accepted bins map hm] at hr
  cases hr
  apply mergeRuns0_rising
  rw [List.map_fst_zip hl]
  exact hb

/-- the `amount` map is such a step chain, its acceptance condition is `RunsMeet`, and the run-wise
    description of the new bins agrees with the arithmetic one of `C10_merged_edges` -/
theorem C10_amount_instance (bins : Bins) (amount : Nat) :
    StepChain 0 (amountMap bins.length amount) ∧ (∀ x, (amountMap bins.length amount).head? = some x → x = 0) ∧
    (MapRunsMeet bins (amountMap bins.length amount) ↔ RunsMeet bins amount) ∧
    (0 < amount → RunsMeet bins amount → mergedByMap bins (amountMap bins.length amount) = mergedBins bins amount) :=
  ⟨(amountMap_stepChain _ _).2.1, (amountMap_stepChain _ _).2.2, mapRunsMeet_amount bins amount,
    fun ha _ => mergedByMap_amount bins amount ha⟩

/-! ## min_frequency -/

/-- **`merge_bins(min_frequency=thr)` of a 1-D histogram** with at least one bin.  With
    `m = minFreqMap thr freq`: the call is accepted iff no run of `m` has a gap inside.  Then the new
    bins are `mergedByMap` (each spans its run), contents and squared errors are the run sums
    (`mergeVals`, see `C10_run_content`) with unchanged totals, underflow / overflow / inner missed,
    dtype and the right-edge flag are untouched, the outer edges are unchanged and rising bins stay
    rising.  Otherwise the call is refused. -/
theorem C10_minfreq_1d (fo : FloatOps) (h : H1) (thr : Rat) (hpos : 0 < h.freq.length)
    (hlen : h.freq.length = (h.bins fo).length) :
    (MapRunsMeet (h.bins fo) (minFreqMap thr h.freq) →
      ∃ r, h.mergeMinFreq fo thr = .ok r ∧
        r.bins fo = mergedByMap (h.bins fo) (minFreqMap thr h.freq) ∧
        (r.bins fo).length = newCount (minFreqMap thr h.freq) ∧
        r.freq = mergeVals h.freq (minFreqMap thr h.freq) (newCount (minFreqMap thr h.freq)) ∧
        r.err2 = mergeVals h.err2 (minFreqMap thr h.freq) (newCount (minFreqMap thr h.freq)) ∧
        r.freq.sum = h.freq.sum ∧ (h.err2.length = h.freq.length → r.err2.sum = h.err2.sum) ∧
        r.under = h.under ∧ r.over = h.over ∧ r.inner = h.inner ∧ r.keep = h.keep ∧ r.dtype = h.dtype ∧
        r.binning.ire = h.binning.ire ∧
        firstEdge? (r.bins fo) = firstEdge? (h.bins fo) ∧ lastEdge? (r.bins fo) = lastEdge? (h.bins fo) ∧
        (Rising (h.bins fo) → Rising (r.bins fo))) ∧
    (¬ MapRunsMeet (h.bins fo) (minFreqMap thr h.freq) →
      h.mergeMinFreq fo thr = .error "merging non-consecutive bins") := by
  obtain ⟨hc, hl, h0⟩ := C10_minfreq thr h.freq
  have hl' : (minFreqMap thr h.freq).length = (h.bins fo).length := hl.trans hlen
  have hlt := stepChain_lt_newCount _ hc
  obtain ⟨hok, hrefuse⟩ := H1.mergeWithMap_stepChain fo h _ (List.length_pos_iff.mp (by omega)) ⟨hl', hc, h0⟩
  exact ⟨fun hm => ⟨_, hok hm, rfl, mergedByMap_length _ _, rfl, rfl, C10_conserve _ _ _ hl hlt,
    fun he => C10_conserve _ _ _ (hl.trans he.symm) hlt, rfl, rfl, rfl, rfl, rfl, rfl,
    head?_mergedByMap _ _ hl' h0, getLast?_mergedByMap _ _ hl',
    fun hb => C10_rising _ _ _ hl'.ge hb ((mergeBinsAux_stepChain _ _ ⟨hl', hc, h0⟩).1 hm)⟩, hrefuse⟩

/-- **What the threshold guarantees** (`S j` = content of run `j` = content of new bin `j`):
    1. every run except the last has `S j > thr`, **or** `0 < S j` and the next run starts with a
       bin that reaches `thr` on its own (the docstring's "minima between high bins": such a run may
       stay below the threshold);
    2. no run is longer than needed: a proper non-empty initial part of a run sums to `≤ thr`;
    3. a bin that reaches `thr` on its own has only bins summing to `≤ 0` before it in its run
       (it starts a new run as soon as anything positive is pending).
    These three properties determine the grouping (the loop closes a run exactly when 1 allows it
    and 2, 3 force it); the examples below show that none can be strengthened. -/
theorem C10_minfreq_guarantee (thr : Rat) (freq : List Rat) :
    (∀ j, j + 1 < newCount (minFreqMap thr freq) →
      thr < (runOf (freq.zip (minFreqMap thr freq)) j).sum ∨
      (0 < (runOf (freq.zip (minFreqMap thr freq)) j).sum ∧
        ∃ g, (runOf (freq.zip (minFreqMap thr freq)) (j + 1)).head? = some g ∧ thr ≤ g)) ∧
    (∀ j p q, runOf (freq.zip (minFreqMap thr freq)) j = p ++ q → p ≠ [] → q ≠ [] → p.sum ≤ thr) ∧
    (∀ j p g q, runOf (freq.zip (minFreqMap thr freq)) j = p ++ g :: q → thr ≤ g → p.sum ≤ 0) :=
  (minFreqInv_zero_iff thr freq _ (C10_minfreq thr freq).2.1).mp (minFreqInv thr freq 0 0)

/-- **The guarantees characterise the grouping exactly**: `m` is the bin map of
    `merge_bins(min_frequency=thr)` iff it has one entry per bin, starts at 0, climbs in steps of 0 or
    1 and its runs have the three properties of `C10_minfreq_guarantee`.  So nothing stronger can be
    said about the runs than what follows from these. -/
theorem C10_minfreq_characterised (thr : Rat) (freq : List Rat) (m : List Nat) :
    m = minFreqMap thr freq ↔
      m.length = freq.length ∧ StepChain 0 m ∧ (∀ x, m.head? = some x → x = 0) ∧
      (∀ j, j + 1 < newCount m →
        thr < (runOf (freq.zip m) j).sum ∨
        (0 < (runOf (freq.zip m) j).sum ∧ ∃ g, (runOf (freq.zip m) (j + 1)).head? = some g ∧ thr ≤ g)) ∧
      (∀ j p q, runOf (freq.zip m) j = p ++ q → p ≠ [] → q ≠ [] → p.sum ≤ thr) ∧
      (∀ j p g q, runOf (freq.zip m) j = p ++ g :: q → thr ≤ g → p.sum ≤ 0) := by
  constructor
  · rintro rfl
    obtain ⟨h1, h2, h3⟩ := C10_minfreq thr freq
    obtain ⟨g1, g2, g3⟩ := C10_minfreq_guarantee thr freq
    exact ⟨h2, h1, h3, g1, g2, g3⟩
  · rintro ⟨hl, hc, h0, hG, hM, hH⟩
    exact minFreqInv_unique thr freq m 0 0 hl hc (Or.inl ⟨rfl, h0⟩) ((minFreqInv_zero_iff thr freq m hl).mpr ⟨hG, hM, hH⟩)

/-! Sharpness of `C10_minfreq_guarantee` (threshold 4):
    * `[5, 1, 5]`: the middle run has content `1 < 4` although it is not the last — "every new bin
      but the last reaches the threshold" is false;
    * `[4, 1]`: a bin whose content *equals* the threshold is not closed (`>` in 1 is strict) …
    * `[1, 4]`: … but it does start a new run (`≤` in 3 is not strict);
    * `[5, 1]`: the last run can be anything;
    * `[0, 5]`: a high bin does not start a new run when what precedes it sums to 0 (3 says `≤ 0`,
      not "nothing");
    * `[3, 3, 3]`: runs are closed as soon as they exceed the threshold (2). -/
example : minFreqMap 4 [5, 1, 5] = [0, 1, 2] ∧ minFreqMap 4 [4, 1] = [0, 0] ∧ minFreqMap 4 [1, 4] = [0, 1] ∧
    minFreqMap 4 [5, 1] = [0, 1] ∧ minFreqMap 4 [0, 5] = [0, 0] ∧ minFreqMap 4 [3, 3, 3] = [0, 0, 1] := by
  decide +kernel

/-! ## all axes at once -/

/-- **`merge_bins(axis=None)`, when accepted** (by amount or by min_frequency), for a histogram
    whose arrays have the shape of its binnings: every axis `k` has been merged by a step-chain bin
    map of its own with no gap inside a run (for the `amount` form: the `amount` map of that axis);
    its new bins are `mergedByMap` of its old bins — unions of adjacent old bins with the old outer
    edges (`C10_new_bin`, `C10_outer_edges`) — and it keeps its right-edge flag.  The totals of
    contents and of squared errors, the missed count, the names, the dtype are unchanged. -/
theorem C10_all_axes (fo : FloatOps) (h r : HN) (amount : Option Nat) (thr : Option Rat)
    (hfs : h.freq.shape = h.shape fo) (hes : h.err2.shape = h.shape fo)
    (hfw : h.freq.WellShaped) (hew : h.err2.WellShaped)
    (hr : h.mergeAll fo amount thr = .ok r) :
    r.axes.length = h.axes.length ∧
    (∀ (k : Nat) (bn : Binning), h.axes[k]? = some bn → ∃ map,
      StepChain 0 map ∧ (∀ x, map.head? = some x → x = 0) ∧ map.length = (bn.bins fo).length ∧
      MapRunsMeet (bn.bins fo) map ∧ (∀ a, amount = some a → map = amountMap (bn.bins fo).length a) ∧
      r.axes[k]? = some (.static (mergedByMap (bn.bins fo) map) bn.ire)) ∧
    r.freq.total = h.freq.total ∧ r.err2.total = h.err2.total ∧
    r.missed = h.missed ∧ r.names = h.names ∧ r.dtype = h.dtype ∧ r.keep = h.keep ∧
    r.freq.shape = r.shape fo ∧ r.err2.shape = r.shape fo := by
  have inv := HN.mergeAll_spec fo h r amount thr hfs hes hfw hew hr
  exact ⟨inv.len, fun k bn hbn => inv.done k bn (List.getElem?_eq_some_iff.mp hbn).1 hbn, inv.ftot, inv.etot,
    inv.missed, inv.names, inv.dtype, inv.keep, inv.fshape, inv.eshape⟩

/-- **`merge_bins(amount)` on all axes**: accepted when every axis has a bin and no run of `amount`
    bins has an inner gap on any axis; then every axis gets `mergedBins` (`C10_merged_edges`). -/
theorem C10_all_axes_amount (fo : FloatOps) (h : HN) (a : Nat) (thr : Option Rat) (ha : 0 < a)
    (hfs : h.freq.shape = h.shape fo) (hes : h.err2.shape = h.shape fo)
    (hfw : h.freq.WellShaped) (hew : h.err2.WellShaped)
    (hall : ∀ (k : Nat) (bn : Binning), h.axes[k]? = some bn → 0 < (bn.bins fo).length ∧ RunsMeet (bn.bins fo) a) :
    ∃ r, h.mergeAll fo (some a) thr = .ok r ∧
      ∀ (k : Nat) (bn : Binning), h.axes[k]? = some bn →
        r.axes[k]? = some (.static (mergedBins (bn.bins fo) a) bn.ire) := by
  obtain ⟨r, hr⟩ := HN.mergeAll_amount_ok fo h a thr ha hfs hes hfw hew hall
  exact ⟨r, hr, fun k bn hbn => (HN.mergeAll_amount_bins fo h r a thr hfs hes hfw hew hr k bn hbn).2⟩

/-- **All-or-nothing.**  If any one axis has a run of `amount` bins with a gap inside, the whole
    call is refused: nothing is returned (in particular no half-merged histogram). -/
theorem C10_all_axes_refused (fo : FloatOps) (h : HN) (a : Nat) (thr : Option Rat)
    (hfs : h.freq.shape = h.shape fo) (hes : h.err2.shape = h.shape fo)
    (hfw : h.freq.WellShaped) (hew : h.err2.WellShaped)
    (k : Nat) (bn : Binning) (hbn : h.axes[k]? = some bn) (hbad : ¬ RunsMeet (bn.bins fo) a) :
    ∃ e, h.mergeAll fo (some a) thr = .error e := by
  cases hr : h.mergeAll fo (some a) thr with
  | error e => exact ⟨e, rfl⟩
  | ok r => exact absurd (HN.mergeAll_amount_bins fo h r a thr hfs hes hfw hew hr k bn hbn).1 hbad

/-- the same for any way of calling it (amount, min_frequency): the error of the first refusing
    axis, met after the axes before it have been merged, is the result of the whole call -/
theorem C10_all_axes_refused_at (fo : FloatOps) (h g : HN) (amount : Option Nat) (thr : Option Rat) (i : Nat)
    (e : String) (hi : i < h.axes.length)
    (hg : (List.range i).foldlM (fun g k => g.mergeAxis fo k amount thr) h = .ok g)
    (he : g.mergeAxis fo i amount thr = .error e) : h.mergeAll fo amount thr = .error e :=
  HN.mergeAll_refused_at fo h g amount thr i e hi hg he

/-- **The order of the axes does not matter**: merging the contents along axis `i` and then along
    axis `j ≠ i` gives the same array as `j` first and `i` second (any shapes, any bin maps). -/
theorem C10_axes_commute (a : Arr) (i j : Nat) (mi mj : List Nat) (Ni Nj : Nat) (hij : i ≠ j) :
    (a.mergeAxis i mi Ni).mergeAxis j mj Nj = (a.mergeAxis j mj Nj).mergeAxis i mi Ni :=
  Arr.gather_comm a i j Ni Nj _ _ hij

/-- … and for the whole histogram (`amount` form): if axis `i` and then axis `j ≠ i` are merged
    successfully, so are `j` and then `i`, with the same result — bins, contents, squared errors and
    all other fields. -/
theorem C10_axes_commute_hist (fo : FloatOps) (h g r : HN) (i j a : Nat) (thr : Option Rat) (hij : i ≠ j)
    (h1 : h.mergeAxis fo i (some a) thr = .ok g) (h2 : g.mergeAxis fo j (some a) thr = .ok r) :
    ∃ g', h.mergeAxis fo j (some a) thr = .ok g' ∧ g'.mergeAxis fo i (some a) thr = .ok r := by
  have hm : MergeMode (some a) thr := by
    by_contra hm
    obtain ⟨e, he⟩ := HN.mergeAxis_badMode fo h i (some a) thr hm
    rw [he] at h1; cases h1
  rw [HN.mergeAxis_eq fo h i _ thr hm, HN.mergeAxisWithMap_ok_iff] at h1
  obtain ⟨bi, nbi, nei, hbi, hnbi, rfl⟩ := h1
  -- the `amount` map of an axis only looks at the length of that axis, which the other merge leaves alone
  rw [HN.mergeAxis_eq fo _ j _ thr hm, HN.mergeAxisWithMap_ok_iff,
    HN.axisMap_amount_congr h _ j a thr (List.getElem?_set_ne hij)] at h2
  obtain ⟨bj, nbj, nej, hbj, hnbj, rfl⟩ := h2
  refine ⟨_, (HN.mergeAxis_eq fo h j _ thr hm).trans ((HN.mergeAxisWithMap_ok_iff fo h _ j _).mpr
    ⟨bj, nbj, nej, (List.getElem?_set_ne hij).symm.trans hbj, hnbj, rfl⟩), ?_⟩
  rw [HN.mergeAxis_eq fo _ i _ thr hm, HN.axisMap_amount_congr h _ i a thr (List.getElem?_set_ne hij.symm),
    HN.mergeAxisWithMap_ok_iff]
  refine ⟨bi, nbi, nei, (List.getElem?_set_ne hij.symm).trans hbi, hnbi, ?_⟩
  simp only
  rw [List.set_comm _ _ hij, C10_axes_commute h.freq i j _ _ _ _ hij, C10_axes_commute h.err2 i j _ _ _ _ hij]

/-! ## Non-vacuity -/

namespace C10RunsExamples

/-- irregular widths; the gap `(7/2, 4)` lies between old bins 2 and 3 -/
def binsA : Bins := [(0, 1), (1, 3), (3, 7 / 2), (4, 6), (6, 7)]
/-- irregular widths; the gap `(3, 7/2)` lies between old bins 1 and 2 -/
def binsB : Bins := [(0, 1), (1, 3), (7 / 2, 4), (4, 6), (6, 7)]
def freqA : List Rat := [1, 1, 3, 2, 1]

theorem mapA_len : (minFreqMap 4 freqA).length = 5 := by decide +kernel

/-- the `min_frequency = 4` grouping of `freqA`: runs `{0, 1, 2}` and `{3, 4}` -/
example : minFreqMap 4 freqA = [0, 0, 0, 1, 1] ∧ newCount (minFreqMap 4 freqA) = 2 ∧
    runOf (binsA.zip (minFreqMap 4 freqA)) 0 = [(0, 1), (1, 3), (3, 7 / 2)] ∧
    runOf (binsA.zip (minFreqMap 4 freqA)) 1 = [(4, 6), (6, 7)] ∧
    runOf (freqA.zip (minFreqMap 4 freqA)) 0 = [1, 1, 3] ∧
    mergedByMap binsA (minFreqMap 4 freqA) = [(0, 7 / 2), (4, 7)] := by decide +kernel

/-- on `binsA` the gap lies between the two runs: accepted … -/
theorem meetA : MapRunsMeet binsA (minFreqMap 4 freqA) :=
  (C10_accept_iff _ _).mp ⟨[(0, 7 / 2), (4, 7)], Except.eq_ok_of_toOption _ _ (by decide +kernel)⟩

/-- … on `binsB` it lies inside run 0: not accepted -/
theorem not_meetB : ¬ MapRunsMeet binsB (minFreqMap 4 freqA) := by
  intro hm
  have := hm 1 (1, 3) (7 / 2, 4) 0 (by decide +kernel) (by decide +kernel) (by decide +kernel) (by decide +kernel)
  revert this
  decide +kernel

/-- run by run (`C10_accept_runwise`): run 0 of `binsB` is not consecutive -/
example : consecutiveB (runOf (binsA.zip (minFreqMap 4 freqA)) 0) = true ∧
    consecutiveB (runOf (binsB.zip (minFreqMap 4 freqA)) 0) = false := by decide +kernel

/-- `C10_merged_by_map` and `C10_new_bin` instantiated -/
example : mergeBinsAux (binsA.zip (minFreqMap 4 freqA)) none = .ok (mergedByMap binsA (minFreqMap 4 freqA)) :=
  (C10_merged_by_map binsA _ mapA_len (C10_minfreq 4 freqA).1 (C10_minfreq 4 freqA).2.2).1 meetA

example : mergeBinsAux (binsB.zip (minFreqMap 4 freqA)) none = .error "merging non-consecutive bins" :=
  (C10_merged_by_map binsB _ mapA_len (C10_minfreq 4 freqA).1 (C10_minfreq 4 freqA).2.2).2 not_meetB

/-- `C10_new_bin`, `C10_runs_partition`, `C10_outer_edges`, `C10_rising` instantiated -/
example : ∃ f l, (runOf (binsA.zip (minFreqMap 4 freqA)) 1).head? = some f ∧
    (runOf (binsA.zip (minFreqMap 4 freqA)) 1).getLast? = some l ∧
    (mergedByMap binsA (minFreqMap 4 freqA))[1]? = some (f.1, l.2) :=
  (C10_new_bin binsA _ mapA_len (C10_minfreq 4 freqA).1 (C10_minfreq 4 freqA).2.2).2 1 (by decide +kernel)

example : (List.range (newCount (minFreqMap 4 freqA))).flatMap (runOf (binsA.zip (minFreqMap 4 freqA))) = binsA ∧
    (List.range (newCount (minFreqMap 4 freqA))).flatMap (runOf (freqA.zip (minFreqMap 4 freqA))) = freqA :=
  ⟨C10_runs_partition binsA _ mapA_len (C10_minfreq 4 freqA).1,
   C10_runs_partition freqA _ mapA_len (C10_minfreq 4 freqA).1⟩

example : firstEdge? (mergedByMap binsA (minFreqMap 4 freqA)) = some 0 ∧
    lastEdge? (mergedByMap binsA (minFreqMap 4 freqA)) = some 7 := by
  obtain ⟨h1, h2⟩ := C10_outer_edges binsA (minFreqMap 4 freqA) mapA_len (C10_minfreq 4 freqA).2.2
  exact ⟨h1.trans (by decide +kernel), h2.trans (by decide +kernel)⟩

example : Rising [(0, 7 / 2), (4, 7)] :=
  C10_rising binsA _ (minFreqMap 4 freqA) mapA_len.ge ((risingB_iff _).mp (by decide +kernel))
    (Except.eq_ok_of_toOption _ _ (by decide +kernel))

def hA : H1 := { binning := .static binsA true, freq := freqA, err2 := freqA, under := some 2, over := some 1 }
def hB : H1 := { hA with binning := .static binsB true }

/-- `C10_minfreq_1d` instantiated: accepted on `hA` (and what comes out), refused on `hB` -/
example : ∃ r, hA.mergeMinFreq FloatOps.exact 4 = .ok r ∧ r.freq.sum = hA.freq.sum ∧ r.under = some 2 ∧
    lastEdge? (r.bins FloatOps.exact) = some 7 := by
  obtain ⟨r, hr, _, _, _, _, hs, _, hu, _, _, _, _, _, _, hl, _⟩ :=
    (C10_minfreq_1d FloatOps.exact hA 4 (by decide) rfl).1 meetA
  exact ⟨r, hr, hs, hu, hl.trans (by decide +kernel)⟩

example : ((hA.mergeMinFreq FloatOps.exact 4).toOption.map fun r => (r.bins FloatOps.exact, r.freq, r.err2, r.under, r.over))
    = some ([(0, 7 / 2), (4, 7)], [5, 3], [5, 3], some 2, some 1) := by decide +kernel

example : hB.mergeMinFreq FloatOps.exact 4 = .error "merging non-consecutive bins" :=
  (C10_minfreq_1d FloatOps.exact hB 4 (by decide) rfl).2 not_meetB

/-- `C10_minfreq_guarantee` on `[2, 1, 5, 1, 6, 0, 0]` (threshold 4): run 0 = `[2, 1]` stays below
    the threshold because the next bin alone reaches it; run 1 = `[5]`; run 2 = `[1]` likewise;
    run 3 = `[6]`; the last run `[0, 0]` is whatever is left -/
example : minFreqMap 4 [2, 1, 5, 1, 6, 0, 0] = [0, 0, 1, 2, 3, 4, 4] ∧
    mergeVals [2, 1, 5, 1, 6, 0, 0] (minFreqMap 4 [2, 1, 5, 1, 6, 0, 0]) 5 = [3, 5, 1, 6, 0] := by decide +kernel

/-- a 5 × 3 histogram; axis 0 has the bins `binsB` (gap between old bins 1 and 2) -/
def hn : HN :=
  { axes := [.static binsB true, .static [(0, 1), (1, 2), (2, 4)] false],
    freq := { shape := [5, 3], data := [1, 2, 3, 4, 5, 6, 7, 8, 9, 10, 11, 12, 13, 14, 15] },
    err2 := { shape := [5, 3], data := [1, 2, 3, 4, 5, 6, 7, 8, 9, 10, 11, 12, 13, 14, 15] },
    missed := some 3, names := ["x", "y"] }

theorem hn_ws : hn.freq.WellShaped ∧ hn.err2.WellShaped := by decide +kernel

/-- the same with `binsA` on axis 0 (gap between old bins 2 and 3) -/
def hnBad : HN := { hn with axes := [.static binsA true, .static [(0, 1), (1, 2), (2, 4)] false] }

theorem runsMeetB : RunsMeet binsB 2 :=
  (mapRunsMeet_amount binsB 2).mp ((C10_accept_iff _ _).mp ⟨[(0, 3), (7 / 2, 6), (6, 7)], Except.eq_ok_of_toOption _ _ (by decide +kernel)⟩)

theorem runsMeetY : RunsMeet [(0, 1), (1, 2), (2, 4)] 2 :=
  (mapRunsMeet_amount _ 2).mp ((C10_accept_iff _ _).mp ⟨[(0, 2), (2, 4)], Except.eq_ok_of_toOption _ _ (by decide +kernel)⟩)

theorem not_runsMeetA : ¬ RunsMeet binsA 2 := by
  intro h
  have := h 2 (by decide) (by decide)
  revert this
  decide +kernel

/-- `merge_bins(2)` on both axes of `hn`: in twos the gap of `binsB` lies between run 0 and run 1 —
    accepted (`C10_all_axes_amount`) … -/
example : ∃ r, hn.mergeAll FloatOps.exact (some 2) none = .ok r ∧
    r.axes[0]? = some (.static (mergedBins binsB 2) true) ∧
    r.axes[1]? = some (.static (mergedBins [(0, 1), (1, 2), (2, 4)] 2) false) := by
  obtain ⟨r, hr, hax⟩ := C10_all_axes_amount FloatOps.exact hn 2 none (by decide) rfl rfl hn_ws.1 hn_ws.2 (by
      intro k bn hbn
      match k, hbn with
      | 0, hbn => cases hbn; exact ⟨by decide, runsMeetB⟩
      | 1, hbn => cases hbn; exact ⟨by decide, runsMeetY⟩
      | k + 2, hbn => cases hbn)
  exact ⟨r, hr, hax 0 _ rfl, hax 1 _ rfl⟩

/-- … and this is what comes out -/
example : ((hn.mergeAll FloatOps.exact (some 2) none).toOption.map fun r =>
      (r.axes.map (·.bins FloatOps.exact), r.freq.shape, r.freq.data))
    = some ([[(0, 3), (7 / 2, 6), (6, 7)], [(0, 2), (2, 4)]], [3, 2], [12, 9, 36, 21, 27, 15]) ∧
    ((hn.mergeAll FloatOps.exact (some 2) none).toOption.map fun r => (r.freq.total, r.missed, r.names))
    = some (120, some 3, ["x", "y"]) := by
  decide +kernel

/-- on `hnBad` the gap lies inside run 1 of axis 0: the whole call is refused (`C10_all_axes_refused`),
    although axis 1 alone would merge -/
example : ∃ e, hnBad.mergeAll FloatOps.exact (some 2) none = .error e :=
  C10_all_axes_refused FloatOps.exact hnBad 2 none rfl rfl hn_ws.1 hn_ws.2 0 _ rfl not_runsMeetA

/-- `C10_all_axes_refused_at`: the error is the one of axis 0 -/
example : hnBad.mergeAll FloatOps.exact (some 2) none = .error "merging non-consecutive bins" :=
  C10_all_axes_refused_at FloatOps.exact hnBad hnBad (some 2) none 0 _ (by decide) rfl (by decide +kernel)

example : (hnBad.mergeAll FloatOps.exact (some 2) none).toOption = none ∧
    (hnBad.mergeAxis FloatOps.exact 1 (some 2) none).toOption.isSome = true := by decide +kernel

/-- `merge_bins(min_frequency=20)` on both axes of `hn` (row sums 6, 15, 24, 33, 42: groups
    `{0, 1}, {2}, {3}, {4}`; column sums 35, 40, 45: nothing to merge): `C10_all_axes` applies … -/
example : ∀ r, hn.mergeAll FloatOps.exact none (some 20) = .ok r → r.freq.total = 120 ∧ r.missed = some 3 := by
  intro r hr
  obtain ⟨_, _, ht, _, hm, _⟩ := C10_all_axes FloatOps.exact hn r none (some 20) rfl rfl hn_ws.1 hn_ws.2 hr
  exact ⟨ht.trans (by decide +kernel), hm⟩

/-- … to this result; with `min_frequency=30` row 2 would join rows 0 and 1 across the gap: refused -/
example : ((hn.mergeAll FloatOps.exact none (some 20)).toOption.map fun r =>
      (r.axes.map (·.bins FloatOps.exact), r.freq.shape, r.freq.data))
    = some ([[(0, 3), (7 / 2, 4), (4, 6), (6, 7)], [(0, 1), (1, 2), (2, 4)]], [4, 3],
        [5, 7, 9, 7, 8, 9, 10, 11, 12, 13, 14, 15]) ∧
    (hn.mergeAll FloatOps.exact none (some 30)).toOption = none := by decide +kernel

/-- merging along two axes in either order (`C10_axes_commute`) -/
example : (hn.freq.mergeAxis 0 [0, 0, 1, 1, 2] 3).mergeAxis 1 [0, 0, 1] 2
    = (hn.freq.mergeAxis 1 [0, 0, 1] 2).mergeAxis 0 [0, 0, 1, 1, 2] 3 :=
  C10_axes_commute hn.freq 0 1 _ _ 3 2 (by decide)

example : ((hn.freq.mergeAxis 1 [0, 0, 1] 2).mergeAxis 0 [0, 0, 1, 1, 2] 3).data = [12, 9, 36, 21, 27, 15] := by
  decide +kernel

/-- `C10_axes_commute_hist` on `hn`: axis 0 then 1, and 1 then 0 -/
example : ((hn.mergeAxis FloatOps.exact 0 (some 2) none).bind fun g => g.mergeAxis FloatOps.exact 1 (some 2) none)
    = ((hn.mergeAxis FloatOps.exact 1 (some 2) none).bind fun g => g.mergeAxis FloatOps.exact 0 (some 2) none) ∧
    ((hn.mergeAxis FloatOps.exact 0 (some 2) none).bind fun g => g.mergeAxis FloatOps.exact 1 (some 2) none).toOption.isSome
      = true := by
  -- one evaluation (axis 0, then 1); the other order by `C10_axes_commute_hist`
  have hs : ((hn.mergeAxis FloatOps.exact 0 (some 2) none).bind fun g =>
      g.mergeAxis FloatOps.exact 1 (some 2) none).toOption.isSome = true := by decide +kernel
  refine ⟨?_, hs⟩
  cases h0 : hn.mergeAxis FloatOps.exact 0 (some 2) none with
  | error e => rw [h0] at hs; cases hs
  | ok g =>
    rw [h0] at hs
    cases h1 : g.mergeAxis FloatOps.exact 1 (some 2) none with
    | error e => rw [Except.bind, h1] at hs; cases hs
    | ok r =>
      obtain ⟨g', h2, h3⟩ := C10_axes_commute_hist FloatOps.exact hn g r 0 1 2 none (by decide) h0 h1
      rw [h2, Except.bind, Except.bind, h1, h3]

end C10RunsExamples

end Physt
