import Physt.Proofs.AdaptiveNDPerm
import Physt.Theorems.C04_ND
import Physt.Theorems.C04_History
/-!
# C04 — the order in which rows are entered into an adaptive histogram does not matter

Two histories of `fill` / `fill_n` calls on an adaptive fixed-width histogram, from the same start,
whose entered rows (after the NaN mask, weights attached) are permutations of one another end with
the **same axes, contents, squared errors and missed** — all axes adaptive (`C04_nd_order`), any mix
of adaptive and non-adaptive axes (`C04_nd_order_mixed`), one dimension (`C04_order_1d`).  Helper
lemmas: `Proofs/AdaptiveNDPerm.lean`.

Contents and errors are order-independent because the state is the fixed-bin histogram of the rows
over the final bins (`calcND_perm`, `C03_order`).  The bins are order-independent because the final
range of an adaptive axis is the hull of its initial range and the cells of the values entered, and
that hull is characterised without any reference to order (`C04_hull_least_greatest`): it starts at
the LEAST and ends at the GREATEST cell needed — `tmin' = min (tmin, cells)`,
`tmin' + count' = max (tmin + count, cells + 1)` (`C04_hull_min_max`) — so it depends on the *set* of
values only (`C04_hull_set_only`).

Hypotheses are those of the history theorems (invariant `TracksA` / `TracksM` / `GridTracks` on the
start, strictly increasing edges, every coordinate within reach of the corrected search; in exact
arithmetic: positive widths only).  The flags inside the invariants are needed — kernel-checked at
the end of this file: with `align = False` the first value entered anchors the grid, and with
`include_right_edge` (refused by physt for adaptive binnings) the bins themselves depend on the
order.  NOT claimed: equality of the content type (`dtype`) — it follows the kinds of the weights,
which are not part of the rows (`fill(v, 1)` vs `fill(v, 1.0)`, example at the end).
-/
namespace Physt
open Grid H1

/-- **The hull depends on the set of values only.**  Two ranges that are hulls (`SpanHull`) of the same
    grid for two lists of values with the same members — any order, any multiplicities — are the same
    range (for a strictly increasing edge function). -/
theorem C04_hull_set_only {edge : Int → Rat} (hm : ∀ a b : Int, a < b → edge a < edge b) {g g' g'' : Grid}
    {vs vs' : List Rat} (h : ∀ v, v ∈ vs ↔ v ∈ vs') (a : SpanHull edge g g' vs) (b : SpanHull edge g g'' vs') :
    g'.w = g''.w ∧ g'.shift = g''.shift ∧ g'.tmin = g''.tmin ∧ g'.count = g''.count :=
  (a.congr_mem h).unique hm b

/-- **The hull, characterised without reference to any order.**  `g'` is the hull of the grid `g` and
    the values `vs` iff: width and origin are kept; every value has a cell; if no cell is needed (no
    old cells, no values) nothing changes; otherwise `g'` has cells, its first cell is the least and
    its last cell the greatest *cell needed* (`NeedsCell`: a cell of the old range `tmin … tmin+count-1`
    or the cell of a value of `vs`). -/
theorem C04_hull_least_greatest {edge : Int → Rat} (hm : ∀ a b : Int, a < b → edge a < edge b) (g g' : Grid)
    (vs : List Rat) :
    SpanHull edge g g' vs ↔
      g'.w = g.w ∧ g'.shift = g.shift ∧ (∀ v ∈ vs, ∃ k : Int, CellOf edge v k) ∧
      (g.count = 0 → vs = [] → g'.tmin = g.tmin ∧ g'.count = g.count) ∧
      (0 < g.count ∨ vs ≠ [] → 0 < g'.count ∧ NeedsCell edge g vs g'.tmin ∧
        NeedsCell edge g vs (g'.tmin + g'.count - 1) ∧
        ∀ k, NeedsCell edge g vs k → g'.tmin ≤ k ∧ k ≤ g'.tmin + g'.count - 1) := by
  constructor
  · intro sp
    refine ⟨sp.w, sp.shift, fun v hv => ?_, fun _ hv => sp.stay hv, fun hc => ⟨sp.pos hc, sp.extremes hm (sp.pos hc)⟩⟩
    obtain ⟨k, hk, _⟩ := sp.covers v hv
    exact ⟨k, hk⟩
  · rintro ⟨hw, hs, hcells, hnone, hsome⟩
    by_cases hne : 0 < g.count ∨ vs ≠ []
    · obtain ⟨hp, n1, n2, hall⟩ := hsome hne
      have klo : 0 < g.count → g'.tmin ≤ g.tmin := fun h => (hall g.tmin (Or.inl ⟨le_refl _, by omega⟩)).1
      have khi : 0 < g.count → g.tmin + g.count ≤ g'.tmin + g'.count := fun h => by
        have := (hall (g.tmin + g.count - 1) (Or.inl ⟨by omega, by omega⟩)).2
        omega
      refine ⟨hw, hs, klo, khi, fun v hv => ?_, fun _ => hp, fun _ => ?_, fun _ => ?_, fun hv => ?_⟩
      · obtain ⟨k, hk⟩ := hcells v hv
        have := hall k (Or.inr ⟨v, hv, hk⟩)
        exact ⟨k, hk, by omega, by omega⟩
      · exact n1.imp_left fun ⟨h1, h2⟩ => ⟨by omega, by have := klo (by omega); omega⟩
      · exact n2.imp_left fun ⟨h1, h2⟩ => ⟨by omega, by have := khi (by omega); omega⟩
      -- no values: both ends are cells of the old range
      · subst hv
        have h0 : 0 < g.count := hne.resolve_right (fun h => h rfl)
        have := klo h0
        have := khi h0
        simp only [NeedsCell, List.not_mem_nil, false_and, exists_false, or_false] at n1 n2
        omega
    · obtain ⟨h0, hv⟩ := not_or.mp hne
      obtain rfl := not_not.mp hv
      obtain ⟨ht, hc⟩ := hnone (by omega) rfl
      exact ⟨hw, hs, fun h => by omega, fun h => by omega, fun v hv => (by cases hv), fun h => (hne h).elim,
        fun h => by omega, fun h => by omega, fun _ => ⟨ht, hc⟩⟩

/-- **`tmin' = min (tmin, cells needed)` and `tmin' + count' = max (tmin + count, cells needed + 1)`**
    (`hullLo`, `hullEnd`: folds of `min` / `max`; for a grid without cells the old `tmin` does not take
    part), for any function `c` giving the cell of every value entered. -/
theorem C04_hull_min_max {edge : Int → Rat} (hm : ∀ a b : Int, a < b → edge a < edge b) {g g' : Grid}
    {vs : List Rat} (sp : SpanHull edge g g' vs) (c : Rat → Int) (hc : ∀ v ∈ vs, CellOf edge v (c v)) :
    g'.tmin = hullLo g (vs.map c) ∧ g'.tmin + g'.count = hullEnd g (vs.map c) := by
  -- the cells needed are those of the old range and the members of `vs.map c`
  have ofMap : ∀ k ∈ vs.map c, NeedsCell edge g vs k := by
    intro k hk
    obtain ⟨v, hv, rfl⟩ := List.mem_map.mp hk
    exact Or.inr ⟨v, hv, hc v hv⟩
  have toMap : ∀ k, NeedsCell edge g vs k → (g.tmin ≤ k ∧ k < g.tmin + g.count) ∨ k ∈ vs.map c := by
    rintro k (h | ⟨v, hv, hk⟩)
    · exact Or.inl h
    · exact Or.inr (List.mem_map.mpr ⟨v, hv, cell_unique hm (hc v hv) hk⟩)
  by_cases h0 : 0 < g.count
  · obtain ⟨n1, n2, hall⟩ := sp.extremes hm (sp.pos (Or.inl h0))
    have lo0 := hall g.tmin (Or.inl ⟨le_refl _, by omega⟩)
    have hi0 := hall (g.tmin + g.count - 1) (Or.inl ⟨by omega, by omega⟩)
    have lo := foldl_min_eq (a := g.tmin) (l := vs.map c)
      (List.mem_cons.mpr ((toMap _ n1).imp_left fun h => by omega))
      (fun b hb => (List.mem_cons.mp hb).elim (fun e => by omega) fun h => (hall b (ofMap b h)).1)
    have hi := foldl_max_eq (a := g.tmin + g.count - 1) (l := vs.map c)
      (List.mem_cons.mpr ((toMap _ n2).imp_left fun h => by omega))
      (fun b hb => (List.mem_cons.mp hb).elim (fun e => by omega) fun h => (hall b (ofMap b h)).2)
    simp only [hullLo, hullEnd, h0, if_true]
    omega
  · simp only [hullLo, hullEnd, h0, if_false]
    cases vs with
    | nil =>
      have := sp.stay rfl
      simp only [List.map_nil]
      omega
    | cons v rest =>
      obtain ⟨n1, n2, hall⟩ := sp.extremes hm (sp.pos (Or.inr (List.cons_ne_nil _ _)))
      have lo := foldl_min_eq (a := c v) (l := rest.map c) ((toMap _ n1).resolve_left (by omega))
        (fun b hb => (hall b (ofMap b hb)).1)
      have hi := foldl_max_eq (a := c v) (l := rest.map c) ((toMap _ n2).resolve_left (by omega))
        (fun b hb => (hall b (ofMap b hb)).2)
      simp only [List.map_cons]
      omega

/-- in exact arithmetic the cell of `v` is `⌊(v - shift) / w⌋` (`FloatOps.exact.est`) -/
theorem C04_hull_min_max_exact {g g' : Grid} {vs : List Rat} (hw : 0 < g.w)
    (sp : SpanHull (FloatOps.exact.edge g.w g.shift) g g' vs) :
    g'.tmin = hullLo g (vs.map (FloatOps.exact.est g.w g.shift)) ∧
    g'.tmin + g'.count = hullEnd g (vs.map (FloatOps.exact.est g.w g.shift)) :=
  C04_hull_min_max (C04_exact_mono g.w g.shift hw) sp _ (fun v _ => C04_exact_cell g.w g.shift v hw)

/-- **The order of the rows does not matter (N-d, all axes adaptive).**  Two lists of `fill` / `fill_n`
    calls (NaN coordinates, NaN rows, empty batches, weights of any kind, any chunking) run on the same
    histogram satisfying the invariant, whose entered rows are permutations of one another, every
    coordinate within reach: both are accepted and end with the same axes (bins), contents, squared
    errors and missed. -/
theorem C04_nd_order (fo : FloatOps) (fuel : Nat) (ops1 ops2 : List OpN) (h : HN) (grids : List Grid)
    (rows0 : List Row) (t : TracksA fo h grids rows0) (hm : MonoGrids fo grids)
    (hv1 : ∀ op ∈ ops1, op.Valid grids.length) (ha1 : ∀ op ∈ ops1, op.Accepted grids.length)
    (hv2 : ∀ op ∈ ops2, op.Valid grids.length) (ha2 : ∀ op ∈ ops2, op.Accepted grids.length)
    (hperm : (enteredRows ops1).Perm (enteredRows ops2))
    (hreach : ∀ r ∈ enteredRows ops1, ReachGrids fo fuel grids r.1) :
    ∃ r1 r2, ops1.foldlM (OpN.apply fo fuel) h = .ok r1 ∧ ops2.foldlM (OpN.apply fo fuel) h = .ok r2 ∧
      r1.axes = r2.axes ∧ r1.freq = r2.freq ∧ r1.err2 = r2.err2 ∧ r1.missed = r2.missed := by
  obtain ⟨r1, r2, _, e1, e2, _, _, _, a, b, c, d⟩ :=
    tracksA_order fo fuel ops1 ops2 h grids rows0 t hm hv1 ha1 hv2 ha2 hperm hreach
  exact ⟨r1, r2, e1, e2, a, b, c, d⟩

/-- … with the common final state described: both results are on the grids `grids'`, per axis the hull
    of the initial grid and the column of the rows entered (in either order), and both hold the
    fixed-bin histogram of `rows0` followed by the rows of the first history (invariant `TracksA`). -/
theorem C04_nd_order_state (fo : FloatOps) (fuel : Nat) (ops1 ops2 : List OpN) (h : HN) (grids : List Grid)
    (rows0 : List Row) (t : TracksA fo h grids rows0) (hm : MonoGrids fo grids)
    (hv1 : ∀ op ∈ ops1, op.Valid grids.length) (ha1 : ∀ op ∈ ops1, op.Accepted grids.length)
    (hv2 : ∀ op ∈ ops2, op.Valid grids.length) (ha2 : ∀ op ∈ ops2, op.Accepted grids.length)
    (hperm : (enteredRows ops1).Perm (enteredRows ops2))
    (hreach : ∀ r ∈ enteredRows ops1, ReachGrids fo fuel grids r.1) :
    ∃ r1 r2 grids', ops1.foldlM (OpN.apply fo fuel) h = .ok r1 ∧ ops2.foldlM (OpN.apply fo fuel) h = .ok r2 ∧
      TracksA fo r1 grids' (rows0 ++ enteredRows ops1) ∧ TracksA fo r2 grids' (rows0 ++ enteredRows ops1) ∧
      HullN fo grids grids' ((enteredRows ops1).map (·.1)) ∧
      HullN fo grids grids' ((enteredRows ops2).map (·.1)) := by
  obtain ⟨r1, r2, g', e1, e2, t1, t2, u, _⟩ :=
    tracksA_order fo fuel ops1 ops2 h grids rows0 t hm hv1 ha1 hv2 ha2 hperm hreach
  exact ⟨r1, r2, g', e1, e2, t1, t2, u, u.perm (hperm.map _)⟩

/-- **Exact arithmetic, with the final bins written out.**  Positive widths are the only hypothesis on
    the grids.  Both histories are accepted and end on the same axes `grids'.map .fixed` with the same
    contents, squared errors and missed; axis `i` keeps width and origin and spans from
    `min (tmin, ⌊(x - shift)/w⌋ …)` to `max (tmin + count, ⌊(x - shift)/w⌋ + 1 …)` over the coordinates
    `x` of column `i` — of either history. -/
theorem C04_nd_order_exact (fuel : Nat) (ops1 ops2 : List OpN) (h : HN) (grids : List Grid)
    (rows0 : List Row) (t : TracksA FloatOps.exact h grids rows0) (hw : ∀ g ∈ grids, 0 < g.w)
    (hv1 : ∀ op ∈ ops1, op.Valid grids.length) (ha1 : ∀ op ∈ ops1, op.Accepted grids.length)
    (hv2 : ∀ op ∈ ops2, op.Valid grids.length) (ha2 : ∀ op ∈ ops2, op.Accepted grids.length)
    (hperm : (enteredRows ops1).Perm (enteredRows ops2)) :
    ∃ (r1 r2 : HN) (grids' : List Grid), ops1.foldlM (OpN.apply FloatOps.exact fuel) h = .ok r1 ∧
      ops2.foldlM (OpN.apply FloatOps.exact fuel) h = .ok r2 ∧
      r1.axes = grids'.map Binning.fixed ∧ r2.axes = grids'.map Binning.fixed ∧
      r1.freq = r2.freq ∧ r1.err2 = r2.err2 ∧ r1.missed = r2.missed ∧ grids'.length = grids.length ∧
      ∀ (i : Nat) (g g' : Grid), grids[i]? = some g → grids'[i]? = some g' →
        g'.w = g.w ∧ g'.shift = g.shift ∧
        g'.tmin = hullLo g ((col i ((enteredRows ops1).map (·.1))).map (FloatOps.exact.est g.w g.shift)) ∧
        g'.tmin + g'.count = hullEnd g ((col i ((enteredRows ops1).map (·.1))).map (FloatOps.exact.est g.w g.shift)) ∧
        g'.tmin = hullLo g ((col i ((enteredRows ops2).map (·.1))).map (FloatOps.exact.est g.w g.shift)) ∧
        g'.tmin + g'.count = hullEnd g ((col i ((enteredRows ops2).map (·.1))).map (FloatOps.exact.est g.w g.shift)) := by
  obtain ⟨r1, r2, g', e1, e2, t1, t2, u, _, b, c, d⟩ :=
    tracksA_order FloatOps.exact fuel ops1 ops2 h grids rows0 t (monoGrids_exact grids hw) hv1 ha1 hv2 ha2 hperm
      (fun r _ => reachGrids_exact grids hw fuel r.1)
  refine ⟨r1, r2, g', e1, e2, t1.hax, t2.hax, b, c, d, u.len, ?_⟩
  intro i g gi hg hgi
  have hwg := hw g (List.mem_of_getElem? hg)
  have sp := u.each i g gi hg hgi
  have sp2 := (u.perm (hperm.map (·.1))).each i g gi hg hgi
  obtain ⟨x1, x2⟩ := C04_hull_min_max_exact hwg sp
  obtain ⟨y1, y2⟩ := C04_hull_min_max_exact hwg sp2
  exact ⟨sp.w, sp.shift, x1, x2, y1, y2⟩

/-- **The order of the rows does not matter (N-d, mixed axes).**  Adaptive grids next to any rising
    non-adaptive bins (rows can be missed on the latter; they still make the adaptive axes grow): two
    histories from the same state whose entered rows are permutations of one another are both
    accepted and end with the same axes, contents, squared errors and missed. -/
theorem C04_nd_order_mixed (fo : FloatOps) (fuel : Nat) (ops1 ops2 : List OpN) (h : HN) (axes : List Binning)
    (rows0 : List Row) (tr : TracksM fo h axes rows0) (ok : EdgesOK fo axes)
    (hv1 : ∀ op ∈ ops1, op.Valid axes.length) (ha1 : ∀ op ∈ ops1, op.Accepted axes.length)
    (hv2 : ∀ op ∈ ops2, op.Valid axes.length) (ha2 : ∀ op ∈ ops2, op.Accepted axes.length)
    (hperm : (enteredRows ops1).Perm (enteredRows ops2))
    (hreach : ∀ r ∈ enteredRows ops1, ReachRow fo fuel axes r.1) :
    ∃ r1 r2, ops1.foldlM (OpN.apply fo fuel) h = .ok r1 ∧ ops2.foldlM (OpN.apply fo fuel) h = .ok r2 ∧
      r1.axes = r2.axes ∧ r1.freq = r2.freq ∧ r1.err2 = r2.err2 ∧ r1.missed = r2.missed := by
  obtain ⟨r1, r2, _, e1, e2, _, _, _, a, b, c, d⟩ :=
    tracksM_order fo fuel ops1 ops2 h axes rows0 tr ok hv1 ha1 hv2 ha2 hperm hreach
  exact ⟨r1, r2, e1, e2, a, b, c, d⟩

/-- … with the common final state described (`TracksM` on the same axes `axes'`, grown from `axes` for
    the rows of either history: `AxesGrown`) -/
theorem C04_nd_order_mixed_state (fo : FloatOps) (fuel : Nat) (ops1 ops2 : List OpN) (h : HN) (axes : List Binning)
    (rows0 : List Row) (tr : TracksM fo h axes rows0) (ok : EdgesOK fo axes)
    (hv1 : ∀ op ∈ ops1, op.Valid axes.length) (ha1 : ∀ op ∈ ops1, op.Accepted axes.length)
    (hv2 : ∀ op ∈ ops2, op.Valid axes.length) (ha2 : ∀ op ∈ ops2, op.Accepted axes.length)
    (hperm : (enteredRows ops1).Perm (enteredRows ops2))
    (hreach : ∀ r ∈ enteredRows ops1, ReachRow fo fuel axes r.1) :
    ∃ r1 r2 axes', ops1.foldlM (OpN.apply fo fuel) h = .ok r1 ∧ ops2.foldlM (OpN.apply fo fuel) h = .ok r2 ∧
      TracksM fo r1 axes' (rows0 ++ enteredRows ops1) ∧ TracksM fo r2 axes' (rows0 ++ enteredRows ops1) ∧
      AxesGrown fo axes axes' ((enteredRows ops1).map (·.1)) ∧
      AxesGrown fo axes axes' ((enteredRows ops2).map (·.1)) := by
  obtain ⟨r1, r2, x, e1, e2, t1, t2, g, _⟩ :=
    tracksM_order fo fuel ops1 ops2 h axes rows0 tr ok hv1 ha1 hv2 ha2 hperm hreach
  exact ⟨r1, r2, x, e1, e2, t1, t2, g, g.perm (hperm.map _)⟩

/-- mixed axes in exact arithmetic: positive widths of the adaptive grids, rising bins elsewhere -/
theorem C04_nd_order_mixed_exact (fuel : Nat) (ops1 ops2 : List OpN) (h : HN) (axes : List Binning)
    (rows0 : List Row) (tr : TracksM FloatOps.exact h axes rows0)
    (hw : ∀ (i : Nat) (g : Grid), axes[i]? = some (Binning.fixed g) → g.adaptive = true → 0 < g.w)
    (hr : ∀ b ∈ axes, b.isAdaptive = false → Rising (b.bins FloatOps.exact))
    (hv1 : ∀ op ∈ ops1, op.Valid axes.length) (ha1 : ∀ op ∈ ops1, op.Accepted axes.length)
    (hv2 : ∀ op ∈ ops2, op.Valid axes.length) (ha2 : ∀ op ∈ ops2, op.Accepted axes.length)
    (hperm : (enteredRows ops1).Perm (enteredRows ops2)) :
    ∃ r1 r2, ops1.foldlM (OpN.apply FloatOps.exact fuel) h = .ok r1 ∧
      ops2.foldlM (OpN.apply FloatOps.exact fuel) h = .ok r2 ∧
      r1.axes = r2.axes ∧ r1.freq = r2.freq ∧ r1.err2 = r2.err2 ∧ r1.missed = r2.missed :=
  C04_nd_order_mixed FloatOps.exact fuel ops1 ops2 h axes rows0 tr (edgesOK_exact axes hw hr) hv1 ha1 hv2 ha2 hperm
    (fun r _ => reachRow_exact axes hw fuel r.1)

/-- **The order of the values does not matter (1-D).**  Two sequences of `fill` / `fill_n` calls on the
    same adaptive histogram whose entered (value, weight) pairs are permutations of one another: both
    are accepted and end with the same binning (the same grid, hence the same bins), contents, squared
    errors, underflow and overflow. -/
theorem C04_order_1d (fo : FloatOps) (fuel : Nat) (w s : Rat) (hm : EdgeMono fo w s) (ops1 ops2 : List FillOp)
    (hok1 : ∀ op ∈ ops1, op.ok = true) (hok2 : ∀ op ∈ ops2, op.ok = true)
    (hperm : (opsPts ops1).Perm (opsPts ops2)) (hreach : ∀ p ∈ opsPts ops1, Reach fo w s fuel p.1)
    (h : H1) (g : Grid) (pts : List Pt) (hw : g.w = w) (hs : g.shift = s) (tr : GridTracks fo h g pts) :
    ∃ h1 h2 : H1, runOps fo fuel h ops1 = .ok h1 ∧ runOps fo fuel h ops2 = .ok h2 ∧
      h1.binning = h2.binning ∧ h1.freq = h2.freq ∧ h1.err2 = h2.err2 ∧ h1.under = h2.under ∧
      h1.over = h2.over := by
  obtain ⟨h1, h2, _, e1, e2, _, _, _, a, b, c, d, e, _⟩ :=
    gridTracks_order fo fuel w s hm ops1 ops2 hok1 hok2 hperm hreach h g pts hw hs tr
  exact ⟨h1, h2, e1, e2, a, b, c, d, e⟩

/-- 1-D, exact arithmetic (positive width), with the final grid written out: both histories end on the
    grid `g'` with the width and origin of `g` that spans from the least to the greatest cell needed,
    `⌊(v - shift)/w⌋` being the cell of `v`. -/
theorem C04_order_1d_exact (fuel : Nat) (ops1 ops2 : List FillOp)
    (hok1 : ∀ op ∈ ops1, op.ok = true) (hok2 : ∀ op ∈ ops2, op.ok = true)
    (hperm : (opsPts ops1).Perm (opsPts ops2))
    (h : H1) (g : Grid) (pts : List Pt) (hw : 0 < g.w) (tr : GridTracks FloatOps.exact h g pts) :
    ∃ (h1 h2 : H1) (g' : Grid), runOps FloatOps.exact fuel h ops1 = .ok h1 ∧
      runOps FloatOps.exact fuel h ops2 = .ok h2 ∧
      h1.binning = .fixed g' ∧ h2.binning = .fixed g' ∧ h1.freq = h2.freq ∧ h1.err2 = h2.err2 ∧
      h1.under = h2.under ∧ h1.over = h2.over ∧ g'.w = g.w ∧ g'.shift = g.shift ∧
      g'.tmin = hullLo g (((opsPts ops1).map (·.1)).map (FloatOps.exact.est g.w g.shift)) ∧
      g'.tmin + g'.count = hullEnd g (((opsPts ops1).map (·.1)).map (FloatOps.exact.est g.w g.shift)) := by
  obtain ⟨h1, h2, g', e1, e2, t1, t2, sp, _, b, c, d, e, _⟩ :=
    gridTracks_order FloatOps.exact fuel g.w g.shift (C04_exact_mono _ _ hw) ops1 ops2 hok1 hok2 hperm
      (fun p _ => reach_exact g.w g.shift hw fuel p.1) h g pts rfl rfl tr
  obtain ⟨x1, x2⟩ := C04_hull_min_max_exact hw sp
  exact ⟨h1, h2, g', e1, e2, t1.state.binning, t2.state.binning, b, c, d, e, sp.w, sp.shift, x1, x2⟩

/-! ## Non-vacuity: the 2-D adaptive example of `Theorems/C04_ND.lean`, entered in another order -/

namespace ExampleOrderND
open ExampleAdaptiveND

/-- the rows of `ExampleAdaptiveND.ops` in another order and another chunking (one batch with a NaN row
    first, then a single `fill` with a float weight) -/
def ops2 : List OpN :=
  [.fillN [[some 5, some (1 / 2)], [none, none], [some (-3 / 10), some (-5)]] (some [1 / 2, 4, 2]) .f64,
   .fill [some (17 / 10), some 3] 1 .pyFloat]

theorem valid2 : ∀ op ∈ ops2, op.Valid grids.length := by simp [ops2, OpN.Valid, grids]

theorem accepted2 : ∀ op ∈ ops2, op.Accepted grids.length := by simp [ops2, OpN.Accepted, grids]

/-- the two histories enter the same three rows, in different orders -/
theorem perm : (enteredRows ops).Perm (enteredRows ops2) := by decide +kernel

example : enteredRows ops ≠ enteredRows ops2 := by decide +kernel

theorem same_result : ∃ r1 r2, ops.foldlM (OpN.apply FloatOps.exact 4) h0 = .ok r1 ∧
    ops2.foldlM (OpN.apply FloatOps.exact 4) h0 = .ok r2 ∧
    r1.axes = r2.axes ∧ r1.freq = r2.freq ∧ r1.err2 = r2.err2 ∧ r1.missed = r2.missed :=
  C04_nd_order FloatOps.exact 4 ops ops2 h0 grids [] start (monoGrids_exact grids widths) valid accepted valid2
    accepted2 perm (fun r _ => reachGrids_exact grids widths 4 r.1)

example : ∃ r1 r2, ops.foldlM (OpN.apply FloatOps.exact 4) h0 = .ok r1 ∧
    ops2.foldlM (OpN.apply FloatOps.exact 4) h0 = .ok r2 ∧
    r1.axes = r2.axes ∧ r1.freq = r2.freq ∧ r1.err2 = r2.err2 ∧ r1.missed = r2.missed :=
  same_result

example : ∃ (r1 r2 : HN) (grids' : List Grid), ops.foldlM (OpN.apply FloatOps.exact 4) h0 = .ok r1 ∧
    ops2.foldlM (OpN.apply FloatOps.exact 4) h0 = .ok r2 ∧
    r1.axes = grids'.map Binning.fixed ∧ r2.axes = grids'.map Binning.fixed ∧
    r1.freq = r2.freq ∧ r1.err2 = r2.err2 ∧ r1.missed = r2.missed ∧ grids'.length = grids.length := by
  obtain ⟨r1, r2, g', e1, e2, a1, a2, b, c, d, l, _⟩ := C04_nd_order_exact 4 ops ops2 h0 grids [] start widths
    valid accepted valid2 accepted2 perm
  exact ⟨r1, r2, g', e1, e2, a1, a2, b, c, d, l⟩

/-- the model computes what the theorem says: same axes, contents, errors, missed … -/
example :
    ((ops.foldlM (OpN.apply FloatOps.exact 4) h0).toOption.map fun r => (r.axes, r.freq, r.err2, r.missed))
      = ((ops2.foldlM (OpN.apply FloatOps.exact 4) h0).toOption.map fun r => (r.axes, r.freq, r.err2, r.missed)) ∧
    ((ops2.foldlM (OpN.apply FloatOps.exact 4) h0).toOption.map fun r => r.axes)
      = some [.fixed { w := 1 / 10, tmin := -3, count := 54, adaptive := true },
              .fixed { w := 2, tmin := -3, count := 5, adaptive := true }] := by
  obtain ⟨r1, r2, e1, e2, a, b, c, d⟩ := same_result
  refine ⟨?_, by decide +kernel⟩
  rw [e1, e2]
  exact congrArg some (by simp only [a, b, c, d])

/-- … and the explicit formula gives those bins: on axis 0 (width 1/10, no cells at the start) the
    cells of 17/10, -3/10, 5 are 17, -3, 50: `tmin' = -3`, `tmin' + count' = 51`; on axis 1 (width 2)
    the cells of 3, -5, 1/2 are 1, -3, 0: `tmin' = -3`, `tmin' + count' = 2` -/
example :
    hullLo { w := 1 / 10, adaptive := true }
        ((col 0 ((enteredRows ops2).map (·.1))).map (FloatOps.exact.est (1 / 10) 0)) = -3 ∧
    hullEnd { w := 1 / 10, adaptive := true }
        ((col 0 ((enteredRows ops2).map (·.1))).map (FloatOps.exact.est (1 / 10) 0)) = 51 ∧
    hullLo { w := 2, adaptive := true }
        ((col 1 ((enteredRows ops).map (·.1))).map (FloatOps.exact.est 2 0)) = -3 ∧
    hullEnd { w := 2, adaptive := true }
        ((col 1 ((enteredRows ops).map (·.1))).map (FloatOps.exact.est 2 0)) = 2 := by
  decide +kernel

/-- **Not claimed: the content type.**  The kind of a weight is not part of the row; `fill(v, 1)` and
    `fill(v, 1.0)` enter the same row and end with different dtypes. -/
example :
    enteredRows [.fill [some (1 / 2), some 3] 1 .pyInt] = enteredRows [.fill [some (1 / 2), some 3] 1 .pyFloat] ∧
    ([OpN.fill [some (1 / 2), some 3] 1 .pyInt].foldlM (OpN.apply FloatOps.exact 4) h0).toOption.map (·.dtype)
      = some .i64 ∧
    ([OpN.fill [some (1 / 2), some 3] 1 .pyFloat].foldlM (OpN.apply FloatOps.exact 4) h0).toOption.map (·.dtype)
      = some .f64 := by
  decide +kernel

end ExampleOrderND

/-! ## Non-vacuity: mixed axes -/

namespace ExampleOrderMixed
open ExampleMixedND

/-- the rows of `ExampleMixedND.ops` (one of them missed on the static axis) in another order -/
def ops2 : List OpN :=
  [.fill [some (-3 / 10), some 5] 1 .pyInt,
   .fillN [[some (1 / 2), some 2], [none, some 1], [some (17 / 10), some (1 / 2)]] none .i64]

theorem perm : (enteredRows ops).Perm (enteredRows ops2) := by decide +kernel

theorem same_result : ∃ r1 r2, ops.foldlM (OpN.apply FloatOps.exact 4) h0 = .ok r1 ∧
    ops2.foldlM (OpN.apply FloatOps.exact 4) h0 = .ok r2 ∧
    r1.axes = r2.axes ∧ r1.freq = r2.freq ∧ r1.err2 = r2.err2 ∧ r1.missed = r2.missed :=
  C04_nd_order_mixed_exact 4 ops ops2 h0 axes [] start widths rising valid accepted
    (by simp [ops2, OpN.Valid, axes]) (by simp [ops2, OpN.Accepted, axes]) perm

example : ∃ r1 r2, ops.foldlM (OpN.apply FloatOps.exact 4) h0 = .ok r1 ∧
    ops2.foldlM (OpN.apply FloatOps.exact 4) h0 = .ok r2 ∧
    r1.axes = r2.axes ∧ r1.freq = r2.freq ∧ r1.err2 = r2.err2 ∧ r1.missed = r2.missed :=
  same_result

/-- computed: the missed row comes first in `ops2` and makes the adaptive axis start at cell -3; the
    end state is the same -/
example :
    ((ops.foldlM (OpN.apply FloatOps.exact 4) h0).toOption.map fun r => (r.axes, r.freq, r.err2, r.missed))
      = ((ops2.foldlM (OpN.apply FloatOps.exact 4) h0).toOption.map fun r => (r.axes, r.freq, r.err2, r.missed)) ∧
    ((ops2.foldlM (OpN.apply FloatOps.exact 4) h0).toOption.map fun r => (r.axes, r.total, r.missed))
      = some ([.fixed { w := 1 / 10, tmin := -3, count := 21, adaptive := true }, .static [(0, 1), (1, 2)] true],
              2, some 1) := by
  obtain ⟨r1, r2, e1, e2, a, b, c, d⟩ := same_result
  refine ⟨?_, by decide +kernel⟩
  rw [e1, e2]
  exact congrArg some (by simp only [a, b, c, d])

end ExampleOrderMixed

/-! ## Non-vacuity: one dimension -/

namespace ExampleOrder1D

def g0 : Grid := { w := 1 / 10, adaptive := true }
def h0 : H1 := H1.empty FloatOps.exact (.fixed g0) true none
def ops1 : List FillOp := [.one (some (17 / 10)) 1 .pyInt, .one (some (-3 / 10)) 2 .pyInt, .many [some 5, none] none .i64]
def ops2 : List FillOp := [.many [some 5, none, some (-3 / 10)] (some [1, 7, 2]) .f64, .one (some (17 / 10)) 1 .pyFloat]

theorem perm : (opsPts ops1).Perm (opsPts ops2) := by decide +kernel

example : opsPts ops1 ≠ opsPts ops2 := by decide +kernel

theorem same_result : ∃ (h1 h2 : H1) (g' : Grid), runOps FloatOps.exact 4 h0 ops1 = .ok h1 ∧ runOps FloatOps.exact 4 h0 ops2 = .ok h2 ∧
    h1.binning = .fixed g' ∧ h2.binning = .fixed g' ∧ h1.freq = h2.freq ∧ h1.err2 = h2.err2 ∧
    h1.under = h2.under ∧ h1.over = h2.over := by
  obtain ⟨h1, h2, g', e1, e2, b1, b2, a, b, c, d, _⟩ := C04_order_1d_exact 4 ops1 ops2 (by decide) (by decide) perm
    h0 g0 [] (by decide +kernel) (gridTracks_empty FloatOps.exact g0 rfl rfl rfl rfl none)
  exact ⟨h1, h2, g', e1, e2, b1, b2, a, b, c, d⟩

example : ∃ (h1 h2 : H1) (g' : Grid), runOps FloatOps.exact 4 h0 ops1 = .ok h1 ∧ runOps FloatOps.exact 4 h0 ops2 = .ok h2 ∧
    h1.binning = .fixed g' ∧ h2.binning = .fixed g' ∧ h1.freq = h2.freq ∧ h1.err2 = h2.err2 ∧
    h1.under = h2.under ∧ h1.over = h2.over :=
  same_result

/-- computed: the cells -3 … 50 of the grid `k/10` in both orders -/
example :
    ((runOps FloatOps.exact 4 h0 ops1).toOption.map fun r => (r.binning, r.freq, r.err2, r.under, r.over))
      = ((runOps FloatOps.exact 4 h0 ops2).toOption.map fun r => (r.binning, r.freq, r.err2, r.under, r.over)) ∧
    ((runOps FloatOps.exact 4 h0 ops2).toOption.map fun r => r.binning)
      = some (.fixed { w := 1 / 10, tmin := -3, count := 54, adaptive := true }) ∧
    hullLo g0 (((opsPts ops2).map (·.1)).map (FloatOps.exact.est (1 / 10) 0)) = -3 ∧
    hullEnd g0 (((opsPts ops2).map (·.1)).map (FloatOps.exact.est (1 / 10) 0)) = 51 := by
  obtain ⟨h1, h2, _, e1, e2, b1, b2, a, b, c, d⟩ := same_result
  refine ⟨?_, by decide +kernel⟩
  rw [e1, e2]
  exact congrArg some (by simp only [b1, b2, a, b, c, d])

end ExampleOrder1D

/-! ## The limits of the statement: the flags inside the invariants are needed -/

/-- **`align = False` makes the result depend on the order** (`FixedWidthBinning(bin_width=1,
    adaptive=True, align=False)`, a combination physt accepts).  The first value entered into the empty
    grid moves the origin onto itself.  Width 1: `1/2` then `1/4` gives the bins `[-1/2, 1/2), [1/2, 3/2)`
    with contents `[1, 1]`; `1/4` then `1/2` gives the single bin `[1/4, 5/4)` with contents `[2]`.
    The invariants `GridTracks` / `TracksA` / `TracksM` ask for `align = true`. -/
example :
    let g : Grid := { w := 1, adaptive := true, align := false }
    let a := fillAll FloatOps.exact 4 (H1.empty FloatOps.exact (.fixed g) true none) [((1 / 2, 1), .pyInt), ((1 / 4, 1), .pyInt)]
    let b := fillAll FloatOps.exact 4 (H1.empty FloatOps.exact (.fixed g) true none) [((1 / 4, 1), .pyInt), ((1 / 2, 1), .pyInt)]
    a.binning = .fixed { w := 1, shift := 1 / 2, tmin := -1, count := 2, adaptive := true, align := false } ∧
    a.freq = [1, 1] ∧
    b.binning = .fixed { w := 1, shift := 1 / 4, tmin := 0, count := 1, adaptive := true, align := false } ∧
    b.freq = [2] := by
  decide +kernel

/-- the same in two dimensions (axis 0 not aligned) -/
example :
    let grids : List Grid := [{ w := 1, adaptive := true, align := false }, { w := 2, adaptive := true }]
    let h0 : HN := HN.empty FloatOps.exact (grids.map Binning.fixed) true none none
    let a := [OpN.fill [some (1 / 2), some 3] 1 .pyInt, .fill [some (1 / 4), some 0] 1 .pyInt]
    let b := [OpN.fill [some (1 / 4), some 0] 1 .pyInt, .fill [some (1 / 2), some 3] 1 .pyInt]
    (enteredRows a).Perm (enteredRows b) ∧
    ((a.foldlM (OpN.apply FloatOps.exact 4) h0).toOption.map fun r => r.freq.shape) = some [2, 2] ∧
    ((b.foldlM (OpN.apply FloatOps.exact 4) h0).toOption.map fun r => r.freq.shape) = some [1, 2] := by
  decide +kernel

/-- **`include_right_edge` on an adaptive grid makes the bins depend on the order** (physt refuses the
    combination; the invariants ask for `ire = false`).  Width 1, values `1/2` and `2`: entered in this
    order the value 2, ON the edge beyond the last one, is put into the right-closed bin `[1, 2]` — two
    bins; entered as `2`, `1/2` the grid starts with the cell `[2, 3]` of 2 — three bins. -/
example :
    let g : Grid := { w := 1, adaptive := true, ire := true }
    let a := fillAll FloatOps.exact 4 (H1.empty FloatOps.exact (.fixed g) true none) [((1 / 2, 1), .pyInt), ((2, 1), .pyInt)]
    let b := fillAll FloatOps.exact 4 (H1.empty FloatOps.exact (.fixed g) true none) [((2, 1), .pyInt), ((1 / 2, 1), .pyInt)]
    a.binning = .fixed { w := 1, tmin := 0, count := 2, adaptive := true, ire := true } ∧ a.freq = [1, 1] ∧
    b.binning = .fixed { w := 1, tmin := 0, count := 3, adaptive := true, ire := true } ∧ b.freq = [1, 0, 1] := by
  decide +kernel

end Physt
