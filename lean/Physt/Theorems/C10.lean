import Physt.Proofs.Lists
import Mathlib.Tactic.Ring
/-!
# C10 — merge_bins conserves content and bin boundaries
-/
namespace Physt
open H1

theorem sum_runSums (zs : List (Rat × Nat)) (n : Nat) (h : ∀ z ∈ zs, z.2 < n) :
    ((List.range n).map fun j => ((zs.filter (·.2 == j)).map (·.1)).sum).sum = (zs.map (·.1)).sum := by
  induction zs with
  | nil => simp
  | cons z zs ih =>
    have e : ∀ j, (((z :: zs).filter (·.2 == j)).map (·.1)).sum
        = if j = z.2 then z.1 + ((zs.filter (·.2 == j)).map (·.1)).sum else ((zs.filter (·.2 == j)).map (·.1)).sum := by
      intro j
      by_cases hj : j = z.2
      · simp [hj]
      · simp [hj, Ne.symm hj]
    simp only [e]
    rw [List.sum_map_ite_eq, List.count_range, if_pos (h z (List.mem_cons_self ..)),
      ih fun q hq => h q (List.mem_cons_of_mem _ hq)]
    simp

/-- **Conservation.** Whatever the bin map (runs of `amount` bins, or the `min_frequency`
    grouping), as long as it sends every old bin to one of the new bins, the merged contents (and
    squared errors) have the same total: nothing is lost and nothing is counted twice. -/
theorem C10_conserve (vals : List Rat) (map : List Nat) (newN : Nat) (hl : map.length = vals.length)
    (hm : ∀ j ∈ map, j < newN) : (mergeVals vals map newN).sum = vals.sum := by
  rw [mergeVals, sum_runSums _ _ fun z hz => hm z.2 (List.of_mem_zip hz).2, List.map_fst_zip (by omega)]

/-- the map of `merge_bins(amount)`: old bin `k` goes to new bin `k / amount`, i.e. new bin `j`
    collects exactly the run `j*amount ≤ k < (j+1)*amount` (the last run may be shorter) -/
theorem C10_runs (n amount k j : Nat) (ha : 0 < amount) :
    (amountMap n amount)[k]? = some j ↔ k < n ∧ j * amount ≤ k ∧ k < (j + 1) * amount := by
  rw [amountMap, List.getElem?_map]
  by_cases hk : k < n
  · rw [List.getElem?_range hk, Option.map_some, Option.some.injEq, Nat.div_eq_iff ha]
    have e : (j + 1) * amount = j * amount + amount := Nat.succ_mul j amount
    omega
  · simp [hk]

/-- the merged content of new bin `j` is the sum of the contents of its run -/
theorem C10_run_content (vals : List Rat) (map : List Nat) (newN j : Nat) (hj : j < newN) :
    (mergeVals vals map newN)[j]? = some (((vals.zip map).filter (·.2 == j)).map (·.1)).sum := by
  simp [mergeVals, List.getElem?_map, List.getElem?_range hj]

/-- `merge_bins` with a non-empty bin map: whatever `apply_bin_map` says about the bins, and then
    the run sums; nothing else is touched -/
theorem H1.mergeWithMap_eq (fo : FloatOps) (h : H1) (map : List Nat) (hne : map ≠ []) :
    h.mergeWithMap fo map = (mergeBinsAux ((h.bins fo).zip map) none).map fun nb =>
      { h with binning := .static nb (h.binning.ire && (nb.getLast?.map (·.2) == (h.bins fo).getLast?.map (·.2))),
               freq := mergeVals h.freq map nb.length, err2 := mergeVals h.err2 map nb.length } := by
  cases map with
  | nil => exact absurd rfl hne
  | cons m ms => 
    simp only [mergeWithMap, List.isEmpty_cons, Bool.false_eq_true, if_false, bind, Except.bind, pure, Except.pure]
    cases mergeBinsAux ((h.bins fo).zip (m :: ms)) none <;> rfl

/-- missed counts, the other fields and (for a copying merge) the original are untouched -/
theorem C10_untouched (fo : FloatOps) (h r : H1) (map : List Nat) (hr : h.mergeWithMap fo map = .ok r) :
    r.under = h.under ∧ r.over = h.over ∧ r.inner = h.inner ∧ r.dtype = h.dtype ∧ r.keep = h.keep := by
  cases map with
  | nil => cases hr
  | cons m ms =>
    rw [H1.mergeWithMap_eq fo h _ (List.cons_ne_nil m ms)] at hr
    cases hb : mergeBinsAux ((h.bins fo).zip (m :: ms)) none with
    | error e => rw [hb] at hr; cases hr
    | ok nb => rw [hb] at hr; cases hr; exact ⟨rfl, rfl, rfl, rfl, rfl⟩

/-- a bin map that climbs in steps of 0 or 1 from `start` (or `start + 1`): consecutive old bins
    go to the same or to the next new bin, so every new bin is a union of adjacent old bins -/
def StepChain : Nat → List Nat → Prop
  | _, [] => True
  | s, x :: xs => (x = s ∨ x = s + 1) ∧ StepChain x xs

/-- a bin map for `n` old bins, as `merge_bins` builds them: one entry per bin, starting at new bin 0
    and climbing in steps of 0 or 1 -/
def IsBinMap (n : Nat) (map : List Nat) : Prop :=
  map.length = n ∧ StepChain 0 map ∧ ∀ x, map.head? = some x → x = 0

theorem stepChain_of_head (l : List Nat) (s t : Nat) (h : StepChain s l)
    (hh : ∀ x, l.head? = some x → x = t ∨ x = t + 1) : StepChain t l := by
  cases l with
  | nil => trivial
  | cons x xs => exact ⟨hh x rfl, h.2⟩

/-- one step of the `min_frequency` loop, with the facts its two `if`s establish -/
theorem minFreqMapAux_cons (thr f : Rat) (fs : List Rat) (cur : Nat) (sum : Rat) :
    ∃ c1 c3 s1 s3, minFreqMapAux thr (f :: fs) cur sum = c1 :: minFreqMapAux thr fs c3 s3 ∧
      ((c1 = cur ∧ s1 = sum ∧ ¬ (thr ≤ f ∧ 0 < sum)) ∨ (c1 = cur + 1 ∧ s1 = 0 ∧ thr ≤ f ∧ 0 < sum)) ∧
      ((c3 = c1 + 1 ∧ s3 = 0 ∧ thr < s1 + f) ∨ (c3 = c1 ∧ s3 = s1 + f ∧ ¬ thr < s1 + f)) := by
  simp only [minFreqMapAux]
  by_cases h1 : thr ≤ f ∧ 0 < sum
  · by_cases h2 : thr < 0 + f
    · exact ⟨cur + 1, cur + 1 + 1, 0, 0, by simp only [h1, and_self, if_true, h2], Or.inr ⟨rfl, rfl, h1⟩,
        Or.inl ⟨rfl, rfl, h2⟩⟩
    · exact ⟨cur + 1, cur + 1, 0, 0 + f, by simp only [h1, and_self, if_true, h2, if_false], Or.inr ⟨rfl, rfl, h1⟩,
        Or.inr ⟨rfl, rfl, h2⟩⟩
  · by_cases h2 : thr < sum + f
    · exact ⟨cur, cur + 1, sum, 0, by simp only [h1, if_false, h2, if_true], Or.inl ⟨rfl, rfl, h1⟩, Or.inl ⟨rfl, rfl, h2⟩⟩
    · exact ⟨cur, cur, sum, sum + f, by simp only [h1, if_false, h2], Or.inl ⟨rfl, rfl, h1⟩, Or.inr ⟨rfl, rfl, h2⟩⟩

theorem minFreqMapAux_chain (thr : Rat) (fs : List Rat) (cur : Nat) (sum : Rat) :
    StepChain cur (minFreqMapAux thr fs cur sum) ∧
    (sum = 0 → ∀ x, (minFreqMapAux thr fs cur sum).head? = some x → x = cur) := by
  induction fs generalizing cur sum with
  | nil => exact ⟨trivial, fun _ x hx => nomatch hx⟩
  | cons f fs ih =>
    obtain ⟨c1, c3, s1, s3, e, hA, hB⟩ := minFreqMapAux_cons thr f fs cur sum
    rw [e]
    refine ⟨⟨by rcases hA with h | h <;> simp [h.1], ?_⟩, ?_⟩
    · rcases hB with ⟨rfl, rfl, _⟩ | ⟨rfl, _, _⟩
      -- a fresh run (nothing carried) starts at its own index
      · exact stepChain_of_head _ _ _ (ih _ _).1 fun x hx => Or.inr ((ih _ _).2 rfl x hx)
      · exact (ih _ _).1
    · intro hs x hx
      cases hx
      rcases hA with ⟨h, _, _⟩ | ⟨_, _, _, hpos⟩
      · exact h
      · rw [hs] at hpos; exact absurd hpos (lt_irrefl _)

theorem minFreqMapAux_length (thr : Rat) (fs : List Rat) (cur : Nat) (sum : Rat) :
    (minFreqMapAux thr fs cur sum).length = fs.length := by
  induction fs generalizing cur sum with
  | nil => rfl
  | cons f fs ih =>
    obtain ⟨c1, c3, s1, s3, e, -, -⟩ := minFreqMapAux_cons thr f fs cur sum
    rw [e, List.length_cons, ih, List.length_cons]

/-- **min_frequency.** The grouping starts at new bin 0 and climbs in steps of 0 or 1: every new
    bin is a union of adjacent old bins, in order, and no old bin is left out. -/
theorem C10_minfreq (thr : Rat) (freq : List Rat) :
    StepChain 0 (minFreqMap thr freq) ∧ (minFreqMap thr freq).length = freq.length ∧
    ∀ x, (minFreqMap thr freq).head? = some x → x = 0 :=
  ⟨(minFreqMapAux_chain thr freq 0 0).1, minFreqMapAux_length thr freq 0 0, (minFreqMapAux_chain thr freq 0 0).2 rfl⟩

/-- **Merging across a gap is refused**: two adjacent bins of one run whose edges do not meet. -/
theorem C10_refuse_gap (b c : Bin) (rest : List (Bin × Nat)) (j : Nat) (hgap : b.2 ≠ c.1) :
    ∃ e, mergeBinsAux ((c, j) :: rest) (some (b, j)) = .error e := by
  simp [mergeBinsAux, hgap, throw, throwThe, MonadExceptOf.throw]

/-- a non-positive (here: zero) amount is refused -/
theorem C10_refuse_amount (fo : FloatOps) (h : H1) : ∃ e, h.mergeAmount fo 0 = .error e := by
  simp [mergeAmount, throw, throwThe, MonadExceptOf.throw, bind, Except.bind]

example : amountMap 5 2 = [0, 0, 1, 1, 2] ∧ mergeVals [1, 2, 3, 4, 5] (amountMap 5 2) 3 = [3, 7, 5] := by
  decide +kernel
example : minFreqMap 4 [2, 1, 5, 1, 6, 0, 0] = [0, 0, 1, 2, 3, 4, 4] := by decide +kernel
example : (mergeBinsAux ([(0, 1), (1, 2), (3, 4)].zip [0, 0, 1]) none).toOption = some [(0, 2), (3, 4)] := by
  decide +kernel

end Physt
