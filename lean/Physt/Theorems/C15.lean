import Physt.Model.Special
import Mathlib.Analysis.SpecialFunctions.Complex.Arg
/-!
# C15 — transformed histograms bin points by their true coordinates

`atan2(y, x)` is `Complex.arg (x + y·i)`; numpy's `% (2π)` folds the negative half into `[π, 2π)`.
-/
namespace Physt
open Real Complex

/-- `np.arctan2(y, x) % (2π)` over the reals -/
noncomputable def phiOf (x y : ℝ) : ℝ :=
  let a := Complex.arg ⟨x, y⟩
  if a < 0 then a + 2 * π else a

/-- `np.hypot(x, y)` -/
noncomputable def rhoOf (x y : ℝ) : ℝ := ‖(⟨x, y⟩ : ℂ)‖

theorem norm_mk_sq (a b : ℝ) : ‖(⟨a, b⟩ : ℂ)‖ ^ 2 = a ^ 2 + b ^ 2 := by
  rw [Complex.sq_norm, Complex.normSq_mk, sq, sq]

theorem rhoOf_sq (x y : ℝ) : rhoOf x y ^ 2 = x ^ 2 + y ^ 2 := norm_mk_sq x y

theorem phiOf_neg (x y : ℝ) (h : Complex.arg ⟨x, y⟩ < 0) : phiOf x y = Complex.arg ⟨x, y⟩ + 2 * π := if_pos h

theorem phiOf_nonneg (x y : ℝ) (h : ¬ Complex.arg ⟨x, y⟩ < 0) : phiOf x y = Complex.arg ⟨x, y⟩ := if_neg h

/-- **Polar coordinates.** `r ≥ 0`, `r² = x² + y²`, `φ ∈ [0, 2π)`, and the inverse formulas
    `x = r cos φ`, `y = r sin φ` recover the point. -/
theorem C15_polar (x y : ℝ) :
    0 ≤ rhoOf x y ∧ rhoOf x y ^ 2 = x ^ 2 + y ^ 2 ∧ 0 ≤ phiOf x y ∧ phiOf x y < 2 * π ∧
    rhoOf x y * Real.cos (phiOf x y) = x ∧ rhoOf x y * Real.sin (phiOf x y) = y := by
  have hc := Complex.norm_mul_cos_arg (⟨x, y⟩ : ℂ)
  have hs := Complex.norm_mul_sin_arg (⟨x, y⟩ : ℂ)
  refine ⟨norm_nonneg _, rhoOf_sq x y, ?_⟩
  by_cases ha : Complex.arg ⟨x, y⟩ < 0
  · rw [phiOf_neg x y ha, Real.cos_add_two_pi, Real.sin_add_two_pi]
    have h1 := Complex.neg_pi_lt_arg (⟨x, y⟩ : ℂ)
    exact ⟨by linarith only [h1, Real.pi_pos], add_lt_of_neg_left _ ha, hc, hs⟩
  · rw [phiOf_nonneg x y ha]
    exact ⟨not_lt.mp ha, (Complex.arg_le_pi _).trans_lt (lt_two_mul_self Real.pi_pos), hc, hs⟩

/-- the polar angle `θ = atan2(ρ, z)` with `ρ = hypot(x, y) ≥ 0` -/
noncomputable def thetaOf (x y z : ℝ) : ℝ := Complex.arg ⟨z, rhoOf x y⟩
noncomputable def rOf (x y z : ℝ) : ℝ := ‖(⟨z, rhoOf x y⟩ : ℂ)‖

/-- **Spherical coordinates.** `r ≥ 0`, `r² = x² + y² + z²`, `θ ∈ [0, π]` measured from the `+z`
    axis, `φ ∈ [0, 2π)`, and `x = r sin θ cos φ`, `y = r sin θ sin φ`, `z = r cos θ`. -/
theorem C15_spherical (x y z : ℝ) :
    0 ≤ rOf x y z ∧ rOf x y z ^ 2 = x ^ 2 + y ^ 2 + z ^ 2 ∧ 0 ≤ thetaOf x y z ∧ thetaOf x y z ≤ π ∧
    rOf x y z * Real.cos (thetaOf x y z) = z ∧
    rOf x y z * Real.sin (thetaOf x y z) * Real.cos (phiOf x y) = x ∧
    rOf x y z * Real.sin (thetaOf x y z) * Real.sin (phiOf x y) = y := by
  have hs : rOf x y z * Real.sin (thetaOf x y z) = rhoOf x y := Complex.norm_mul_sin_arg (⟨z, rhoOf x y⟩ : ℂ)
  obtain ⟨hρ, -, -, -, hx, hy⟩ := C15_polar x y
  refine ⟨norm_nonneg _, ?_, Complex.arg_nonneg_iff.mpr hρ, Complex.arg_le_pi _,
    Complex.norm_mul_cos_arg (⟨z, rhoOf x y⟩ : ℂ), ?_, ?_⟩
  · rw [rOf, norm_mk_sq, rhoOf_sq, add_comm]
  · rwa [hs]
  · rwa [hs]

/-- **Cylindrical coordinates**: `(ρ, φ)` are the polar coordinates of `(x, y)`, `z` is unchanged. -/
theorem C15_cylindrical (x y z : ℝ) :
    0 ≤ rhoOf x y ∧ rhoOf x y ^ 2 = x ^ 2 + y ^ 2 ∧ rhoOf x y * Real.cos (phiOf x y) = x ∧
    rhoOf x y * Real.sin (phiOf x y) = y ∧ z = z :=
  have h := C15_polar x y
  ⟨h.1, h.2.1, h.2.2.2.2.1, h.2.2.2.2.2, rfl⟩

section paths
variable {P T S R : Type} (m : Mixin P T S R)

/-- **All entry paths agree.** Entering a Cartesian point is entering its transformed coordinates
    with `transformed=True`: for `find_bin`, `fill` and (any list of points) `fill_n`; the point is
    transformed exactly once. -/
theorem C15_paths (s : S) (p : P) (ps : List P) :
    m.findBin s (.inl p) = m.findBin s (.inr (m.transform p)) ∧
    m.fill s (.inl p) = m.fill s (.inr (m.transform p)) ∧
    m.fillN s (ps.map .inl) = m.fillN s (ps.map fun p => .inr (m.transform p)) := by
  refine ⟨rfl, rfl, ?_⟩
  -- a fold over mapped points is a fold of the composed step, and the two steps agree by definition
  rw [Mixin.fillN, Mixin.fillN, List.foldl_map, List.foldl_map]
  rfl

/-- `fill` puts the point where `find_bin` finds it, when the inherited `fill` does so -/
theorem C15_fill_find (hbase : ∀ s t, (m.baseFill s t).2 = m.baseFind s t) (s : S) (v : Sum P T) :
    (m.fill s v).2 = m.findBin s v := by
  cases v with
  | inl p => exact hbase s (m.transform p)
  | inr t => exact hbase s t

end paths

/-- **Projection classes** (`_projection_class_map`): radial / azimuthal parts of polar and
    cylindrical histograms, the sphere surface of a spherical one, the cylinder surface `(φ, z)` of a
    cylindrical one; anything else is a plain histogram. -/
theorem C15_projection_classes :
    projectionClass "PolarHistogram" [0] = some "RadialHistogram" ∧
    projectionClass "PolarHistogram" [1] = some "AzimuthalHistogram" ∧
    projectionClass "SphericalHistogram" [1, 2] = some "SphericalSurfaceHistogram" ∧
    projectionClass "SphericalHistogram" [0] = some "RadialHistogram" ∧
    projectionClass "CylindricalHistogram" [0, 1] = some "PolarHistogram" ∧
    projectionClass "CylindricalHistogram" [1, 2] = some "CylindricalSurfaceHistogram" ∧
    projectionClass "CylindricalHistogram" [0, 2] = none ∧ projectionClass "SphericalHistogram" [0, 1] = none := by
  decide +kernel

/-! Non-vacuity: the negative x half-axis has φ = π -/
example : phiOf (-1) 0 = π := by
  have : (⟨-1, 0⟩ : ℂ) = -1 := Complex.ext rfl neg_zero.symm
  rw [phiOf_nonneg, this, Complex.arg_neg_one]
  rw [this, Complex.arg_neg_one]
  exact not_lt.mpr Real.pi_pos.le

end Physt
