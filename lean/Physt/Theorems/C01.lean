import Physt.Proofs.Account1D
/-!
# C01 — 1D construction: each value counted once, in the bin that contains it

`calc1d` is the model of
`calculate_1d_frequencies` (sort + `searchsorted` slices); the theorems show that it refines the
abstract spec, for every data list and every rising binning, with no bound on sizes.
-/
namespace Physt

/-- **Content and errors.** For every rising binning and every data list, the content of bin `i`
    is the sum of the weights of the values `v` with `left ≤ v < right` (last bin: `≤ right`),
    and its squared error is the sum of the squared weights. -/
theorem C01_content (bins : Bins) (data : List Pt) (hb : Rising bins) (i : Nat)
    (hi : i < bins.length) :
    (calc1d bins data).freq[i]? = some (wsum (data.filter fun p => inBin bins true i p.1)) ∧
    (calc1d bins data).err2[i]? = some (w2sum (data.filter fun p => inBin bins true i p.1)) := by
  rw [calc1d_freq_eq bins data hb, calc1d_err2_eq bins data hb, List.getElem?_map, List.getElem?_map,
    List.getElem?_range hi]
  exact ⟨rfl, rfl⟩

/-- The histogram has exactly one content and one error per bin. -/
theorem C01_shape (bins : Bins) (data : List Pt) :
    (calc1d bins data).freq.length = bins.length ∧ (calc1d bins data).err2.length = bins.length := by
  simp [calc1d, sweepAux_length]

/-- **Counted once.** In a rising binning a value lies in at most one bin. -/
theorem C01_once (bins : Bins) (hb : Rising bins) (v : Rat) (i j : Nat)
    (hi : inBin bins true i v = true) (hj : inBin bins true j v = true) : i = j := by
  -- a value in bin `i` is below the left edge of every later bin (or `i` is the last bin)
  have key : ∀ i j : Nat, i < j → inBin bins true i v = true → inBin bins true j v = true → False := by
    intro i j hij hi hj
    obtain ⟨li, ri, hgi, _, hvi⟩ := inBin_iff.mp hi
    obtain ⟨lj, rj, hgj, hlj, _⟩ := inBin_iff.mp hj
    have hpw := hb.right_le_left hgi hgj hij
    have hjlen := (List.getElem?_eq_some_iff.mp hgj).1
    rcases hvi with h | h
    · exact lt_irrefl v (lt_of_lt_of_le h (le_trans hpw hlj))
    · omega
  rcases Nat.lt_trichotomy i j with h | h | h
  · exact (key i j h hi hj).elim
  · exact h
  · exact (key j i h hj hi).elim

/-- **Underflow / overflow** for consecutive bins: exactly the weight below the first and above
    the last edge. -/
theorem C01_under_over (bins : Bins) (data : List Pt) (hc : consecutiveB bins = true)
    (b0 bl : Bin) (h0 : bins.head? = some b0) (hl : bins.getLast? = some bl) :
    (calc1d bins data).under = some (wsum (data.filter fun p => decide (p.1 < b0.1))) ∧
    (calc1d bins data).over = some (wsum (data.filter fun p => decide (bl.2 < p.1))) := by
  have hs := sortPts_sorted data
  have h1 := takeWhile_drop_of_downClosed _ (downClosed_lt b0.1) _ hs
  have h2 := takeWhile_drop_of_downClosed _ (downClosed_le bl.2) _ hs
  constructor
  · simp only [calc1d, hc, if_true, h0, ssLeft]
    rw [take_length_takeWhile, h1.1, wsum_filter_sort]
  · simp only [calc1d, hc, if_true, hl, ssRight]
    rw [h2.2, wsum_filter_sort]
    have hq : (fun x : Pt => !decide (x.1 ≤ bl.2)) = fun p : Pt => decide (bl.2 < p.1) := by
      funext p
      by_cases h : p.1 ≤ bl.2
      · simp [h, not_lt.mpr h]
      · simp [h, not_le.mp h]
    rw [hq]

/-- **Gaps.** With non-consecutive bins underflow and overflow read as unknown (NaN); by
    `C01_content` a value lying in a gap satisfies no `inBin` and is counted in no bin. -/
theorem C01_gaps (bins : Bins) (data : List Pt) (hc : consecutiveB bins = false) :
    (calc1d bins data).under = none ∧ (calc1d bins data).over = none := by
  simp [calc1d, hc]

/-- **Accounting.** For consecutive rising bins `total + underflow + overflow` is the total
    input weight: nothing is lost and nothing is counted twice. -/
theorem C01_accounting (bins : Bins) (data : List Pt) (hne : bins ≠ []) (hb : Rising bins)
    (hc : consecutiveB bins = true) :
    ∃ u o, (calc1d bins data).under = some u ∧ (calc1d bins data).over = some o ∧
      (calc1d bins data).freq.sum + u + o = wsum data := by
  obtain ⟨b, bs, rfl⟩ : ∃ b bs, bins = b :: bs := by
    cases bins with
    | nil => exact (hne rfl).elim
    | cons b bs => exact ⟨b, bs, rfl⟩
  have hsum := sweep_sum_consecutive (sortPts data) (b :: bs).length b bs 0 (by simp) hb
    ((consecutiveB_iff_isChain _).mp hc)
  have hlast : (b :: bs).getLast? = some ((b :: bs).getLast (by simp)) := List.getLast?_eq_some_getLast _
  refine ⟨wsum ((sortPts data).take (ssLeft (sortPts data) b.1)),
    wsum ((sortPts data).drop (ssRight (sortPts data) ((b :: bs).getLast (by simp)).2)), ?_, ?_, ?_⟩
  · simp [calc1d, hc]
  · simp only [calc1d, hc, if_true, hlast]
  · have htot : wsum (sortPts data) = wsum data := wsum_perm (sortPts_perm data)
    have hsplit : ∀ k, wsum ((sortPts data).take k) + wsum ((sortPts data).drop k) = wsum (sortPts data) := by
      intro k; rw [← wsum_append, List.take_append_drop]
    have h3 := hsplit (ssRight (sortPts data) ((b :: bs).getLast (by simp)).2)
    simp only [calc1d]
    rw [hsum, ← htot, ← h3]
    ring

/-- **NaN handling (no weights).** The entries kept are exactly the non-NaN ones, each with
    weight 1. -/
theorem C01_nan_unweighted (vs : List (Option Rat)) :
    maskPts vs none = (vs.filterMap id).map fun v => (v, 1) := by
  induction vs with
  | nil => simp [maskPts]
  | cons v vs ih => cases v <;> simp [maskPts, ih]

/-- **NaN handling (weights).** A NaN entry is dropped *together with its weight*: the pairs
    kept are exactly the pairs of the zipped input whose value is not NaN. -/
theorem C01_nan_weighted (vs : List (Option Rat)) (ws : List Rat) (h : ws.length = vs.length) :
    maskPts vs (some ws) = (vs.zip ws).filterMap fun vw => vw.1.map fun v => (v, vw.2) := by
  induction vs generalizing ws with
  | nil => simp [maskPts]
  | cons v vs ih =>
    cases ws with
    | nil => simp at h
    | cons w ws =>
      have h' : ws.length = vs.length := by simpa using h
      cases v <;> simp [maskPts, ih ws h']

/-- **Shape / order independence.** The histogram depends only on the multiset of
    (value, weight) pairs: any flattening order of a multi-dimensional input gives the same
    contents, errors, underflow and overflow. -/
theorem C01_flatten (bins : Bins) (data data' : List Pt) (hb : Rising bins)
    (hp : data.Perm data') : calc1d bins data = calc1d bins data' := by
  have hf : (calc1d bins data).freq = (calc1d bins data').freq := by
    rw [calc1d_freq_eq _ _ hb, calc1d_freq_eq _ _ hb]
    exact List.map_congr_left fun i _ => wsum_perm (hp.filter _)
  have he : (calc1d bins data).err2 = (calc1d bins data').err2 := by
    rw [calc1d_err2_eq _ _ hb, calc1d_err2_eq _ _ hb]
    exact List.map_congr_left fun i _ => w2sum_perm (hp.filter _)
  have hu : (calc1d bins data).under = (calc1d bins data').under ∧
      (calc1d bins data).over = (calc1d bins data').over := by
    by_cases hc : consecutiveB bins = true
    · cases bins with
      | nil => simp [calc1d, consecutiveB, hp.isEmpty_eq]
      | cons b0 bs =>
        have hl := List.getLast?_eq_some_getLast (l := b0 :: bs) (List.cons_ne_nil _ _)
        have a := C01_under_over _ data hc b0 _ rfl hl
        have a' := C01_under_over _ data' hc b0 _ rfl hl
        rw [a.1, a.2, a'.1, a'.2, wsum_perm (hp.filter _), wsum_perm (hp.filter _)]
        exact ⟨rfl, rfl⟩
    · have hc' : consecutiveB bins = false := by simpa using hc
      rw [(C01_gaps bins data hc').1, (C01_gaps bins data hc').2, (C01_gaps bins data' hc').1,
        (C01_gaps bins data' hc').2]
      exact ⟨rfl, rfl⟩
  cases h1 : calc1d bins data; cases h2 : calc1d bins data'
  simp only [h1, h2] at hf he hu
  simp [hf, he, hu.1, hu.2]

/-! Non-vacuity: a gapped, irregular binning with values on edges, in the gap and outside
    satisfies the hypotheses, and the model computes what the statement says. -/
example : Rising [(0, 1), (2, 3), (3, 11 / 2)] ∧ consecutiveB [(0, 1), (2, 3), (3, 11 / 2)] = false :=
  ⟨(risingB_iff _).mp (by decide +kernel), by decide +kernel⟩
example :
    calc1d [(0, 1), (2, 3), (3, 11 / 2)]
      [(1 / 2, 1), (1, 1), (2, 3), (3, 2), (11 / 2, 1 / 2), (-1, 1), (6, 1)]
      = { freq := [1, 3, 5 / 2], err2 := [1, 9, 17 / 4], under := none, over := none } := by
  decide +kernel
example : Rising [(0, 1), (1, 3)] ∧ consecutiveB [(0, 1), (1, 3)] = true ∧ [(0, 1), (1, 3)] ≠ ([] : Bins) :=
  ⟨(risingB_iff _).mp (by decide +kernel), by decide +kernel, by simp⟩

end Physt
