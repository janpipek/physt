import Physt.Proofs.NDArray
import Physt.Proofs.Lists
import Physt.Model.HistND
/-!
# C02 — ND construction: each row counted once, in the cell that contains it

`calcND` is the model of `calculate_nd_frequencies` (masked edges + `histogramdd` + mask
selection per axis).  `numpy.histogramdd` itself is assumed at its documented semantics.
-/
namespace Physt

/-- **Cell content.** For every valid cell index the content is the weight of the rows whose cell
    (the tuple of per-axis bins found for the row's coordinates) is that index, and the squared
    error is the sum of their squared weights. -/
theorem C02_content (axes : List (Bins × Bool)) (rows : List Row) (idx : List Nat)
    (h : validIdx (axes.map (·.1.length)) idx = true) :
    (calcND axes rows).freq.get idx
      = ((rows.filter fun r => rowCell axes r.1 == some idx).map (·.2)).sum ∧
    (calcND axes rows).err2.get idx
      = ((rows.filter fun r => rowCell axes r.1 == some idx).map fun r => r.2 * r.2).sum := by
  unfold calcND
  simp only
  rw [Arr.get_ofFn _ _ _ h, Arr.get_ofFn _ _ _ h]
  constructor
  · simp only [List.filter_map, List.map_map]; rfl
  · simp only [List.filter_map, List.map_map]; rfl

/-- **Accounting.** `total + missed` is the total weight of the rows (after the NaN mask). -/
theorem C02_missed (axes : List (Bins × Bool)) (rows : List Row) :
    (calcND axes rows).freq.total + (calcND axes rows).missing = (rows.map (·.2)).sum := by
  unfold calcND; simp only; ring

/-- **Axes are never mixed up.** The cell of a row is found coordinate by coordinate: coordinate
    `a` is looked up in the bins of axis `a` and nowhere else. -/
theorem C02_axes (axes : List (Bins × Bool)) (row : List Rat) (idx : List Nat) (hl : axes.length = row.length) :
    rowCell axes row = some idx ↔
      idx.length = axes.length ∧ ∀ a (ha : a < axes.length) (hr : a < row.length) (hi : a < idx.length),
        axisCell axes[a].1 axes[a].2 row[a] = some idx[a] := by
  have hz : (axes.zip row).length = axes.length := by rw [List.length_zip, ← hl, Nat.min_self]
  unfold rowCell
  rw [mapM_eq_some_iff, List.forall₂_iff_get]
  constructor
  · rintro ⟨h1, h2⟩
    exact ⟨by rw [← h1, hz], fun a ha hr hi => by simpa using h2 a (hz ▸ ha) hi⟩
  · rintro ⟨h1, h2⟩
    exact ⟨by rw [hz, h1], fun a ha hi => by simpa using h2 a (hz ▸ ha) (hl ▸ hz ▸ ha) hi⟩

/-- **NaN rows** are dropped together with their weights (no weights: weight 1). -/
theorem C02_nan_rows (rows : List (List (Option Rat))) :
    maskRows rows none = (rows.filter fun r => r.all Option.isSome).map fun r => (r.filterMap id, 1) := by
  induction rows with
  | nil => rfl
  | cons r rs ih => by_cases h : r.all Option.isSome = true <;> simp [maskRows, h, ih]

theorem C02_nan_rows_weighted (rows : List (List (Option Rat))) (ws : List Rat) (hl : ws.length = rows.length) :
    maskRows rows (some ws)
      = ((rows.zip ws).filter fun p => p.1.all Option.isSome).map fun p => (p.1.filterMap id, p.2) := by
  induction rows generalizing ws with
  | nil => simp [maskRows]
  | cons r rs ih =>
    cases ws with
    | nil => simp at hl
    | cons w ws =>
      have hl' : ws.length = rs.length := by simpa using hl
      by_cases h : r.all Option.isSome = true <;> simp [maskRows, h, ih ws hl']

/-- **find_bin along an axis** agrees with the 1-D search when the axis includes its right edge,
    hence (C03) returns bin `i` iff `left ≤ x < right` (last bin right-closed). -/
theorem C02_find_bin_axis (bins : Bins) (hb : Rising bins) (v : Rat) (i : Nat) :
    HN.findBinAxis bins true v = some i ↔ inBin bins true i v = true :=
  findBinAxis_spec bins hb true v i

/-- a right-open axis (fixed-width binnings) does not contain its last edge -/
theorem C02_right_open (bins : Bins) (l r : Rat) (hlast : bins.getLast? = some (l, r)) (hb : Rising bins) :
    HN.findBinAxis bins false r = none := by
  rw [Option.eq_none_iff_forall_ne_some]
  intro i h
  -- the bin found contains `r`; it is not the last one, whose right edge `r` is not below `r`
  obtain ⟨l', r', hget, _, hv⟩ := inBin_iff.mp ((findBinAxis_spec bins hb false r i).mp h)
  have hr : r < r' := hv.resolve_right fun h => Bool.false_ne_true h.1
  rw [List.getLast?_eq_getElem?] at hlast
  have hi := (List.getElem?_eq_some_iff.mp hget).1
  rcases Nat.lt_or_ge i (bins.length - 1) with hlt | hge
  · have h1 := hb.right_le_left hget hlast hlt
    have h2 := hb.lt _ (List.mem_of_getElem? hlast)
    exact absurd (lt_trans (lt_of_le_of_lt h1 h2) hr) (lt_irrefl _)
  · obtain rfl : i = bins.length - 1 := by omega
    rw [hget] at hlast
    obtain ⟨_, rfl⟩ := Prod.mk.inj (Option.some.inj hlast)
    exact lt_irrefl _ hr

/-! Non-vacuity: a gapped axis, a right-closed and a right-open axis -/
example : axisCell [(0, 1), (2, 3)] true (3 / 2) = none ∧ axisCell [(0, 1), (2, 3)] true 3 = some 1 ∧
    axisCell [(0, 1), (1, 2)] false 2 = none ∧ axisCell [(0, 1), (1, 2)] true 2 = some 1 ∧
    axisCell [(0, 1), (2, 3)] true 2 = some 1 ∧ axisCell [(0, 1), (2, 3)] true 1 = none := by decide +kernel
example : (calcND [([(0, 1), (1, 2)], true), ([(0, 2)], false)] [([1 / 2, 1], 2), ([3 / 2, 2], 1), ([5, 1], 1)]).freq.data
    = [2, 0] := by decide +kernel

end Physt
