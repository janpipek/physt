import Physt.Proofs.Compose
import Physt.Theorems.C07_Rules
/-!
# C01 ∘ C07 / C04 — `h1(data, <binning derived from the data>)` counts every value once and misses nothing

`C01_content` / `C01_accounting` take explicit rising bins; the factory theorems (`C07_*`, `C04_*`) say what
bins each factory derives from the data.  Here the two are composed, per factory: the binning the
factory derives FROM THE DATA ITSELF is accepted by `H1.construct`, is rising and consecutive, every
non-NaN value lies in exactly one bin, underflow = overflow = 0, `total = Σ weights` and every bin
holds the weight of the values inside it.  Helper lemmas: `Proofs/Compose.lean`.

Reading guide:
* `ArgsOk vs ws wkind dtype dropna` — the arguments pass the validations of `h1` that do not concern the
  bins (`dropna=False` only without NaN; weights have the shape of the data; no integer histogram
  from float weights);
* `CountsAll bins pts h` — `h` has one content / squared error per bin, content `i` is
  `Σ weights of the values v with inBin bins true i v` (`left ≤ v < right`, last bin `≤ right`), squared
  error `i` is the sum of their squared weights, every value lies in exactly one bin, `under = over =
  inner = 0` (read as NaN through the properties when `keep_missed=False`), `total = Σ weights`,
  and the recorded statistics weight is `Σ weights`;
* `maskPts vs ws` — the (value, weight) pairs left after the NaN mask (`C01_nan_*`);
* `fixedWidthOf fo fuel g0 ire vs` — the grid `fixed_width_binning(data)` produces from the empty grid `g0`;
* `TightOn edge g vals ire` — the grid has at least one bin, the least value lies in its first bin and the
  greatest in its last one (or, with `includes_right_edge`, exactly on the last edge).
-/
namespace Physt
open Grid H1

/-- **The generic step.**  Over ANY rising, consecutive, non-empty binning whose first edge is at or
    below and whose last edge is at or above every non-NaN value, `h1` is accepted, keeps the binning,
    and counts every value exactly once with nothing missed. -/
theorem C01_covering (fo : FloatOps) (b : Binning) (vs : List (Option Rat)) (ws : Option (List Rat))
    (wkind : DType) (dtype : Option DType) (keep dropna : Bool) (ok : ArgsOk vs ws wkind dtype dropna)
    (hr : Rising (b.bins fo)) (hc : consecutiveB (b.bins fo) = true) (hne : b.bins fo ≠ [])
    (hspan : ∀ p ∈ maskPts vs ws, ((b.bins fo).head hne).1 ≤ p.1 ∧ p.1 ≤ ((b.bins fo).getLast hne).2) :
    ∃ h : H1, H1.construct fo b vs ws wkind dtype keep dropna = .ok h ∧ h.binning = b ∧ h.keep = keep ∧
      h.dtype = constructDType ws wkind dtype ∧ CountsAll (b.bins fo) (maskPts vs ws) h := by
  have h0 := List.head?_eq_some_head hne
  have hl := List.getLast?_eq_some_getLast hne
  refine ⟨_, construct_eq_ok fo b vs ws wkind dtype keep dropna ok hne hr, rfl, rfl, rfl, ?_⟩
  obtain ⟨hu, ho, hsum⟩ := calc1d_spanning (b.bins fo) (maskPts vs ws) hr hc _ _ h0 hl hspan
  have hshape := C01_shape (b.bins fo) (maskPts vs ws)
  refine ⟨hshape.1, hshape.2, fun i hi => (C01_content _ _ hr i hi).1, fun i hi => (C01_content _ _ hr i hi).2,
    ?_, ?_, ?_, rfl, ?_, ?_, hsum, statsOf_weight _ _ _⟩
  · intro p hp
    obtain ⟨i, hi, hin⟩ := in_some_bin (b.bins fo) hr hc _ _ h0 hl p.1 (hspan p hp).1 (hspan p hp).2
    exact ⟨i, hi, hin, fun j hj => C01_once _ hr p.1 j i hj hin⟩
  · show (if keep then _ else _) = _
    rw [hu, ite_self]
  · show (if keep then _ else _) = _
    rw [ho, ite_self]
  · show (if keep then (if keep then _ else _) else none) = _
    rw [hu, ite_self]
  · show (if keep then (if keep then _ else _) else none) = _
    rw [ho, ite_self]

/-- **Any grid that spans the data** (e.g. one given by an explicit `range=`, or an adaptive grid after
    fills): with strictly increasing edges, first edge `≤` and last edge `≥` every value, `h1` counts every
    value once and misses nothing. -/
theorem C01_grid_covering (fo : FloatOps) (g : Grid) (hn : 0 < g.count) (hm : EdgeMono fo g.w g.shift)
    (vs : List (Option Rat)) (ws : Option (List Rat)) (wkind : DType) (dtype : Option DType)
    (keep dropna : Bool) (ok : ArgsOk vs ws wkind dtype dropna)
    (hlo : ∀ v ∈ vs.filterMap id, g.edgeAt fo g.tmin ≤ v)
    (hhi : ∀ v ∈ vs.filterMap id, v ≤ g.edgeAt fo (g.tmin + g.count)) :
    ∃ h : H1, H1.construct fo (.fixed g) vs ws wkind dtype keep dropna = .ok h ∧ h.binning = .fixed g ∧
      h.keep = keep ∧ h.dtype = constructDType ws wkind dtype ∧ CountsAll (g.bins fo) (maskPts vs ws) h ∧
      Rising (g.bins fo) ∧ consecutiveB (g.bins fo) = true := by
  have hne : (Binning.fixed g).bins fo ≠ [] :=
    List.ne_nil_of_length_pos (lt_of_lt_of_eq hn (binsFrom_length (g.edgeAt fo) g.tmin g.count).symm)
  have hrise : Rising (g.bins fo) := binsFrom_rising _ hm _ _
  have hcons : consecutiveB (g.bins fo) = true := binsFrom_consecutive _ _ _
  have hends := binsFrom_ends (g.edgeAt fo) g.tmin g.count hne
  obtain ⟨h, hc, hb, hk, hd, hcount⟩ := C01_covering fo (.fixed g) vs ws wkind dtype keep dropna ok hrise hcons hne (by
    intro p hp
    have hv := mem_vals_of_mem_maskPts vs ws ok.shape p hp
    exact ⟨le_of_eq_of_le hends.1 (hlo p.1 hv), le_of_le_of_eq (hhi p.1 hv) hends.2.symm⟩)
  exact ⟨h, hc, hb, hk, hd, hcount, hrise, hcons⟩

/-- **`fixed_width` in any arithmetic.**  For EVERY `FloatOps` instance (the parameter standing for
    the floating-point computation of the edges `k*w + shift` and of the cell estimate) under the
    hypotheses of C04: the edge function is strictly increasing, and the corrected cell search reaches
    the cells of the least and of the greatest value within its fuel.  For any origin (aligned grid), either
    value of `includes_right_edge` and any data with at least one non-NaN value: the grid derived from the
    data is accepted by `h1`; its bins are rising, consecutive, of the requested width and origin; every
    value is counted once, nothing is missed; the grid is tight around the data.  Rounding can then
    neither lose a value nor leave one outside the bins. -/
theorem C01_fixed_width (fo : FloatOps) (fuel : Nat) (g0 : Grid) (h0 : g0.count = 0)
    (halign : g0.align = true) (hm : EdgeMono fo g0.w g0.shift) (ire : Bool)
    (vs : List (Option Rat)) (ws : Option (List Rat)) (wkind : DType) (dtype : Option DType)
    (keep dropna : Bool) (ok : ArgsOk vs ws wkind dtype dropna) (hdata : vs.filterMap id ≠ [])
    (hreach : ∀ v, (listMin (vs.filterMap id) = some v ∨ listMax (vs.filterMap id) = some v) →
      Reach fo g0.w g0.shift fuel v) :
    let g := fixedWidthOf fo fuel g0 ire vs
    ∃ h : H1, H1.construct fo (.fixed g) vs ws wkind dtype keep dropna = .ok h ∧
      h.binning = .fixed g ∧ h.keep = keep ∧ h.dtype = constructDType ws wkind dtype ∧
      CountsAll (g.bins fo) (maskPts vs ws) h ∧
      Rising (g.bins fo) ∧ consecutiveB (g.bins fo) = true ∧ g.w = g0.w ∧ g.shift = g0.shift ∧
      TightOn (fo.edge g0.w g0.shift) g (vs.filterMap id) ire := by
  intro g
  obtain ⟨lo, hi, hmin, hmax, hlomem, _, hbound⟩ := listMin_listMax_spec _ hdata
  obtain ⟨klo, hklo, hflo⟩ := hreach lo (Or.inl hmin)
  obtain ⟨khi, hkhi, hfhi⟩ := hreach hi (Or.inr hmax)
  obtain ⟨n, hg, hn, hend⟩ := forceMany_from_empty fo fuel g0 h0 halign hm ire (vs.filterMap id) lo hi hmin hmax
    (hbound lo hlomem).2 klo khi hklo hflo hkhi hfhi
  rw [show g = { g0 with tmin := klo, count := n } from hg]
  obtain ⟨h, hc, hb, hk, hd, hcount, hr, hcs⟩ := C01_grid_covering fo { g0 with tmin := klo, count := n } hn hm vs ws
    wkind dtype keep dropna ok (fun v hv => le_trans hklo.1 (hbound v hv).1)
    (fun v hv => le_trans (hbound v hv).2 (le_lastEdge_of_tight hend))
  exact ⟨h, hc, hb, hk, hd, hcount, hr, hcs, rfl, rfl, hn, ⟨lo, hmin, hklo⟩, ⟨hi, hmax, hend⟩⟩

/-- **`fixed_width` in exact arithmetic.**  There the hypotheses on the arithmetic hold for any positive
    width: the same conclusion for any positive width, any origin (aligned grid), either value of
    `includes_right_edge` and any data with at least one non-NaN value. -/
theorem C01_fixed_width_exact (fuel : Nat) (g0 : Grid) (h0 : g0.count = 0) (halign : g0.align = true)
    (hw : 0 < g0.w) (ire : Bool) (vs : List (Option Rat)) (ws : Option (List Rat)) (wkind : DType)
    (dtype : Option DType) (keep dropna : Bool) (ok : ArgsOk vs ws wkind dtype dropna)
    (hdata : vs.filterMap id ≠ []) :
    let g := fixedWidthOf FloatOps.exact fuel g0 ire vs
    ∃ h : H1, H1.construct FloatOps.exact (.fixed g) vs ws wkind dtype keep dropna = .ok h ∧
      h.binning = .fixed g ∧ h.keep = keep ∧ h.dtype = constructDType ws wkind dtype ∧
      CountsAll (g.bins FloatOps.exact) (maskPts vs ws) h ∧
      Rising (g.bins FloatOps.exact) ∧ consecutiveB (g.bins FloatOps.exact) = true ∧
      g.w = g0.w ∧ g.shift = g0.shift ∧
      TightOn (FloatOps.exact.edge g0.w g0.shift) g (vs.filterMap id) ire :=
  C01_fixed_width FloatOps.exact fuel g0 h0 halign (C04_exact_mono _ _ hw) ire vs ws wkind dtype keep dropna ok hdata
    (fun v _ => reach_exact g0.w g0.shift hw fuel v)

/-- **`fixed_width` with `align=False`, exact arithmetic.**  The alignment hypothesis of the two theorems above
    can be dropped in exact arithmetic: the origin then moves onto the least value, which becomes the first
    edge; the bins are accepted, of the requested width, and count every value once with nothing missed. -/
theorem C01_fixed_width_unaligned_exact (fuel : Nat) (g0 : Grid) (h0 : g0.count = 0)
    (hal : g0.align = false) (hw : 0 < g0.w) (ire : Bool)
    (vs : List (Option Rat)) (ws : Option (List Rat)) (wkind : DType) (dtype : Option DType)
    (keep dropna : Bool) (ok : ArgsOk vs ws wkind dtype dropna) (lo : Rat)
    (hmin : listMin (vs.filterMap id) = some lo) :
    let g := fixedWidthOf FloatOps.exact fuel g0 ire vs
    ∃ h : H1, H1.construct FloatOps.exact (.fixed g) vs ws wkind dtype keep dropna = .ok h ∧
      h.binning = .fixed g ∧ h.keep = keep ∧ h.dtype = constructDType ws wkind dtype ∧
      CountsAll (g.bins FloatOps.exact) (maskPts vs ws) h ∧
      Rising (g.bins FloatOps.exact) ∧ consecutiveB (g.bins FloatOps.exact) = true ∧
      g.w = g0.w ∧ 0 < g.count ∧ g.firstEdge FloatOps.exact = lo := by
  intro g
  obtain ⟨lo', hi, hmin', hmax, _, himem, hbound⟩ := listMin_listMax_spec _
    (List.ne_nil_of_mem (listMin_eq_some_iff.mp hmin).1)
  rw [hmin] at hmin'
  cases hmin'
  obtain ⟨k, hg1⟩ := forceSingle_empty_unaligned_exact fuel g0 h0 hal hw lo g0.ire
  have hedge := (exact_recentred g0.w lo hw k).1
  have hm' := C04_exact_mono g0.w (lo - (k : Rat) * g0.w) hw
  obtain ⟨n, hg2, hn, hend⟩ := forceSingle_second FloatOps.exact fuel
    { g0 with shift := lo - (k : Rat) * g0.w, tmin := k, count := 1 } rfl hm' ire hi _
    (C04_exact_cell _ _ hi hw) (by simp) (le_of_eq_of_le hedge (hbound hi himem).1)
  have hg : g = { g0 with shift := lo - (k : Rat) * g0.w, tmin := k, count := n } := by
    show (g0.forceMany FloatOps.exact fuel (vs.filterMap id) ire).1 = _
    rw [forceMany_of_min_max FloatOps.exact fuel g0 _ ire lo hi hmin hmax, hg1]
    exact hg2
  rw [hg]
  obtain ⟨h, hc, hb, hk, hd, hcount, hr, hcs⟩ := C01_grid_covering FloatOps.exact
    { g0 with shift := lo - (k : Rat) * g0.w, tmin := k, count := n } hn hm' vs ws wkind dtype keep dropna ok
    (fun v hv => le_of_eq_of_le hedge (hbound v hv).1)
    (fun v hv => le_trans (hbound v hv).2 (le_lastEdge_of_tight hend))
  exact ⟨h, hc, hb, hk, hd, hcount, hr, hcs, rfl, hn, hedge⟩

/-- the empty grid `integer_binning` starts from: width 1, origin 0.5 -/
def integerGrid (adaptive : Bool) : Grid := { w := 1, shift := 1 / 2, adaptive := adaptive }

/-- **`integer` bins.**  The bins derived from the data have width 1 and are centred on integers (bin `i` is
    `[c - 1/2, c + 1/2)` with `c = tmin + i + 1`); `h1` accepts them and misses nothing; and when
    every value is an integer, the content of bin `i` is exactly the weight of the values EQUAL to `c`. -/
theorem C01_integer (fuel : Nat) (adaptive : Bool) (vs : List (Option Rat)) (ws : Option (List Rat))
    (wkind : DType) (dtype : Option DType) (keep dropna : Bool) (ok : ArgsOk vs ws wkind dtype dropna)
    (hdata : vs.filterMap id ≠ []) :
    let g := fixedWidthOf FloatOps.exact fuel (integerGrid adaptive) false vs
    ∃ h : H1, H1.construct FloatOps.exact (.fixed g) vs ws wkind dtype keep dropna = .ok h ∧
      h.binning = .fixed g ∧ CountsAll (g.bins FloatOps.exact) (maskPts vs ws) h ∧ 0 < g.count ∧
      (∀ i, i < g.count → (g.bins FloatOps.exact)[i]?
        = some (((g.tmin + i + 1 : Int) : Rat) - 1 / 2, ((g.tmin + i + 1 : Int) : Rat) + 1 / 2)) ∧
      ((∀ v ∈ vs.filterMap id, ∃ m : Int, v = (m : Rat)) → ∀ i, i < g.count →
        h.freq[i]? = some (wsum ((maskPts vs ws).filter fun p => decide (p.1 = ((g.tmin + i + 1 : Int) : Rat))))) := by
  intro g
  obtain ⟨h, hc, hb, _, _, hcount, _, _, hw, hs, htight⟩ :=
    C01_fixed_width_exact fuel (integerGrid adaptive) rfl rfl (show (0 : Rat) < 1 from zero_lt_one) false vs ws wkind
      dtype keep dropna ok hdata
  have hlen : (g.bins FloatOps.exact).length = g.count := by rw [bins_eq_binsFrom, binsFrom_length]
  refine ⟨h, hc, hb, hcount, htight.pos, fun i hi => integer_bin_getElem? g hw hs i hi, ?_⟩
  intro hint i hi
  rw [hcount.content i (by rw [hlen]; exact hi), integer_bin_filter g hw hs (maskPts vs ws)
    (fun p hp => hint p.1 (mem_vals_of_mem_maskPts vs ws ok.shape p hp)) i hi]

/-- **`pretty` bins.**  Whatever raw width `range / bin_count` the pretty rule starts from, the width it
    chooses among positive candidates (in particular among the decimal candidates `{0.5, 1, 2, 2.5, 5, 10}·10^p`)
    is positive, so the fixed-width statement applies to the grid of that width. -/
theorem C01_pretty (fuel : Nat) (raw : Rat) (cands : List Rat) (hpos : ∀ c ∈ cands, 0 < c) (w : Rat)
    (hchoice : prettyChoice raw cands = some w) (g0 : Grid) (hgw : g0.w = w) (h0 : g0.count = 0)
    (halign : g0.align = true) (ire : Bool) (vs : List (Option Rat)) (ws : Option (List Rat)) (wkind : DType)
    (dtype : Option DType) (keep dropna : Bool) (ok : ArgsOk vs ws wkind dtype dropna)
    (hdata : vs.filterMap id ≠ []) :
    let g := fixedWidthOf FloatOps.exact fuel g0 ire vs
    w ∈ cands ∧ (∀ c ∈ cands, ratioDist raw w ≤ ratioDist raw c) ∧
    ∃ h : H1, H1.construct FloatOps.exact (.fixed g) vs ws wkind dtype keep dropna = .ok h ∧
      h.binning = .fixed g ∧ CountsAll (g.bins FloatOps.exact) (maskPts vs ws) h ∧ g.w = w ∧
      TightOn (FloatOps.exact.edge g0.w g0.shift) g (vs.filterMap id) ire := by
  intro g
  have hne : cands ≠ [] := by
    rintro rfl
    cases hchoice
  obtain ⟨w', hw', hmem, hbest⟩ := C07_pretty raw cands hne
  rw [hchoice] at hw'
  cases hw'
  obtain ⟨h, hc, hb, _, _, hcount, _, _, hw, _, htight⟩ :=
    C01_fixed_width_exact fuel g0 h0 halign (by rw [hgw]; exact hpos w hmem) ire vs ws wkind dtype keep dropna ok hdata
  exact ⟨hmem, hbest, h, hc, hb, hcount, hw.trans hgw, htight⟩

/-- the decimal candidates are positive for a positive power of ten -/
theorem C01_pretty_candidates (p : Rat) (hp : 0 < p) : ∀ c ∈ decimalCandidates p, 0 < c := by
  intro c hc
  rw [C07_pretty_set] at hc
  simp only [List.mem_cons, List.not_mem_nil, or_false] at hc
  rcases hc with rfl | rfl | rfl | rfl | rfl | rfl
  · positivity
  · exact hp
  · positivity
  · positivity
  · positivity
  · positivity

/-- **numpy-style bins in any arithmetic.**  For ANY list of computed edges that strictly increases, starts
    at or below the least and ends at or above the greatest value (what `np.linspace(min, max, n+1)`
    guarantees: its end points are exact), the bins made from them are accepted, rising and consecutive,
    and every value is counted once with nothing missed.  When rounding makes two computed edges coincide
    the hypothesis fails, and `C07_refuse` / `C01_quantile` show such bins are refused. -/
theorem C01_numpy_edges (fo : FloatOps) (e : List Rat) (he : e.Pairwise (· < ·)) (h2 : 2 ≤ e.length)
    (hne : e ≠ []) (ire : Bool)
    (vs : List (Option Rat)) (ws : Option (List Rat)) (wkind : DType) (dtype : Option DType)
    (keep dropna : Bool) (ok : ArgsOk vs ws wkind dtype dropna)
    (hspan : ∀ v ∈ vs.filterMap id, e.head hne ≤ v ∧ v ≤ e.getLast hne) :
    ∃ h : H1, H1.construct fo (.static (edgesToBins e) ire) vs ws wkind dtype keep dropna = .ok h ∧
      h.binning = .static (edgesToBins e) ire ∧ h.keep = keep ∧ h.dtype = constructDType ws wkind dtype ∧
      CountsAll (edgesToBins e) (maskPts vs ws) h ∧ Rising (edgesToBins e) ∧
      consecutiveB (edgesToBins e) = true ∧ (edgesToBins e).length = e.length - 1 := by
  have hbne : edgesToBins e ≠ [] := List.ne_nil_of_length_pos (by rw [C07_bin_count]; omega)
  have hr := C07_edges_rising e he
  have hc := C07_edges_consecutive e
  have hends := edgesToBins_ends e h2 hbne hne
  obtain ⟨h, hc1, hb, hk, hd, hcount⟩ := C01_covering fo (.static (edgesToBins e) ire) vs ws wkind dtype keep
    dropna ok hr hc hbne (by
      intro p hp
      have hv := hspan p.1 (mem_vals_of_mem_maskPts vs ws ok.shape p hp)
      exact ⟨le_of_eq_of_le hends.1 hv.1, le_of_le_of_eq hv.2 hends.2.symm⟩)
  exact ⟨h, hc1, hb, hk, hd, hcount, hr, hc, C07_bin_count e⟩

/-- **numpy-style `bins=n` in exact arithmetic.**  With at least two different non-NaN values (least `lo`,
    greatest `hi`) and `n ≥ 1`: the `n` equal bins from `lo` to `hi` are accepted, rising, consecutive, of
    width `(hi - lo) / n`; every value is counted once (the greatest one in the last, right-closed bin)
    and nothing is missed. -/
theorem C01_numpy_exact (fo : FloatOps) (n : Nat) (hn : 0 < n) (ire : Bool)
    (vs : List (Option Rat)) (ws : Option (List Rat)) (wkind : DType) (dtype : Option DType)
    (keep dropna : Bool) (ok : ArgsOk vs ws wkind dtype dropna) (lo hi : Rat)
    (hmin : listMin (vs.filterMap id) = some lo) (hmax : listMax (vs.filterMap id) = some hi) (hlt : lo < hi) :
    let bins := edgesToBins (linspace lo hi n)
    ∃ h : H1, H1.construct fo (.static bins ire) vs ws wkind dtype keep dropna = .ok h ∧
      h.binning = .static bins ire ∧ h.keep = keep ∧ h.dtype = constructDType ws wkind dtype ∧
      CountsAll bins (maskPts vs ws) h ∧ Rising bins ∧ consecutiveB bins = true ∧ bins.length = n ∧
      ∀ b ∈ bins, b.2 - b.1 = (hi - lo) / n := by
  intro bins
  obtain ⟨hlen, hhead, hlast, hpw, hstep⟩ := C07_linspace lo hi n hn hlt
  have hne : linspace lo hi n ≠ [] := List.ne_nil_of_length_pos (by omega)
  obtain ⟨h, hc, hb, hk, hd, hcount, hr, hcs, hbl⟩ := C01_numpy_edges fo (linspace lo hi n) hpw (by omega) hne ire vs ws
    wkind dtype keep dropna ok (by
      intro v hv
      rw [(List.head_eq_iff_head?_eq_some hne).mpr hhead, (List.getLast_eq_iff_getLast?_eq_some hne).mpr hlast]
      exact ⟨(listMin_eq_some_iff.mp hmin).2 v hv, (listMax_eq_some_iff.mp hmax).2 v hv⟩)
  rw [hlen, Nat.add_sub_cancel] at hbl
  refine ⟨h, hc, hb, hk, hd, hcount, hr, hcs, hbl, ?_⟩
  intro b hb'
  obtain ⟨i, hi', hget⟩ := List.getElem_of_mem hb'
  obtain ⟨a, c, ha, hc', hd'⟩ := hstep i (lt_of_lt_of_eq hi' hbl)
  rw [← hget, edgesToBins_getElem]
  rw [List.getElem?_eq_some_iff] at ha hc'
  obtain ⟨_, rfl⟩ := ha
  obtain ⟨_, rfl⟩ := hc'
  exact hd'

/-- **`quantile` bins.**  `s` is the sorted data, the `qs` increase strictly from 0 to 1 (what
    `quantile_binning(bin_count=…)` / `q=[0, …, 1]` passes).  All edges are defined; if no two neighbouring
    quantiles coincide the bins are accepted, and every value is counted once with nothing missed; if two
    neighbouring quantiles coincide (repeated data values) the call is REFUSED ("bins not rising"). -/
theorem C01_quantile (fo : FloatOps) (s : List Rat) (qs : List Rat)
    (vs : List (Option Rat)) (ws : Option (List Rat)) (wkind : DType) (dtype : Option DType)
    (keep dropna : Bool) (ok : ArgsOk vs ws wkind dtype dropna)
    (hperm : s.Perm (vs.filterMap id)) (hs : s.Pairwise (· ≤ ·)) (hdata : vs.filterMap id ≠ [])
    (hqs : qs.Pairwise (· < ·)) (h01 : ∀ q ∈ qs, 0 ≤ q ∧ q ≤ 1) (hq0 : qs.head? = some 0)
    (hq1 : qs.getLast? = some 1) (hlen : 2 ≤ qs.length) :
    ∃ es : List Rat, qs.map (quantile s) = es.map some ∧
      ((∀ i (hi : i + 1 < es.length), es[i] ≠ es[i + 1]) →
        ∃ h : H1, H1.construct fo (.static (edgesToBins es) true) vs ws wkind dtype keep dropna = .ok h ∧
          h.binning = .static (edgesToBins es) true ∧ h.keep = keep ∧
          h.dtype = constructDType ws wkind dtype ∧ CountsAll (edgesToBins es) (maskPts vs ws) h ∧
          (edgesToBins es).length = qs.length - 1) ∧
      (¬ (∀ i (hi : i + 1 < es.length), es[i] ≠ es[i + 1]) →
        ∃ e, H1.construct fo (.static (edgesToBins es) true) vs ws wkind dtype keep dropna = .error e) := by
  have hsne : s ≠ [] := fun h0 => hdata (List.perm_nil.mp (h0 ▸ hperm.symm))
  obtain ⟨es, hmap, heslen, _, _, hrise, hriseB, hhead, hlast⟩ := C07_quantile_edges s hs hsne qs hqs h01
  refine ⟨es, hmap, ?_, ?_⟩
  · intro hdist
    have hene : es ≠ [] := List.ne_nil_of_length_pos (by omega)
    have e1 : es.head hene = s.head hsne :=
      (List.head_eq_iff_head?_eq_some hene).mpr ((hhead hq0).trans (List.head?_eq_some_head hsne))
    have e2 : es.getLast hene = s.getLast hsne :=
      (List.getLast_eq_iff_getLast?_eq_some hene).mpr ((hlast hq1).trans (List.getLast?_eq_some_getLast hsne))
    obtain ⟨h, hc, hb, hk, hd, hcount, _, _, hbl⟩ := C01_numpy_edges fo es
      ((rising_edgesToBins_iff es).mp (hrise.mpr hdist)) (by omega) hene true vs ws wkind dtype keep dropna ok (by
        intro v hv
        obtain ⟨i, hi, rfl⟩ := List.getElem_of_mem (hperm.symm.subset hv)
        rw [e1, e2]
        exact ⟨sorted_head_le s hs hsne i hi, sorted_le_getLast s hs hsne i hi⟩)
    exact ⟨h, hc, hb, hk, hd, hcount, by rw [hbl, heslen]⟩
  · intro hnot
    apply construct_refused_not_rising
    show risingB (edgesToBins es) = false
    rw [← Bool.not_eq_true, hriseB]
    exact hnot

/-! ## Non-vacuity: every theorem instantiated on weighted data with a NaN, values on edges and repeated values -/

/-- the data of the examples: five entries, one NaN, float weights -/
def exVs : List (Option Rat) := [some (17 / 10), none, some (-3 / 10), some 5, some 2]
def exWs : Option (List Rat) := some [1, 9, 2, 1 / 2, 3]

theorem exOk : ArgsOk exVs exWs .f64 none true :=
  ⟨fun h => absurd h (by decide), by decide +kernel, fun h => absurd h (by decide +kernel)⟩

/-- `fixed_width` (width 1/2): hypotheses hold, the theorem applies … -/
example :
    let g := fixedWidthOf FloatOps.exact 4 { w := 1 / 2 } false exVs
    ∃ h : H1, H1.construct FloatOps.exact (.fixed g) exVs exWs .f64 none true true = .ok h ∧
      CountsAll (g.bins FloatOps.exact) (maskPts exVs exWs) h := by
  obtain ⟨h, hc, _, _, _, hcount, _⟩ :=
    C01_fixed_width_exact 4 { w := 1 / 2 } rfl rfl (by norm_num) false exVs exWs .f64 none true true exOk
      (by decide +kernel)
  exact ⟨h, hc, hcount⟩

/-- … and the model computes what it says: 12 bins from -1/2 to 11/2, the NaN's weight 9 is dropped, the
    value 5 (on a grid edge) opens its own bin; with `includes_right_edge` it closes the 11th bin instead. -/
example :
    fixedWidthOf FloatOps.exact 4 { w := 1 / 2 } false exVs = { w := 1 / 2, tmin := -1, count := 12 } ∧
    fixedWidthOf FloatOps.exact 4 { w := 1 / 2 } true exVs = { w := 1 / 2, tmin := -1, count := 11 } ∧
    (H1.construct FloatOps.exact (.fixed (fixedWidthOf FloatOps.exact 4 { w := 1 / 2 } false exVs)) exVs exWs .f64 none
        true true).toOption.map (fun h => (h.freq, h.under, h.over, h.total))
      = some ([2, 0, 0, 0, 1, 3, 0, 0, 0, 0, 0, 1 / 2], some 0, some 0, 13 / 2) ∧
    (H1.construct FloatOps.exact (.fixed (fixedWidthOf FloatOps.exact 4 { w := 1 / 2 } true exVs)) exVs exWs .f64 none
        true true).toOption.map (fun h => (h.freq, h.under, h.over, h.total))
      = some ([2, 0, 0, 0, 1, 3, 0, 0, 0, 0, 1 / 2], some 0, some 0, 13 / 2) := by
  decide +kernel

/-- `align=False`: the origin moves to 1/5, the first edge is the least value -3/10 -/
example :
    fixedWidthOf FloatOps.exact 4 { w := 1 / 2, align := false } false exVs
      = { w := 1 / 2, shift := 1 / 5, tmin := -1, count := 11, align := false } ∧
    (H1.construct FloatOps.exact (.fixed (fixedWidthOf FloatOps.exact 4 { w := 1 / 2, align := false } false exVs)) exVs
        exWs .f64 none true true).toOption.map (fun h => (h.freq, h.under, h.over, h.total))
      = some ([2, 0, 0, 0, 4, 0, 0, 0, 0, 0, 1 / 2], some 0, some 0, 13 / 2) := by
  decide +kernel

example :
    ∃ h : H1, H1.construct FloatOps.exact (.fixed (fixedWidthOf FloatOps.exact 4 { w := 1 / 2, align := false } false exVs))
      exVs exWs .f64 none true true = .ok h ∧
      (fixedWidthOf FloatOps.exact 4 { w := 1 / 2, align := false } false exVs).firstEdge FloatOps.exact = -3 / 10 := by
  obtain ⟨h, hc, _, _, _, _, _, _, _, _, he⟩ :=
    C01_fixed_width_unaligned_exact 4 { w := 1 / 2, align := false } rfl rfl (by norm_num) false exVs exWs .f64 none
      true true exOk (-3 / 10) (by decide +kernel)
  exact ⟨h, hc, he⟩

/-- `integer`: the values 3, 5, NaN, 3, 7 give the bins centred on 3 … 7 with contents 2, 0, 1, 0, 1 -/
example :
    fixedWidthOf FloatOps.exact 4 (integerGrid false) false [some 3, some 5, none, some 3, some 7]
      = { w := 1, shift := 1 / 2, tmin := 2, count := 5 } ∧
    (H1.construct FloatOps.exact (.fixed (fixedWidthOf FloatOps.exact 4 (integerGrid false) false
        [some 3, some 5, none, some 3, some 7])) [some 3, some 5, none, some 3, some 7] none .f64 none true true).toOption.map
        (fun h => (h.freq, h.under, h.over, h.total))
      = some ([2, 0, 1, 0, 1], some 0, some 0, 4) := by
  decide +kernel

example :
    let vs : List (Option Rat) := [some 3, some 5, none, some 3, some 7]
    let g := fixedWidthOf FloatOps.exact 4 (integerGrid false) false vs
    ∃ h : H1, H1.construct FloatOps.exact (.fixed g) vs none .f64 none true true = .ok h ∧
      ∀ i, i < g.count →
        h.freq[i]? = some (wsum ((maskPts vs none).filter fun p => decide (p.1 = ((g.tmin + i + 1 : Int) : Rat)))) := by
  obtain ⟨h, hc, _, _, _, _, hint⟩ :=
    C01_integer 4 false [some 3, some 5, none, some 3, some 7] none .f64 none true true
      ⟨fun h => absurd h (by decide), rfl, fun _ => rfl⟩ (by decide +kernel)
  refine ⟨h, hc, hint ?_⟩
  intro v hv
  have : v ∈ ([3, 5, 3, 7] : List Rat) := hv
  simp only [List.mem_cons, List.not_mem_nil, or_false] at this
  rcases this with rfl | rfl | rfl | rfl
  exacts [⟨3, by norm_num⟩, ⟨5, by norm_num⟩, ⟨3, by norm_num⟩, ⟨7, by norm_num⟩]

/-- numpy-style `bins=4` over the data range `[-3/10, 5]` -/
example :
    ∃ h : H1, H1.construct FloatOps.exact (.static (edgesToBins (linspace (-3 / 10) 5 4)) true) exVs exWs .f64 none true
        true = .ok h ∧ CountsAll (edgesToBins (linspace (-3 / 10) 5 4)) (maskPts exVs exWs) h := by
  obtain ⟨h, hc, _, _, _, hcount, _⟩ :=
    C01_numpy_exact FloatOps.exact 4 (by norm_num) true exVs exWs .f64 none true true exOk (-3 / 10) 5
      (by decide +kernel) (by decide +kernel) (by norm_num)
  exact ⟨h, hc, hcount⟩

example :
    (H1.construct FloatOps.exact (.static (edgesToBins (linspace (-3 / 10) 5 4)) true) exVs exWs .f64 none true
        true).toOption.map (fun h => (h.freq, h.under, h.over, h.total))
      = some ([2, 4, 0, 1 / 2], some 0, some 0, 13 / 2) := by
  decide +kernel

/-- quantile bins with `q = [0, 1/3, 2/3, 1]`: the edges are the four order statistics -/
example :
    [0, 1 / 3, 2 / 3, 1].map (quantile [-3 / 10, 17 / 10, 2, 5]) = [-3 / 10, 17 / 10, 2, 5].map some ∧
    (H1.construct FloatOps.exact (.static (edgesToBins [-3 / 10, 17 / 10, 2, 5]) true) exVs exWs .f64 none true
        true).toOption.map (fun h => (h.freq, h.under, h.over, h.total))
      = some ([2, 1, 7 / 2], some 0, some 0, 13 / 2) := by
  decide +kernel

example : ∃ es : List Rat, [0, 1 / 3, 2 / 3, 1].map (quantile [-3 / 10, 17 / 10, 2, 5]) = es.map some := by
  obtain ⟨es, hes, _⟩ := C01_quantile FloatOps.exact [-3 / 10, 17 / 10, 2, 5] [0, 1 / 3, 2 / 3, 1] exVs exWs .f64 none
    true true exOk (by decide +kernel) (by decide +kernel) (by decide +kernel) (by decide +kernel)
    (by decide +kernel) rfl rfl (by decide)
  exact ⟨es, hes⟩

/-- … and repeated data make two quantiles coincide: the bins `[1,1], [1,2]` are refused -/
example :
    [0, 1 / 2, 1].map (quantile [1, 1, 2]) = [1, 1, 2].map some ∧
    ∃ e, H1.construct FloatOps.exact (.static (edgesToBins [1, 1, 2]) true) [some 1, some 2, some 1] none .i64 none true
        true = .error e :=
  ⟨by decide +kernel, "bins not rising", by decide +kernel⟩

end Physt
