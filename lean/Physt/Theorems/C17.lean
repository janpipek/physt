import Physt.Theorems.C05
import Physt.Theorems.C02
/-!
# C17 — every supported input container gives the same histogram as its array

What physt does with a container is (1) turn it into a flat list of values (rows) and a NaN mask,
(2) filter values and weights by that one mask, (3) run the array pipeline of C01 / C02.  The
third-party conversions of step (1) (pandas, polars, dask, xarray) are exercised by the
correspondence check, not modelled; the theorems are about steps (2) and (3), i.e. about
everything that is physt's own logic.
-/
namespace Physt
open H1

/-- **Same mask for values and weights** (1-D): the pairs entering the histogram are exactly the
    zipped (value, weight) pairs whose value is not NaN — an entry is never paired with the weight
    of another entry. -/
theorem C17_align (vs : List (Option Rat)) (ws : List Rat) (h : ws.length = vs.length) :
    maskPts vs (some ws) = (vs.zip ws).filterMap fun vw => vw.1.map fun v => (v, vw.2) :=
  C01_nan_weighted vs ws h

/-- the same for rows of an (n, d) input: a row is dropped iff it contains a NaN, with its weight -/
theorem C17_align_rows (rows : List (List (Option Rat))) (ws : List Rat) (h : ws.length = rows.length) :
    maskRows rows (some ws)
      = ((rows.zip ws).filter fun p => p.1.all Option.isSome).map fun p => (p.1.filterMap id, p.2) :=
  C02_nan_rows_weighted rows ws h

/-- **The container matters only through its (value, weight) pairs**: two inputs with the same
    masked pairs — in any order, any shape — give the same contents, errors, underflow and overflow. -/
theorem C17_same (bins : Bins) (hb : Rising bins) (vs vs' : List (Option Rat)) (ws ws' : Option (List Rat))
    (hp : (maskPts vs ws).Perm (maskPts vs' ws')) :
    calc1d bins (maskPts vs ws) = calc1d bins (maskPts vs' ws') :=
  C01_flatten bins _ _ hb hp

/-- **Chunked input** (dask arrays, any chunking): the sum of the chunk histograms is the
    histogram of the whole array. -/
theorem C17_chunks (fo : FloatOps) (bins : Bins) (ire : Bool) (hb : Rising bins) (hne : bins ≠ [])
    (first : H1) (F : List Pt) (tf : Tracks bins ire first F)
    (rest : List (H1 × List Pt)) (hrest : ∀ p ∈ rest, Tracks bins ire p.1 p.2)
    (r : H1) (hr : rest.foldlM (fun acc p => acc.iadd fo p.1) first = .ok r) :
    Tracks bins ire r (F ++ (rest.map (·.2)).flatten) :=
  C05_chunks fo bins ire hb hne first F tf rest hrest r hr

/-- the record a 1-D histogram is exported to (xarray Dataset: variables `frequencies`, `errors2`,
    `bins`; attributes `underflow`, `overflow`, `inner_missed`, `keep_missed`) -/
structure ExportRecord where
  bins : Bins
  freq : List Rat
  err2 : List Rat
  under : NRat
  over : NRat
  inner : NRat
  keep : Bool
  deriving DecidableEq

/-- `to_xarray`: the *properties* are exported (NaN when tracking is off) -/
def exportRecord (fo : FloatOps) (h : H1) : ExportRecord :=
  { bins := h.bins fo, freq := h.freq, err2 := h.err2, under := h.underflow, over := h.overflow,
    inner := h.innerMissed, keep := h.keep }

/-- `from_xarray`: the constructor is called with the bins as a static binning -/
def importRecord (r : ExportRecord) (dtype : DType) : H1 :=
  { binning := .static r.bins true, freq := r.freq, err2 := r.err2,
    under := if r.keep then r.under else some 0, over := if r.keep then r.over else some 0,
    inner := if r.keep then r.inner else some 0, keep := r.keep, dtype := dtype, stats := Stats.invalid }

/-- **Export then import preserves bins, contents, errors and underflow / overflow.** -/
theorem C17_export (fo : FloatOps) (h : H1) :
    exportRecord fo (importRecord (exportRecord fo h) h.dtype) = exportRecord fo h := by
  unfold exportRecord importRecord H1.underflow H1.overflow H1.innerMissed
  cases h.keep <;> simp [H1.bins, Binning.bins]

example : (exportRecord FloatOps.exact { binning := .static [(0, 1)] true, freq := [3], err2 := [3], under := some 2 }).under = some 2 := rfl

end Physt
