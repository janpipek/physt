import Physt.Proofs.Paths
import Physt.Proofs.Ops
/-!
# C03 — incremental filling (fill / fill_n) equals batch construction

1-D histograms over fixed (non-adaptive) bins.  `H1.fill` / `H1.fillData` are the models of
`Histogram1D.fill` / the counting core of `fill_n`; `calc1d` is batch construction (C01).
-/
namespace Physt
open H1

/-- **find_bin returns the bin that contains the value** (rising bins): index `i` iff
    `left_i ≤ v < right_i` (last bin right-closed). -/
theorem C03_find_bin (bins : Bins) (hb : Rising bins) (v : Rat) (i : Nat) :
    findBinIn bins v = .bin i ↔ inBin bins true i v = true :=
  findBinIn_bin_iff bins hb v i

/-- `-1` (underflow) exactly for values below the first edge. -/
theorem C03_find_bin_under (b0 : Bin) (bs : Bins) (hb : Rising (b0 :: bs)) (v : Rat) :
    findBinIn (b0 :: bs) v = .under ↔ v < b0.1 := by
  -- no left edge lies at or below `v` exactly when the first one does not
  have hzero : leCount (b0 :: bs) v = 0 ↔ v < b0.1 := by
    rw [← not_le, ← leCount_spec (b0 :: bs) hb v 0 b0 rfl]
    omega
  rw [← hzero, findBinIn,
    show ((b0 :: bs).filter fun b => decide (b.1 ≤ v)).length = leCount (b0 :: bs) v from rfl]
  refine ⟨fun h => ?_, fun h0 => if_pos h0⟩
  by_contra hk0
  -- a positive count is at most the length, so the lookup hits a bin and no branch says `.under`
  have hlt : leCount (b0 :: bs) v - 1 < (b0 :: bs).length := by
    have : leCount (b0 :: bs) v ≤ (b0 :: bs).length := List.length_filter_le _ _
    omega
  rw [if_neg hk0, List.getElem?_eq_getElem hlt] at h
  dsimp only at h
  split_ifs at h

/-- on static bins `fill` grows nothing and looks the value up in those bins -/
theorem fill_static (fo : FloatOps) (fuel : Nat) (h : H1) (bins : Bins) (ire : Bool)
    (hbin : h.binning = .static bins ire) (v : Rat) (k : NumKind) :
    (h.coerce k.dtype).adapt fo fuel [v] true = h.coerce k.dtype ∧ (h.coerce k.dtype).findBin fo v = findBinIn bins v :=
  ⟨adapt_other _ _ _ _ _ (by rw [H1.coerce, hbin]; rfl), by rw [findBin, H1.bins, H1.coerce, hbin]; rfl⟩

/-- `fill` returns what `find_bin` returns, and `find_bin` is a pure function of the bins. -/
theorem C03_fill_ret (fo : FloatOps) (fuel : Nat) (h : H1) (bins : Bins) (ire : Bool)
    (hbin : h.binning = .static bins ire) (v w : Rat) (k : NumKind) :
    (h.fill fo fuel (some v) w k).2 = some (findBinIn bins v) := by
  obtain ⟨ha, hf⟩ := fill_static fo fuel h bins ire hbin v k
  rw [fill_snd, ha, hf]

/-- the histogram `h` holds exactly the batch histogram of the points `pts` over `bins` -/
structure Tracks (bins : Bins) (ire : Bool) (h : H1) (pts : List Pt) : Prop where
  binning : h.binning = .static bins ire
  keep : h.keep = true
  freq : h.freq = (calc1d bins pts).freq
  err2 : h.err2 = (calc1d bins pts).err2
  under : h.under = (calc1d bins pts).under
  over : h.over = (calc1d bins pts).over

theorem tracks_empty (fo : FloatOps) (bins : Bins) (ire : Bool) (hb : Rising bins)
    (hc : consecutiveB bins = true) (hne : bins ≠ []) (dt : Option DType) :
    Tracks bins ire (H1.empty fo (.static bins ire) true dt) [] := by
  obtain ⟨b0, h0⟩ : ∃ b0, bins.head? = some b0 := by
    cases bins with
    | nil => exact (hne rfl).elim
    | cons x xs => exact ⟨x, rfl⟩
  have hl : bins.getLast? = some (bins.getLast hne) := List.getLast?_eq_some_getLast _
  have e := C01_under_over bins [] hc b0 _ h0 hl
  refine ⟨rfl, rfl, ?_, ?_, ?_, ?_⟩
  · simp [H1.empty, Binning.bins, calc1d_nil_freq bins hb]
  · simp [H1.empty, Binning.bins, calc1d_nil_err2 bins hb]
  · rw [e.1]; simp [H1.empty, wsum]
  · rw [e.2]; simp [H1.empty, wsum]

/-- a `fill_n` batch extends the tracked data by the batch -/
theorem tracks_fillData (fo : FloatOps) (bins : Bins) (ire : Bool) (hb : Rising bins) (hne : bins ≠ [])
    (h : H1) (pts d : List Pt) (t : Tracks bins ire h pts) :
    Tracks bins ire (h.fillData fo d) (pts ++ d) := by
  have hm := calc1d_append_missed bins hne pts d
  refine ⟨?_, ?_, ?_, ?_, ?_, ?_⟩
  · simp [fillData, t.binning]
  · simp [fillData, t.keep]
  · simp only [fillData, H1.bins, t.binning, Binning.bins]
    rw [calc1d_append_freq bins hb, t.freq]
  · simp only [fillData, H1.bins, t.binning, Binning.bins]
    rw [calc1d_append_err2 bins hb, t.err2]
  · simp only [fillData, H1.bins, t.binning, Binning.bins, t.keep, if_true]
    rw [hm.1, t.under]
  · simp only [fillData, H1.bins, t.binning, Binning.bins, t.keep, if_true]
    rw [hm.2, t.over]

/-- **Contents after one `fill`.** For every rising binning, `fill(v, w)` adds exactly the
    histogram of the single point `(v, w)` to contents and squared errors — whatever `find_bin`
    says (a bin, underflow, overflow or a gap). -/
theorem C03_fill_content (fo : FloatOps) (fuel : Nat) (h : H1) (bins : Bins) (ire : Bool) (hb : Rising bins)
    (hbin : h.binning = .static bins ire) (hf : h.freq.length = bins.length)
    (he : h.err2.length = bins.length) (v w : Rat) (k : NumKind) :
    (h.fill fo fuel (some v) w k).1.freq = zipAdd h.freq (calc1d bins [(v, w)]).freq ∧
    (h.fill fo fuel (some v) w k).1.err2 = zipAdd h.err2 (calc1d bins [(v, w)]).err2 := by
  have hsingle := calc1d_single bins hb v w
  obtain ⟨ha, hfb⟩ := fill_static fo fuel h bins ire hbin v k
  by_cases hi : ∃ i, findBinIn bins v = .bin i
  · obtain ⟨i, hi⟩ := hi
    have hin := (findBinIn_bin_iff bins hb v i).mp hi
    rw [fill_bin fo fuel h v w k i (by rw [ha, hfb, hi]), ha, (hsingle.1 i hin).1, (hsingle.1 i hin).2]
    exact ⟨by rw [← hf]; exact addAt_eq_zipAdd _ _ _, by rw [← he]; exact addAt_eq_zipAdd _ _ _⟩
  · obtain ⟨_, _, e, _⟩ := fill_miss fo fuel h v w k (by rw [ha, hfb]; exact fun i hc => hi ⟨i, hc⟩)
    have hz := hsingle.2 fun i => by
      by_contra hne
      exact hi ⟨i, (findBinIn_bin_iff bins hb v i).mpr (by simpa using hne)⟩
    rw [e, ha, hz.1, hz.2]
    exact ⟨by rw [← hf]; exact (zipAdd_zeros_right _).symm, by rw [← he]; exact (zipAdd_zeros_right _).symm⟩

/-- **Any chunking.** For consecutive rising bins, entering the data in any list of `fill_n`
    batches (empty batches included) gives what construction from all the data at once gives:
    contents, squared errors, underflow and overflow. -/
theorem C03_paths_fill_n (fo : FloatOps) (bins : Bins) (ire : Bool) (hb : Rising bins)
    (hc : consecutiveB bins = true) (hne : bins ≠ []) (dt : Option DType) (batches : List (List Pt)) :
    Tracks bins ire (batches.foldl (fun h d => h.fillData fo d) (H1.empty fo (.static bins ire) true dt))
      batches.flatten := by
  have gen : ∀ (bs : List (List Pt)) (h : H1) (pts : List Pt), Tracks bins ire h pts →
      Tracks bins ire (bs.foldl (fun h d => h.fillData fo d) h) (pts ++ bs.flatten) := by
    intro bs
    induction bs with
    | nil => intro h pts t; simpa using t
    | cons d ds ih =>
      intro h pts t
      have := ih (h.fillData fo d) (pts ++ d) (tracks_fillData fo bins ire hb hne h pts d t)
      simpa [List.flatten_cons, List.append_assoc] using this
  simpa using gen batches _ [] (tracks_empty fo bins ire hb hc hne dt)

/-- **Any order.** Construction (and hence, by `C03_paths_fill_n`, any chunked filling) does not
    depend on the order in which the data are entered. -/
theorem C03_order (bins : Bins) (hb : Rising bins) (d d' : List Pt) (hp : d.Perm d') :
    calc1d bins d = calc1d bins d' :=
  C01_flatten bins d d' hb hp

/-- **Tracking switched off.** With `keep_missed = False` a value outside every bin changes
    nothing at all (contents, errors, the three missed slots, statistics). -/
theorem C03_keep_off (fo : FloatOps) (fuel : Nat) (h : H1) (bins : Bins) (ire : Bool)
    (hbin : h.binning = .static bins ire) (hk : h.keep = false) (v w : Rat)
    (hout : ∀ i, findBinIn bins v ≠ .bin i) :
    let h' := (h.fill fo fuel (some v) w .pyInt).1
    h'.freq = h.freq ∧ h'.err2 = h.err2 ∧ h'.under = h.under ∧ h'.over = h.over ∧
    h'.inner = h.inner ∧ h'.stats = h.stats := by
  obtain ⟨ha, hfb⟩ := fill_static fo fuel h bins ire hbin v .pyInt
  obtain ⟨_, _, e, hoff⟩ := fill_miss fo fuel h v w .pyInt (by rw [ha, hfb]; exact hout)
  obtain ⟨rfl, rfl⟩ := hoff (by rw [ha]; exact hk)
  rw [e, ha]
  exact ⟨rfl, rfl, rfl, rfl, rfl, rfl⟩

/-- A NaN is skipped by `fill` exactly as `fill_n` skips it: nothing changes. -/
theorem C03_fill_nan (fo : FloatOps) (fuel : Nat) (h : H1) (w : Rat) (k : NumKind) :
    h.fill fo fuel none w k = (h, none) := rfl

/-! Non-vacuity -/
example : Rising [(0, 1), (1, 3)] ∧ consecutiveB [(0, 1), (1, 3)] = true :=
  ⟨(risingB_iff _).mp (by decide +kernel), by decide +kernel⟩
example : findBinIn [(0, 1), (2, 3)] (3 / 2) = .gap ∧ findBinIn [(0, 1), (2, 3)] 3 = .bin 1 ∧
    findBinIn [(0, 1), (2, 3)] (-1) = .under ∧ findBinIn [(0, 1), (2, 3)] 4 = .over := by
  decide +kernel

end Physt
