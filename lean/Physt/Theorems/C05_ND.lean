import Physt.Theorems.C03_ND
/-!
# C05 in N dimensions — adding histograms = histogramming the combined rows
Helper lemmas: `Proofs/PathsND.lean` (`calcND_append`, `TracksN`).
-/
namespace Physt

/-- **C05, ND: h(A) + h(B) = h(A and B together)** — the sum is accepted and holds `A ++ B`. -/
theorem C05_nd_combined (fo : FloatOps) (axes : List Binning) (a b : HN) (A B : List Row)
    (ta : TracksN fo axes a A) (tb : TracksN fo axes b B) :
    ∃ r, a.iadd fo b = .ok r ∧ TracksN fo axes r (A ++ B) := by
  have hsb : a.sameBins fo b = true := by simp [HN.sameBins, ta.hax, tb.hax]
  obtain ⟨a1, a2, a3⟩ := calcND_append (axesOf fo axes) A B
  refine ⟨_, HN.iadd_same fo a b hsb, ta.hax, ta.static, ta.keep, ?_, ?_, ?_⟩
  · show Arr.zipWith (· + ·) a.freq b.freq = _
    rw [a1, ta.freq, tb.freq]
  · show Arr.zipWith (· + ·) a.err2 b.err2 = _
    rw [a2, ta.err2, tb.err2]
  · show nadd a.missed b.missed = _
    rw [a3, ta.missed, tb.missed]; rfl

/-- **C05, ND: any partition into chunks** sums to the histogram of all the rows. -/
theorem C05_nd_chunks (fo : FloatOps) (axes : List Binning) (first : HN) (F : List Row)
    (tf : TracksN fo axes first F) (rest : List (HN × List Row))
    (hrest : ∀ p ∈ rest, TracksN fo axes p.1 p.2) :
    ∃ r, rest.foldlM (fun acc p => acc.iadd fo p.1) first = .ok r ∧
      TracksN fo axes r (F ++ (rest.map (·.2)).flatten) := by
  have hstep : ∀ p ∈ rest, ∀ s r, TracksN fo axes s r →
      ∃ s', s.iadd fo p.1 = .ok s' ∧ TracksN fo axes s' (r ++ p.2) :=
    fun p hp s r t => C05_nd_combined fo axes s p.1 r p.2 t (hrest p hp)
  obtain ⟨r, hr⟩ := foldlM_accepted _ (·.2) (TracksN fo axes) rest hstep first F tf
  refine ⟨r, hr, foldlM_tracks _ (·.2) (TracksN fo axes) rest (fun p hp s r s' t hs => ?_) first F tf r hr⟩
  obtain ⟨m, hm, tm⟩ := hstep p hp s r t
  exact Except.ok.inj (hs.symm.trans hm) ▸ tm

/-! Non-vacuity: two chunk histograms over the example axes add up to the histogram of all rows. -/
example : ∃ r, (HN.empty FloatOps.exact ExampleND.axes true none none).iadd FloatOps.exact
      (HN.empty FloatOps.exact ExampleND.axes true none none) = .ok r ∧
    TracksN FloatOps.exact ExampleND.axes r ([] ++ []) :=
  C05_nd_combined _ _ _ _ [] [] (tracksN_empty _ _ ExampleND.static none none)
    (tracksN_empty _ _ ExampleND.static none none)

end Physt
