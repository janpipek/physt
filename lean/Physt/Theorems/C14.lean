import Physt.Proofs.Paths
import Physt.Proofs.Ops
import Mathlib.Tactic.Ring
/-!
# C14 — statistics are those of the raw data entered, not of the bins
-/
namespace Physt
open H1 Stats

/-- the statistics of a data set, without the median (which only construction provides) -/
def rawStats (data : List Pt) : Stats := statsOf data false none

def sumWV (d : List Pt) : Rat := (d.map fun p => p.1 * p.2).sum
def sumWV2 (d : List Pt) : Rat := (d.map fun p => p.1 * p.1 * p.2).sum

theorem listMin_append (a b : List Rat) :
    Grid.listMin (a ++ b) = minO (Grid.listMin a) (Grid.listMin b) := by
  cases a with
  | nil => cases b <;> rfl
  | cons x xs =>
    cases b with
    | nil => rw [List.append_nil]; rfl
    | cons y ys =>
      simp only [listMin_eq_min?, List.cons_append, List.min?_cons', List.foldl_append, List.foldl_cons,
        List.foldl_assoc]
      rw [min_comm, min_def_lt]
      rfl

theorem listMax_append (a b : List Rat) :
    Grid.listMax (a ++ b) = maxO (Grid.listMax a) (Grid.listMax b) := by
  cases a with
  | nil => cases b <;> rfl
  | cons x xs =>
    cases b with
    | nil => rw [List.append_nil]; rfl
    | cons y ys =>
      simp only [listMax_eq_max?, List.cons_append, List.max?_cons', List.foldl_append, List.foldl_cons,
        List.foldl_assoc]
      rw [max_def_lt]
      rfl

theorem rawStats_eq (d : List Pt) :
    rawStats d = { sum := sumWV d, sum2 := sumWV2 d, min := Grid.listMin (d.map (·.1)),
                   max := Grid.listMax (d.map (·.1)), weight := wsum d } := by
  cases d <;> rfl

theorem sumWV_append (a b : List Pt) : sumWV (a ++ b) = sumWV a + sumWV b := by
  simp [sumWV, List.map_append, List.sum_append]

theorem sumWV2_append (a b : List Pt) : sumWV2 (a ++ b) = sumWV2 a + sumWV2 b := by
  simp [sumWV2, List.map_append, List.sum_append]

/-- **Accumulation is a homomorphism.** The statistics of two data sets entered one after the
    other (two `fill_n` chunks, two added histograms) are the statistics of the combined data:
    sums, sums of squares and weights add, minimum and maximum combine. -/
theorem C14_hom (a b : List Pt) : (rawStats a).add (rawStats b) = rawStats (a ++ b) := by
  rw [rawStats_eq, rawStats_eq, rawStats_eq, sumWV_append, sumWV2_append, wsum_append, List.map_append,
    listMin_append, listMax_append]
  rfl

/-- the median is the only thing `statsOf` adds to `rawStats` -/
theorem C14_construct_raw (d : List Pt) (e : Bool) (m : Option Rat) :
    { statsOf d e m with median := none } = rawStats d := by
  cases d <;> rfl

/-- **`fill` accumulates one point**: the same as adding the statistics of a one-point data set. -/
theorem C14_fill (s : Stats) (hs : s.valid = true) (v w : Rat) :
    s.addPoint v w = s.add (rawStats [(v, w)]) := by
  rw [rawStats_eq, addPoint, Stats.add, hs]
  simp only [Bool.and_self, if_true, sumWV, sumWV2, wsum, List.map_cons, List.map_nil, List.sum_cons, List.sum_nil,
    add_zero, mul_comm v w, mul_comm (v * v) w]
  rfl

/-- weighted moments in terms of the raw data -/
theorem C14_sums (d : List Pt) (hne : d ≠ []) :
    (rawStats d).sum = sumWV d ∧ (rawStats d).sum2 = sumWV2 d ∧ (rawStats d).weight = wsum d ∧
    (rawStats d).min = Grid.listMin (d.map (·.1)) ∧ (rawStats d).max = Grid.listMax (d.map (·.1)) := by
  rw [rawStats_eq]
  exact ⟨rfl, rfl, rfl, rfl, rfl⟩

theorem rawStats_mean (d : List Pt) (hw : wsum d ≠ 0) : (rawStats d).mean = some (sumWV d / wsum d) := by
  rw [rawStats_eq]
  exact if_pos (bne_iff_ne.2 hw)

theorem rawStats_variance (d : List Pt) (hw : 0 < wsum d) :
    (rawStats d).variance = some ((sumWV2 d - sumWV d * sumWV d / wsum d) / wsum d) := by
  rw [rawStats_eq]
  exact if_pos (decide_eq_true hw)

/-- the squared deviations from `μ`; the last term vanishes when `μ` is the mean -/
theorem sum_sq_dev (d : List Pt) (μ : Rat) :
    (d.map fun p => p.2 * (p.1 - μ) ^ 2).sum = sumWV2 d - μ * sumWV d - μ * (sumWV d - μ * wsum d) := by
  induction d with
  | nil => simp [sumWV2, sumWV, wsum]
  | cons p ps ih =>
    simp only [List.map_cons, List.sum_cons, sumWV2, sumWV, wsum] at ih ⊢
    rw [ih]
    ring

/-- **Moments.** `mean()` is the weighted mean `Σ w·v / Σ w` and `variance()` the weighted
    population variance `Σ w·(v − mean)² / Σ w` of the raw data (total weight > 0). -/
theorem C14_moments (d : List Pt) (hne : d ≠ []) (hw : 0 < wsum d) :
    (rawStats d).mean = some (sumWV d / wsum d) ∧
    (rawStats d).variance = some ((d.map fun p => p.2 * (p.1 - sumWV d / wsum d) ^ 2).sum / wsum d) := by
  refine ⟨rawStats_mean d hw.ne', ?_⟩
  rw [rawStats_variance d hw, sum_sq_dev, div_mul_cancel₀ _ hw.ne', sub_self, mul_zero, sub_zero, div_mul_eq_mul_div]

/-- **Positive rescaling.** Scaling by `c ≠ 0` multiplies the weight by `c` and leaves mean,
    minimum and maximum unchanged; for `c > 0` the variance is unchanged too. -/
theorem C14_scale (s : Stats) (c : Rat) (hc : 0 < c) (hv : s.valid = true) :
    (s.scale c).mean = s.mean ∧ (s.scale c).variance = s.variance ∧
    (s.scale c).min = s.min ∧ (s.scale c).max = s.max ∧ (s.scale c).weight = s.weight * c := by
  have hc' := hc.ne'
  have e : s.scale c = { s with sum := s.sum * c, sum2 := s.sum2 * c, weight := s.weight * c } := if_pos hv
  have hm : (s.weight * c != 0) = (s.weight != 0) := by
    rw [Bool.eq_iff_iff, bne_iff_ne, bne_iff_ne, mul_ne_zero_iff_right hc']
  have hd : decide (0 < s.weight * c) = decide (0 < s.weight) := decide_eq_decide.2 (mul_pos_iff_of_pos_right hc)
  -- the common factor `c` cancels, whatever the weight
  have hvar : (s.sum2 * c - s.sum * c * (s.sum * c) / (s.weight * c)) / (s.weight * c) =
      (s.sum2 - s.sum * s.sum / s.weight) / s.weight := by
    rw [← mul_assoc, mul_div_mul_right _ _ hc', mul_right_comm, mul_div_right_comm, ← sub_mul,
      mul_div_mul_right _ _ hc']
  rw [e]
  refine ⟨?_, ?_, rfl, rfl, rfl⟩
  · simp only [Stats.mean, hm, mul_div_mul_right _ _ hc']
  · simp only [Stats.variance, hd, hvar]

/-- **Invalid, never wrong.** Once the statistics cannot be maintained (array arithmetic,
    subtraction, bare frequencies: `INVALID_STATISTICS`) they stay invalid under further
    accumulation and scaling, and every derived number reads NaN. -/
theorem C14_invalid (s : Stats) (c : Rat) (v w : Rat) :
    Stats.invalid.add s = Stats.invalid ∧ s.add Stats.invalid = Stats.invalid ∧
    Stats.invalid.scale c = Stats.invalid ∧ Stats.invalid.addPoint v w = Stats.invalid ∧
    Stats.invalid.mean = none ∧ Stats.invalid.variance = none := by
  refine ⟨rfl, ?_, rfl, rfl, rfl, rfl⟩
  rw [Stats.add, Bool.and_comm]
  rfl

/-- an empty histogram reports weight 0 and a NaN mean -/
theorem C14_empty : Stats.empty.weight = 0 ∧ Stats.empty.mean = none ∧ Stats.empty.variance = none :=
  ⟨rfl, rfl, rfl⟩

/-- subtraction (`isub`) and construction from bare arrays (`ofArrays`) leave invalid statistics -/
theorem C14_invalidated (fo : FloatOps) (h o r : H1) (hr : h.isub fo o = .ok r) : r.stats = Stats.invalid :=
  (isub_ok fo h o r hr).2.1

/-- **Median** of an unweighted construction: the middle order statistic (mean of the two middle
    ones for an even count). -/
theorem C14_median_example :
    medianOf [3, 1, 2] = some 2 ∧ medianOf [4, 1, 3, 2] = some (5 / 2) ∧ medianOf [] = none := by
  decide +kernel

/-! Non-vacuity -/
example : (rawStats [(1, 2), (3, 1 / 2)]).mean = some (7 / 5) := by decide +kernel
example : (0 : Rat) < wsum [(1, 2), (3, 1 / 2)] ∧ ([(1, 2), (3, 1 / 2)] : List Pt) ≠ [] := by
  constructor
  · decide +kernel
  · simp

end Physt
