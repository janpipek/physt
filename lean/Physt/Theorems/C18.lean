import Physt.Theorems.C03
import Physt.Theorems.C13
import Physt.Theorems.C06
import Mathlib.Algebra.Order.BigOperators.Group.List
/-!
# C18 — histograms stay well-formed; failed operations change nothing

In the model every in-place operation is a function `state → Except error state`: a refused call
produces **no** new state, so the caller's histogram is literally unchanged.  Where the
implementation promotes the dtype before it validates (`*=`, `/=`, `-=`, adaptive `+=`), the driver
applies exactly that lossless promotion to the refused target; `C18_refused_promotion` shows it is
the only thing that differs.  That the real code validates before it mutates is what the
correspondence check (snapshot before / after every injected invalid call) establishes.
-/
namespace Physt
open H1

/-- shapes match, squared errors and contents are non-negative -/
structure WF (fo : FloatOps) (h : H1) : Prop where
  flen : h.freq.length = (h.bins fo).length
  elen : h.err2.length = (h.bins fo).length
  epos : ∀ x ∈ h.err2, 0 ≤ x
  fpos : ∀ x ∈ h.freq, 0 ≤ x

/-- `n` numbers, none negative: what `WF` asks of the contents and of the squared errors alike -/
def Good (n : Nat) (l : List Rat) : Prop := l.length = n ∧ ∀ x ∈ l, 0 ≤ x

theorem WF.freq {fo : FloatOps} {h : H1} (w : WF fo h) : Good (h.bins fo).length h.freq := ⟨w.flen, w.fpos⟩

theorem WF.err2 {fo : FloatOps} {h : H1} (w : WF fo h) : Good (h.bins fo).length h.err2 := ⟨w.elen, w.epos⟩

theorem WF.of_good {fo : FloatOps} {h : H1} {n : Nat} (hb : (h.bins fo).length = n) (f : Good n h.freq)
    (e : Good n h.err2) : WF fo h :=
  ⟨f.1.trans hb.symm, e.1.trans hb.symm, e.2, f.2⟩

/-- the bins are those of `h`: contents and squared errors have to fit them -/
theorem WF.of_binning {fo : FloatOps} {h r : H1} (hb : r.binning = h.binning)
    (f : Good (h.bins fo).length r.freq) (e : Good (h.bins fo).length r.err2) : WF fo r :=
  .of_good (congrArg (fun b => (b.bins fo).length) hb) f e

theorem any_lt_false {l : List Rat} (h : (l.any (· < 0)) = false) : ∀ x ∈ l, 0 ≤ x := by
  intro x hx
  by_contra hneg
  have : l.any (· < 0) = true := List.any_eq_true.mpr ⟨x, hx, by simpa using hneg⟩
  rw [h] at this; cases this

theorem Good.zeros (n : Nat) : Good n (zeros n) :=
  ⟨List.length_replicate .., fun _ hx => (List.eq_of_mem_replicate hx).ge⟩

theorem Good.map {n : Nat} {l : List Rat} (f : Rat → Rat) (hf : ∀ x, 0 ≤ x → 0 ≤ f x) (g : Good n l) :
    Good n (l.map f) := by
  refine ⟨(List.length_map ..).trans g.1, fun y hy => ?_⟩
  obtain ⟨x, hx, rfl⟩ := List.mem_map.mp hy
  exact hf x (g.2 x hx)

theorem zipAdd_nonneg (a b : List Rat) (ha : ∀ x ∈ a, 0 ≤ x) (hb : ∀ x ∈ b, 0 ≤ x) : ∀ x ∈ zipAdd a b, 0 ≤ x := by
  intro x hx
  obtain ⟨i, hi, rfl⟩ := List.getElem_of_mem hx
  have hi' : i < a.length ∧ i < b.length := by simpa [zipAdd] using hi
  simp only [zipAdd, List.getElem_zipWith]
  exact add_nonneg (ha _ (List.getElem_mem hi'.1)) (hb _ (List.getElem_mem hi'.2))

theorem Good.zipAdd {n : Nat} {a b : List Rat} (ha : Good n a) (hb : Good n b) : Good n (zipAdd a b) :=
  ⟨by rw [zipAdd_length, ha.1, hb.1, Nat.min_self], zipAdd_nonneg a b ha.2 hb.2⟩

/-- cell `i` of `(a + 0·b) - (0·a + b)`, the way `-=` computes a difference over the same bins -/
theorem sub_mem (a b : List Rat) (i : Nat) (hi : i < a.length) (hi' : i < b.length) :
    a[i] - b[i] ∈ List.zipWith (· - ·) (zipAdd a (b.map (· * 0))) (zipAdd (a.map (· * 0)) b) :=
  List.mem_iff_getElem.mpr
    ⟨i, by rw [List.length_zipWith, zipAdd_length, zipAdd_length, List.length_map, List.length_map]; omega,
      by simp only [zipAdd, List.getElem_zipWith, List.getElem_map]; ring⟩

/-- a Python slice of `l` is as long as the same slice of any list of the same length -/
theorem Good.slice {β} {n : Nat} {l : List Rat} (g : Good n l) (m : List β) (hm : m.length = n) (a b : Option Int) :
    Good (sliceList m a b).length (sliceList l a b) :=
  ⟨by simp only [sliceList, pySlice, List.length_take, List.length_drop, g.1, hm],
    fun x hx => g.2 x (List.mem_of_mem_drop (List.mem_of_mem_take hx))⟩

theorem wf_empty (fo : FloatOps) (b : Binning) (keep : Bool) (dt : Option DType) : WF fo (H1.empty fo b keep dt) :=
  .of_good rfl (.zeros _) (.zeros _)

theorem wf_copy (fo : FloatOps) (h : H1) (b : Bool) (w : WF fo h) : WF fo (h.copy b) := by
  cases b with
  | true => exact w
  | false =>
    exact .of_binning (h := h) rfl ⟨(List.length_replicate ..).trans w.flen, (Good.zeros _).2⟩
      ⟨(List.length_replicate ..).trans w.elen, (Good.zeros _).2⟩

/-- scaling keeps a histogram well-formed (a factor that would make a content negative is refused) -/
theorem WF.scaled {fo : FloatOps} {h : H1} (w : WF fo h) (p : Rat) (d : DType)
    (hn : (h.freq.map (· * p)).any (· < 0) = false) : WF fo (h.scaled p d) :=
  .of_binning (h := h) rfl ⟨(List.length_map _).trans w.flen, any_lt_false hn⟩
    (w.err2.map _ fun x hx => mul_nonneg hx (mul_self_nonneg p))

theorem C18_wf_imul (fo : FloatOps) (h r : H1) (c : Rat) (k : NumKind) (w : WF fo h) (hr : h.imul c k = .ok r) :
    WF fo r := by
  obtain ⟨hn, rfl⟩ := (imul_iff h r c k).mp hr
  exact w.scaled c _ hn

theorem C18_wf_idiv (fo : FloatOps) (h r : H1) (c : Rat) (w : WF fo h) (hr : h.idiv c = .ok r) : WF fo r := by
  obtain ⟨_, hn, rfl⟩ := (idiv_iff h r c).mp hr
  exact w.scaled _ _ hn

/-- adding two well-formed histograms over the same bins gives a well-formed histogram -/
theorem C18_wf_iadd (fo : FloatOps) (h o r : H1) (wh : WF fo h) (wo : WF fo o) (hs : h.sameBins fo o = true)
    (hr : h.iadd fo o = .ok r) : WF fo r := by
  obtain ⟨_, f, e, _, _, _, _, b, _⟩ := iadd_same_ok fo h o r hs hr
  have hb : h.bins fo = o.bins fo := by simpa [sameBins] using hs
  refine .of_binning b ?_ ?_
  · rw [f]; exact wh.freq.zipAdd (hb ▸ wo.freq)
  · rw [e]; exact wh.err2.zipAdd (hb ▸ wo.err2)

theorem sweepAux_mem (s : List Pt) (n : Nat) (bs : Bins) (k : Nat) :
    ∀ c ∈ sweepAux s n k bs, ∀ p ∈ c, p ∈ s := by
  induction bs generalizing k with
  | nil => intro c hc; simp [sweepAux] at hc
  | cons b bs ih =>
    intro c hc p hp
    simp only [sweepAux, List.mem_cons] at hc
    rcases hc with rfl | hc
    · simp only [binSlice, pySlice] at hp
      exact List.mem_of_mem_drop (List.mem_of_mem_take hp)
    · exact ih _ c hc p hp

/-- the batch histogram of non-negative weights is non-negative — whatever the bins are -/
theorem calc1d_freq_good (bins : Bins) (d : List Pt) (hw : ∀ p ∈ d, 0 ≤ p.2) :
    Good bins.length (calc1d bins d).freq := by
  refine ⟨calc1d_freq_length bins d, fun x hx => ?_⟩
  simp only [calc1d, List.mem_map] at hx
  obtain ⟨c, hc, rfl⟩ := hx
  refine List.sum_nonneg fun y hy => ?_
  obtain ⟨p, hp, rfl⟩ := List.mem_map.mp hy
  exact hw p ((sortPts_perm d).mem_iff.mp (sweepAux_mem _ _ _ _ c hc p hp))

theorem calc1d_err2_good (bins : Bins) (d : List Pt) : Good bins.length (calc1d bins d).err2 := by
  refine ⟨calc1d_err2_length bins d, fun x hx => ?_⟩
  simp only [calc1d, List.mem_map] at hx
  obtain ⟨c, _, rfl⟩ := hx
  refine List.sum_nonneg fun y hy => ?_
  obtain ⟨p, _, rfl⟩ := List.mem_map.mp hy
  exact mul_self_nonneg _

/-- `fillData` with non-negative weights over **any** bins -/
theorem wf_fillData (fo : FloatOps) (h : H1) (w : WF fo h) (d : List Pt) (hw : ∀ p ∈ d, 0 ≤ p.2) :
    WF fo (h.fillData fo d) :=
  .of_binning rfl (w.freq.zipAdd (calc1d_freq_good _ d hw)) (w.err2.zipAdd (calc1d_err2_good _ d))

/-- **Filling keeps a histogram well-formed**: a `fill_n` batch with non-negative weights over
    static rising bins. -/
theorem C18_wf_fill_n (fo : FloatOps) (h : H1) (bins : Bins) (ire : Bool) (hb : Rising bins)
    (hbin : h.binning = .static bins ire) (w : WF fo h) (d : List Pt) (hw : ∀ p ∈ d, 0 ≤ p.2) :
    WF fo (h.fillData fo d) :=
  wf_fillData fo h w d hw

/-- a slice of a well-formed histogram is well-formed -/
theorem C18_wf_slice (fo : FloatOps) (h : H1) (w : WF fo h) (a b : Option Int) : WF fo (h.getSlice fo a b) :=
  .of_good rfl (w.freq.slice _ rfl a b) (w.err2.slice _ rfl a b)

/-- **A refused call changes nothing.**  Every validating operation of the model returns either a
    new state or an error *instead of* a state; e.g. for `*=`: when the call is refused, the only
    thing the implementation has touched is the dtype, and that promotion is lossless. -/
theorem C18_refused_promotion (h : H1) (d : DType) :
    (h.coerce d).freq = h.freq ∧ (h.coerce d).err2 = h.err2 ∧ (h.coerce d).under = h.under ∧
    (h.coerce d).over = h.over ∧ (h.coerce d).inner = h.inner ∧ (h.coerce d).binning = h.binning ∧
    DType.canCast h.dtype (h.coerce d).dtype = true :=
  ⟨rfl, rfl, rfl, rfl, rfl, rfl, (C13_lossless h.dtype d).1⟩

/-- an operation that would make a content negative (negative factor, subtracting more than is
    there) is refused -/
theorem C18_refuse_negative (h : H1) (c : Rat) (k : NumKind) (x : Rat) (hx : x ∈ h.freq) (hneg : x * c < 0) :
    ∃ e, h.imul c k = .error e :=
  imul_refused h c k (List.any_eq_true.mpr ⟨x * c, List.mem_map.mpr ⟨x, hx, rfl⟩, by simpa using hneg⟩)

theorem C18_isub_nonneg (fo : FloatOps) (h o r : H1) (hr : h.isub fo o = .ok r) : ∀ x ∈ r.freq, 0 ≤ x :=
  any_lt_false (isub_ok fo h o r hr).2.2.2.2

/-! Non-vacuity -/
example : ∃ e, ({ binning := .static [(0, 1)] true, freq := [2], err2 := [2] } : H1).imul (-1) .pyInt = .error e :=
  C18_refuse_negative _ _ _ 2 (by simp) (by norm_num)

end Physt
