import Physt.Proofs.ArrayLaws
/-!
# C09 (continued) — totals, projecting in steps, accumulate ends at the marginal

`Theorems/C09.lean` states the marginal index-wise.  Here: the consequences the property names —
the projection has the parent's total; projecting in steps equals projecting once; the last
cumulative entry is the marginal.  Helper lemmas: `Proofs/ArrayLaws.lean` (an extensionality
principle for well-shaped arrays, `sum_allIdx_split`, …).  `WellShaped a` = the flat data has
`prod shape` entries (what numpy guarantees).
-/
namespace Physt

/-- summing over one axis keeps the total -/
theorem C09_total_axis (a : Arr) (hw : a.WellShaped) (axis : Nat) (hax : axis < a.shape.length) :
    (a.sumAxis axis).total = a.total :=
  Arr.total_sumAxis a hw axis hax

/-- **The projection's total equals the parent's total** (contents and squared errors). -/
theorem C09_total (h r : HN) (axes : List (Sum Int String))
    (hf : h.freq.WellShaped) (he : h.err2.WellShaped)
    (hfs : h.freq.shape.length = h.axes.length) (hes : h.err2.shape.length = h.axes.length)
    (hr : h.projection axes = .ok r) : r.freq.total = h.freq.total ∧ r.err2.total = h.err2.total := by
  obtain ⟨ax, _, rfl⟩ := HN.projection_ok h r axes hr
  exact ⟨Arr.total_sumAxes _ hf _ (dropList_desc _ _) (by rw [hfs]; exact dropList_lt _ _),
    Arr.total_sumAxes _ he _ (dropList_desc _ _) (by rw [hes]; exact dropList_lt _ _)⟩

/-- summing over two axes in either order gives the same array -/
theorem C09_sum_comm (a : Arr) (i j : Nat) (hij : i < j) (hj : j < a.shape.length) :
    (a.sumAxis j).sumAxis i = (a.sumAxis i).sumAxis (j - 1) :=
  Arr.sumAxis_comm' a i j hij hj

/-- **Projecting in steps equals projecting once onto the final axes — the whole histogram**: if the
    resolved positions `ax` of the one-step request are the composition of those of the two steps
    (`ax2` being positions in the intermediate result), the results are equal: bins and names in
    the same order, contents, squared errors, missed, dtype, flags. -/
theorem C09_steps (h r1 r2 r : HN) (axes1 axes2 axes : List (Sum Int String))
    (hfs : h.axes.length ≤ h.freq.shape.length) (hes : h.axes.length ≤ h.err2.shape.length)
    (hns : h.axes.length ≤ h.names.length)
    (h1 : h.projection axes1 = .ok r1) (h2 : r1.projection axes2 = .ok r2) (h3 : h.projection axes = .ok r) :
    ∃ ax1 ax2 ax, axes1.mapM h.getAxis = .ok ax1 ∧ axes2.mapM r1.getAxis = .ok ax2 ∧ axes.mapM h.getAxis = .ok ax ∧
      ((∀ i, i < h.axes.length →
          ax.contains i = composeKeep (fun i => ax1.contains i) (fun i => ax2.contains i) i) → r = r2) := by
  obtain ⟨ax1, m1, rfl⟩ := HN.projection_eq h r1 axes1 h1
  obtain ⟨ax2, m2, rfl⟩ := HN.projection_eq _ r2 axes2 h2
  obtain ⟨ax, m3, rfl⟩ := HN.projection_eq h r axes h3
  refine ⟨ax1, ax2, ax, m1, m2, m3, fun hc => ?_⟩
  have hdt : (if (if h.dtype.isInt then DType.i64 else h.dtype).isInt then DType.i64
      else if h.dtype.isInt then DType.i64 else h.dtype) = if h.dtype.isInt then .i64 else h.dtype := by
    cases hh : h.dtype.isInt
    · simp [hh]
    · simp [DType.isInt]
  dsimp only
  rw [hdt, keptOf_length _ _ _ (Nat.le_refl _), keptOf_steps _ _ _ _ (Nat.le_refl _), keptOf_steps _ _ _ _ hns,
    Arr.sumAxes_steps _ _ _ _ hfs, Arr.sumAxes_steps _ _ _ _ hes, dropList_congr _ _ _ hc,
    keptOf_congr h.axes _ _ _ hc, keptOf_congr h.names _ _ _ hc]

/-- **accumulate ends at the marginal**: along the accumulated axis the last cumulative entry is the
    sum over that axis (for a 1-D histogram: `cumulative_frequencies[-1] == total`, C16). -/
theorem C09_accumulate_last (a : Arr) (axis : Nat) (js : List Nat) (hax : axis < a.shape.length)
    (hv : validIdx (Arr.removeAt a.shape axis) js = true) :
    (a.cumsum axis).get (insAt js axis (a.shape[axis]?.getD 0 - 1)) = (a.sumAxis axis).get js := by
  rw [Arr.get_sumAxis_insAt a axis js hax]
  by_cases hn : a.shape[axis]?.getD 0 = 0
  · rw [hn, Arr.get_insAt_of_ge _ js axis _ (by simpa using hax) (by simp [hn])]
    rfl
  · rw [Arr.get_cumsum_insAt a axis _ js hax (by omega)]
    congr 3
    omega

/-- accumulate leaves the shape (hence the other axes) alone -/
theorem C09_accumulate_shape (a : Arr) (axis : Nat) : (a.cumsum axis).shape = a.shape :=
  Arr.shape_cumsum a axis

/-! Non-vacuity -/
example : ({ shape := [2, 3], data := [1, 2, 3, 4, 5, 6] } : Arr).WellShaped ∧
    (({ shape := [2, 3], data := [1, 2, 3, 4, 5, 6] } : Arr).sumAxis 1).total = 21 ∧
    ((({ shape := [2, 3], data := [1, 2, 3, 4, 5, 6] } : Arr).cumsum 1).get [1, 2]) = 15 := by decide +kernel

end Physt
