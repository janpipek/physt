import Physt.Proofs.FillFindND
/-!
# C03 in N dimensions — `find_bin` changes nothing, `fill` returns what `find_bin` returns

For histograms with ANY mix of adaptive grids, non-adaptive grids and static bins, every `FloatOps`,
every fuel, arrays of any shape and values with any number of coordinates (helper lemmas:
`Proofs/FillFindND.lean`; the non-adaptive case with tracking on is `C03_nd_fill` in `C03_ND.lean`).

`find_bin` reads the bins only; `fill` returns the result of `find_bin` on the histogram AFTER the call, and
nothing iff a coordinate is NaN (then nothing changed).  The growth step of `fill` is given axis by axis;
with tracking off and the point outside the bins it is, with the dtype promotion, all that happens (both
arrays zero-padded by the SAME reshape instructions), and the totals stay when the growth reaches the cell
of each coordinate (`GrowthReaches`) but not without that (`C03_nd_cut_counterexample`).
-/
namespace Physt
open Grid

/-- **`find_bin` changes nothing and reads the bins only.**  In the model `HN.findBin` returns an index
    and no histogram, so there is no state it could change; and its result depends on the axes alone:
    two histograms with the same axes — whatever their contents, squared errors, missed, dtype,
    `keep_missed`, names — give the same answer for every value. -/
theorem C03_nd_find_pure (fo : FloatOps) (h h' : HN) (hax : h'.axes = h.axes) (v : List Rat) :
    h'.findBin fo v = h.findBin fo v :=
  HN.findBin_axes fo h h' hax v

/-- **`fill` returns what `find_bin` returns afterwards.**  For a value without NaN, on any mix of
    adaptive and non-adaptive axes, `fill` returns the index `find_bin` gives on the histogram AFTER
    the call (i.e. in the grown bins; `None` when the point is outside them). -/
theorem C03_nd_fill_returns_find (fo : FloatOps) (fuel : Nat) (h : HN) (value : List (Option Rat)) (w : Rat)
    (wk : H1.NumKind) (hv : value.any Option.isNone = false) :
    (h.fill fo fuel value w wk).2
      = some ((h.fill fo fuel value w wk).1.findBin fo (value.filterMap id)) :=
  fill_snd_eq_findBin fo fuel h value w wk hv

/-- … and with non-adaptive axes only this is also what `find_bin` returned BEFORE the call, and the
    axes are the same (no hypothesis on the bins, the shapes or `keep_missed`, unlike `C03_nd_fill`). -/
theorem C03_nd_fill_returns_find_static (fo : FloatOps) (fuel : Nat) (h : HN) (hs : NonAdaptive h.axes)
    (value : List (Option Rat)) (w : Rat) (wk : H1.NumKind) (hv : value.any Option.isNone = false) :
    (h.fill fo fuel value w wk).2 = some (h.findBin fo (value.filterMap id)) ∧
    (h.fill fo fuel value w wk).1.axes = h.axes := by
  have hax := fill_axes_static fo fuel h hs value w wk
  exact ⟨by rw [fill_snd_eq_findBin fo fuel h value w wk hv, HN.findBin_axes fo h _ hax], hax⟩

/-- **NaN.**  `fill` returns nothing exactly when a coordinate of the value is NaN, and then the
    histogram is unchanged (not even the dtype is promoted). -/
theorem C03_nd_fill_nan (fo : FloatOps) (fuel : Nat) (h : HN) (value : List (Option Rat)) (w : Rat)
    (wk : H1.NumKind) :
    ((h.fill fo fuel value w wk).2 = none ↔ value.any Option.isNone = true) ∧
    (value.any Option.isNone = true → (h.fill fo fuel value w wk).1 = h) :=
  ⟨fill_snd_none_iff fo fuel h value w wk, fun hv => by rw [fill_of_nan fo fuel h value w wk hv]⟩

/-- **After the growth step `fill` touches contents, squared errors and missed only**: axes, names,
    `keep_missed` and dtype of the result are those of the histogram after dtype promotion and growth
    (`HN.grown`), and the index returned is searched in those axes. -/
theorem C03_nd_fill_fields (fo : FloatOps) (fuel : Nat) (h : HN) (value : List (Option Rat)) (w : Rat)
    (wk : H1.NumKind) (hv : value.any Option.isNone = false) :
    (h.fill fo fuel value w wk).1.axes = (h.grown fo fuel value wk).axes ∧
    (h.fill fo fuel value w wk).1.names = (h.grown fo fuel value wk).names ∧
    (h.fill fo fuel value w wk).1.keep = (h.grown fo fuel value wk).keep ∧
    (h.fill fo fuel value w wk).1.dtype = (h.grown fo fuel value wk).dtype ∧
    (h.fill fo fuel value w wk).2 = some ((h.grown fo fuel value wk).findBin fo (value.filterMap id)) :=
  fill_fields fo fuel h value w wk hv

/-- **The growth step of `fill`, axis by axis.**  Axis `i` becomes `growAxis` of the ORIGINAL axis `i`
    and coordinate `i` of the value: a non-adaptive axis (or an axis without coordinate) stays, an
    adaptive grid `g` becomes `(g.forceSingle fo fuel x g.ire).1`; the instruction for axis `i` is
    `(new bin count, reshape)` of that call; contents and squared errors BOTH go through these
    instructions (`reshapeAll` = `HN.reshapeAxis` for axis 0, then axis 1, …); nothing else changes. -/
theorem C03_nd_growth_closed_form (fo : FloatOps) (fuel : Nat) (h : HN) (v : List Rat) :
    h.adaptAxes fo fuel (v.map fun x => [x]) true =
      { h with axes := (growAxes fo fuel h.axes v).map (·.1),
               freq := reshapeAll h.freq ((growAxes fo fuel h.axes v).map (·.2)),
               err2 := reshapeAll h.err2 ((growAxes fo fuel h.axes v).map (·.2)) } ∧
    (growAxes fo fuel h.axes v).length = h.axes.length ∧
    (∀ i : Nat, (growAxes fo fuel h.axes v)[i]? = h.axes[i]?.map fun b => growAxis fo fuel b v[i]?) ∧
    (∀ b x, b.isAdaptive = false → growAxis fo fuel b x = (b, (b.bins fo).length, .noChange)) ∧
    (∀ g x, g.adaptive = true → growAxis fo fuel (.fixed g) (some x)
      = (.fixed (g.forceSingle fo fuel x g.ire).1, (g.forceSingle fo fuel x g.ire).1.count,
          (g.forceSingle fo fuel x g.ire).2)) :=
  ⟨adaptAxes_single fo fuel h v, growAxes_length fo fuel h.axes v, growAxes_getElem? fo fuel h.axes v,
    growAxis_nonadaptive fo fuel, growAxis_adaptive fo fuel⟩

/-- **Outside the bins, tracking of missed values off: only growth and dtype.**  If the value has no
    NaN, `keep_missed = False` and `fill` returns `None` (the point is outside the bins after the
    growth), then the histogram after the call is the old one with the dtype promoted, every axis
    replaced by its grown version, and contents and squared errors passed through the reshape
    instructions of that growth (the old numbers, moved and padded with zeros) — missed,
    `keep_missed` and names are the old ones and nothing is added to any cell. -/
theorem C03_nd_fill_outside_nokeep (fo : FloatOps) (fuel : Nat) (h : HN) (value : List (Option Rat)) (w : Rat)
    (wk : H1.NumKind) (hv : value.any Option.isNone = false) (hk : h.keep = false)
    (hout : (h.fill fo fuel value w wk).2 = some none) :
    (h.fill fo fuel value w wk).1 =
      { h with dtype := h.dtype.promote wk.dtype,
               axes := (growAxes fo fuel h.axes (value.filterMap id)).map (·.1),
               freq := reshapeAll h.freq ((growAxes fo fuel h.axes (value.filterMap id)).map (·.2)),
               err2 := reshapeAll h.err2 ((growAxes fo fuel h.axes (value.filterMap id)).map (·.2)) } :=
  fill_outside_nokeep fo fuel h value w wk hv hk hout

/-- what one reshape instruction does, cell by cell — the old entry, the old entry `k` cells further
    down, or zero: growth only pads with zeros -/
theorem C03_nd_reshape_cells (a : Arr) (i n : Nat) (r : Reshape) (idx : List Nat)
    (hv : validIdx (Arr.setAt a.shape i n) idx = true) (j : Nat) (hj : idx[i]? = some j) :
    (HN.reshapeAxis a i n r).get idx =
      match r with
      | .noChange => a.get idx
      | .fresh => 0
      | .shift k => if k ≤ j ∧ j - k < a.shape[i]?.getD 0 then a.get (idx.set i (j - k)) else 0 := by
  cases r with
  | noChange => rfl
  | fresh => exact Arr.get_ofFn _ _ idx hv
  | shift k => exact Arr.get_shiftAxis a i k n idx hv j hj

/-- **… and the totals stay**, for arrays shaped like the bins, when on every adaptive grid that gets
    a coordinate the edges increase and the cell search reaches the cell (`GrowthReaches`; in exact
    arithmetic: positive widths, `growthReaches_exact`): every reshape instruction then has room for
    the old contents (`RoomFor`: no change, a fresh array for an axis without bins, or a shift by `k`
    with `k + old ≤ new`), and `Arr.total_shiftAxis` applies axis by axis. -/
theorem C03_nd_fill_outside_totals (fo : FloatOps) (fuel : Nat) (h : HN) (value : List (Option Rat)) (w : Rat)
    (wk : H1.NumKind) (hv : value.any Option.isNone = false) (hk : h.keep = false)
    (hout : (h.fill fo fuel value w wk).2 = some none)
    (hf : h.freq.HasShape (h.shape fo)) (he : h.err2.HasShape (h.shape fo))
    (hreach : GrowthReaches fo fuel h.axes (value.filterMap id)) :
    (h.fill fo fuel value w wk).1.freq.total = h.freq.total ∧
    (h.fill fo fuel value w wk).1.err2.total = h.err2.total :=
  fill_outside_nokeep_totals fo fuel h value w wk hv hk hout hf he hreach

/-- the array-level fact behind it: one reshape instruction per axis, each with room, keeps the total -/
theorem C03_nd_reshape_totals (a : Arr) (plan : List (Nat × Reshape)) (hw : a.WellShaped)
    (hlen : plan.length ≤ a.shape.length)
    (hroom : ∀ (i : Nat) (p : Nat × Reshape), plan[i]? = some p → RoomFor (a.shape[i]?.getD 0) p.1 p.2) :
    (reshapeAll a plan).total = a.total :=
  total_reshapeAll a plan hw hlen hroom

/-- `_force_bin_existence_single` leaves room whenever the edges increase and the search reaches the
    cell of the value -/
theorem C03_nd_growth_has_room (fo : FloatOps) (fuel : Nat) (g : Grid) (v : Rat) (ire : Bool)
    (hm : EdgeMono fo g.w g.shift) (hr : Reach fo g.w g.shift fuel v) :
    RoomFor g.count (g.forceSingle fo fuel v ire).1.count (g.forceSingle fo fuel v ire).2 :=
  forceSingle_room fo fuel g v ire hm hr

/-- **The hypothesis on the search is needed** (kernel-checked): with a `FloatOps` whose estimate is
    always 0 and fuel 0, a 1-D adaptive histogram with contents 1, 2, 3 and `keep_missed = False`
    filled with the value 10 reports "outside" and is CUT to one bin — its total drops from 6 to 1.
    (The search of the model stops when the fuel is used up; physt's loops run until the edges
    bracket the value.) -/
theorem C03_nd_cut_counterexample :
    let h : HN := { axes := [.fixed { w := 1, tmin := 0, count := 3, adaptive := true }],
                    freq := ⟨[3], [1, 2, 3]⟩, err2 := ⟨[3], [1, 2, 3]⟩, keep := false }
    (h.fill badEstimate 0 [some 10] 1 .pyInt).2 = some none ∧
    (h.fill badEstimate 0 [some 10] 1 .pyInt).1.freq = ⟨[1], [1]⟩ ∧
    h.freq.total = 6 ∧ (h.fill badEstimate 0 [some 10] 1 .pyInt).1.freq.total = 1 := by decide +kernel

/-- **All axes non-adaptive, tracking off, point outside the bins: nothing changes but the dtype.** -/
theorem C03_nd_fill_outside_static (fo : FloatOps) (fuel : Nat) (h : HN) (hs : NonAdaptive h.axes)
    (value : List (Option Rat)) (w : Rat) (wk : H1.NumKind) (hv : value.any Option.isNone = false)
    (hk : h.keep = false) (hout : h.findBin fo (value.filterMap id) = none) :
    h.fill fo fuel value w wk = (h.coerce wk.dtype, some none) := by
  have hg : h.grown fo fuel value wk = h.coerce wk.dtype :=
    adaptAxes_nonadaptive fo fuel (h.coerce wk.dtype) _ true hs
  rw [fill_of_finite fo fuel h value w wk hv, hg, HN.findBin_axes fo h (h.coerce wk.dtype) rfl, hout]
  have : (h.coerce wk.dtype).keep = false := hk
  simp only [this, Bool.false_eq_true, if_false]

/-! ## Non-vacuity

`ExampleFind.h`: axis 0 an adaptive grid with the bins [0, 1), [1, 2); axis 1 static bins [0, 1),
[1, 2]; contents 1, 2, 3, 4; `keep_missed = False`. -/

open ExampleFind in
/-- the point (-3/2, 5): the grid GROWS by two cells to the left, the point is outside the static
    axis; `fill` returns `None`, the contents are the old ones two cells further up, zeros in the new
    cells, missed untouched, dtype promoted to float -/
example :
    (h.fill FloatOps.exact 8 outside 1 .pyFloat).2 = some none ∧
    (h.fill FloatOps.exact 8 outside 1 .pyFloat).1 =
      { h with dtype := .f64,
               axes := [.fixed { w := 1, tmin := -2, count := 4, adaptive := true }, .static [(0, 1), (1, 2)] true],
               freq := ⟨[4, 2], [0, 0, 0, 0, 1, 2, 3, 4]⟩, err2 := ⟨[4, 2], [0, 0, 0, 0, 1, 4, 9, 16]⟩ } ∧
    (growAxes FloatOps.exact 8 h.axes (outside.filterMap id)).map (·.2) = [(4, .shift 2), (2, .noChange)] := by
  decide +kernel

open ExampleFind in
/-- the theorems apply to it -/
example :
    (h.fill FloatOps.exact 8 outside 1 .pyFloat).1 =
      { h with dtype := h.dtype.promote H1.NumKind.pyFloat.dtype,
               axes := (growAxes FloatOps.exact 8 h.axes (outside.filterMap id)).map (·.1),
               freq := reshapeAll h.freq ((growAxes FloatOps.exact 8 h.axes (outside.filterMap id)).map (·.2)),
               err2 := reshapeAll h.err2 ((growAxes FloatOps.exact 8 h.axes (outside.filterMap id)).map (·.2)) } ∧
    (h.fill FloatOps.exact 8 outside 1 .pyFloat).1.freq.total = h.freq.total ∧
    (h.fill FloatOps.exact 8 outside 1 .pyFloat).1.err2.total = h.err2.total :=
  ⟨C03_nd_fill_outside_nokeep FloatOps.exact 8 h outside 1 .pyFloat outside_finite rfl (by decide +kernel),
    C03_nd_fill_outside_totals FloatOps.exact 8 h outside 1 .pyFloat outside_finite rfl (by decide +kernel)
      shapes.1 shapes.2 (reaches 8 _)⟩

open ExampleFind in
/-- the point (-3/2, 1/2): `find_bin` BEFORE the call finds nothing, the grid grows, `fill` returns the
    cell (0, 0) — the one `find_bin` finds AFTER the call — and the weight lands there -/
example :
    h.findBin FloatOps.exact (inside.filterMap id) = none ∧
    (h.fill FloatOps.exact 8 inside 1 .pyInt).2 = some (some [0, 0]) ∧
    (h.fill FloatOps.exact 8 inside 1 .pyInt).2
      = some ((h.fill FloatOps.exact 8 inside 1 .pyInt).1.findBin FloatOps.exact (inside.filterMap id)) ∧
    (h.fill FloatOps.exact 8 inside 1 .pyInt).1.freq = ⟨[4, 2], [1, 0, 0, 0, 1, 2, 3, 4]⟩ :=
  ⟨by decide +kernel, by decide +kernel,
    C03_nd_fill_returns_find FloatOps.exact 8 h inside 1 .pyInt inside_finite, by decide +kernel⟩

open ExampleFind in
/-- a NaN coordinate -/
example :
    (h.fill FloatOps.exact 8 [some (-3 / 2), none] 1 .pyFloat).2 = none ∧
    (h.fill FloatOps.exact 8 [some (-3 / 2), none] 1 .pyFloat).1 = h :=
  ⟨(C03_nd_fill_nan FloatOps.exact 8 h _ 1 .pyFloat).1.mpr (by decide),
    (C03_nd_fill_nan FloatOps.exact 8 h _ 1 .pyFloat).2 (by decide)⟩

/-- non-adaptive axes only (the 2-D example of `C03_ND.lean`), tracking off, a point in the gap of the
    second axis: unchanged up to the dtype -/
example :
    let h := HN.empty FloatOps.exact ExampleND.axes false none none
    h.fill FloatOps.exact 8 [some (1 / 2), some (9 / 2)] 1 .pyFloat = (h.coerce .f64, some none) :=
  C03_nd_fill_outside_static FloatOps.exact 8 _ ExampleND.static _ 1 .pyFloat (by decide) rfl (by decide +kernel)

end Physt

