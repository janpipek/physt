import Physt.Model.Config
/-!
# C19 — the free-arithmetics switch is scoped, restored and isolated per context
-/
namespace Physt

/-- Operation sequences a block body can consist of: anything well-bracketed (plain settings,
    reads, arithmetic, and complete nested blocks — a block that is left because its body raised
    is still left by exactly one `exit`). -/
inductive Balanced : List COp → Prop
  | nil : Balanced []
  | set (v : Bool) {ops} : Balanced ops → Balanced (.set v :: ops)
  | read {ops} : Balanced ops → Balanced (.read :: ops)
  | arith {ops} : Balanced ops → Balanced (.arith :: ops)
  | block (v : Bool) {body rest} : Balanced body → Balanced rest →
      Balanced (.enter v :: body ++ .exit :: rest)

theorem Ctx.run_append (dflt : Bool) (c : Ctx) (a b : List COp) :
    (c.run dflt (a ++ b)).1 = ((c.run dflt a).1.run dflt b).1 := by
  induction a generalizing c with
  | nil => rfl
  | cons op ops ih => simp only [List.cons_append, Ctx.run]; exact ih _

/-- A block whose body leaves the token stack as it finds it is, for the context, as if it had not been
    there: `enter` pushes the old value, `exit` pops it back. -/
theorem Ctx.run_block (dflt : Bool) (v : Bool) {body : List COp}
    (hs : ∀ c' : Ctx, (c'.run dflt body).1.stack = c'.stack) (rest : List COp) (c : Ctx) :
    (c.run dflt (.enter v :: body ++ .exit :: rest)).1 = (c.run dflt rest).1 := by
  show (Ctx.run dflt { val := some v, stack := c.val :: c.stack } (body ++ .exit :: rest)).1 = _
  rw [Ctx.run_append]
  have h := hs { val := some v, stack := c.val :: c.stack }
  generalize (Ctx.run dflt { val := some v, stack := c.val :: c.stack } body).1 = c1 at h
  obtain ⟨val, stack⟩ := c1
  subst h
  rfl

theorem balanced_stack (dflt : Bool) {ops : List COp} (h : Balanced ops) (c : Ctx) :
    (c.run dflt ops).1.stack = c.stack := by
  induction h generalizing c with
  | nil => rfl
  | set v _ ih => exact ih _
  | read _ ih => exact ih _
  | arith _ ih => exact ih _
  | @block v body rest _ _ ihb ihr => rw [Ctx.run_block dflt v ihb rest c]; exact ihr c

/-- **Restore.** `with enable_free_arithmetics(v): body` — for every well-bracketed body, nested
    to any depth, whether blocks are left normally or by an exception — leaves the value and the
    token stack exactly as they were before the block. -/
theorem C19_restore (dflt : Bool) (v : Bool) (body : List COp) (hb : Balanced body) (c : Ctx) :
    (c.run dflt (.enter v :: body ++ [.exit])).1 = c :=
  Ctx.run_block dflt v (balanced_stack dflt hb) [] c

/-- inside the block the value is the one requested, until it is changed inside the block -/
theorem C19_inside (dflt : Bool) (v : Bool) (c : Ctx) :
    ((c.run dflt [.enter v, .read]).2) = [.none, .value v] := by
  simp [Ctx.run, Ctx.step, Ctx.read]

/-- the operations of thread `t` inside a schedule -/
def own (t : Nat) (sched : List (Nat × COp)) : List COp := (sched.filter (·.1 = t)).map (·.2)

/-- no operation of the schedule starts (re-initialises) thread `t` -/
def NotSpawned (t : Nat) (sched : List (Nat × COp)) : Prop :=
  ∀ p ∈ sched, p.2 ≠ .spawnThread t ∧ p.2 ≠ .spawnTask t

theorem World.step_fst (dflt : Bool) (w : World) (u : Nat) (op : COp) (t : Nat)
    (h1 : op ≠ .spawnThread t) (h2 : op ≠ .spawnTask t) :
    (w.step dflt u op).1 t = if t = u then ((w u).step dflt op).1 else w t := by
  unfold World.step
  cases op with
  | spawnThread child =>
    have hc : t ≠ child := fun e => h1 (e ▸ rfl)
    simp [World.set, hc]
  | spawnTask child =>
    have hc : t ≠ child := fun e => h2 (e ▸ rfl)
    simp [World.set, hc]
  | _ => simp [World.set]

theorem World.step_other (dflt : Bool) (w : World) (u : Nat) (op : COp) (t : Nat) (hut : u ≠ t)
    (h1 : op ≠ .spawnThread t) (h2 : op ≠ .spawnTask t) : (w.step dflt u op).1 t = w t := by
  rw [World.step_fst dflt w u op t h1 h2, if_neg (Ne.symm hut)]

theorem World.step_own (dflt : Bool) (w : World) (t : Nat) (op : COp)
    (h1 : op ≠ .spawnThread t) (h2 : op ≠ .spawnTask t) :
    (w.step dflt t op).1 t = ((w t).step dflt op).1 ∧ (w.step dflt t op).2 = ((w t).step dflt op).2 := by
  rw [World.step_fst dflt w t op t h1 h2, if_pos rfl]
  exact ⟨rfl, by cases op <;> rfl⟩

/-- **Isolation.** Under every schedule — every interleaving of any number of threads and tasks —
    what thread `t` observes, and the context it ends with, are exactly what it observes when it
    runs its own operations alone from the context it started with: no `set`, `enter` or `exit`
    of another thread or task is ever visible to it. -/
theorem C19_isolate (dflt : Bool) (sched : List (Nat × COp)) (t : Nat) (w : World)
    (hns : NotSpawned t sched) :
    ((w.run dflt sched).1 t) = ((w t).run dflt (own t sched)).1 ∧
    ((w.run dflt sched).2.filter (·.1 = t)).map (·.2) = ((w t).run dflt (own t sched)).2 := by
  induction sched generalizing w with
  | nil => simp [World.run, Ctx.run, own]
  | cons p rest ih =>
    obtain ⟨u, op⟩ := p
    have hp := hns (u, op) (List.mem_cons_self ..)
    have hrest : NotSpawned t rest := fun q hq => hns q (List.mem_cons_of_mem _ hq)
    simp only [World.run]
    by_cases hut : u = t
    · subst hut
      have hs := World.step_own dflt w u op hp.1 hp.2
      have ih' := ih (w.step dflt u op).1 hrest
      simp only [own, List.filter_cons, decide_true, if_true, List.map_cons, Ctx.run] at ih' ⊢
      rw [hs.1] at ih'
      refine ⟨ih'.1, ?_⟩
      rw [ih'.2, hs.2]
    · have hs := World.step_other dflt w u op t hut hp.1 hp.2
      have ih' := ih (w.step dflt u op).1 hrest
      have hf : decide (u = t) = false := by simp [hut]
      simp only [own, List.filter_cons, hf] at ih' ⊢
      rw [hs] at ih'
      exact ih'

/-- **Gate.** Array operands / negative contents are accepted exactly when the value the current
    context reads is true; a context in which nothing was set reads the environment default. -/
theorem C19_gate (dflt : Bool) (c : Ctx) :
    (c.step dflt .arith).2 = .accepted (c.read dflt) ∧ (({} : Ctx).read dflt) = dflt := by
  simp [Ctx.step, Ctx.read]

/-- a fresh thread sees the default, a fresh task sees its creator's value at creation -/
theorem C19_spawn (dflt : Bool) (w : World) (p child : Nat) :
    ((w.step dflt p (.spawnThread child)).1 child).read dflt = dflt ∧
    ((w.step dflt p (.spawnTask child)).1 child).read dflt = (w p).read dflt := by
  simp [World.step, World.set, Ctx.step, Ctx.read]

/-! Non-vacuity: a nested body with an inner block left by an exception is `Balanced`. -/
example : Balanced [.set true, .enter false, .read, .enter true, .arith, .exit, .exit, .read] :=
  .set true (.block false (body := [.read, .enter true, .arith, .exit])
    (.read (.block true (body := [.arith]) (.arith .nil) .nil)) (.read .nil))

example : (({ val := some true } : Ctx).run false
    [.enter false, .read, .enter true, .set false, .exit, .read, .exit, .read]).2
    = [.none, .value false, .none, .none, .none, .value false, .none, .value true] := by
  decide

end Physt
