import Physt.Proofs.History1D
import Physt.Proofs.AdaptiveHistory
/-!
# C18 (continued) — every history of public operations keeps a histogram well-formed

`Theorems/C18.lean` has the per-operation lemmas.  `Proofs/History1D.lean` defines the operation
language `Op1` (fill, fill_n, `+=`, `-=`, `*=`, `/=`, normalize, merge_bins by amount and by
min_frequency, slice, index array, mask, set_dtype, copy), `step` (one call: a new state or a
refusal), `kept` (what the caller holds after a refusal: exactly what the driver — and physt —
leave behind, i.e. the dtype may already be promoted, and an adaptive `fill_n` may already have
grown its bins) and `run` (a history in which refused calls are caught and the object is used
further).  The premises `OpOK` are the property's own: non-negative weights, well-formed operands,
free arithmetics off (the guarded `-=` and `*=`).  Every binning kind is covered, adaptive growth
included, for every `FloatOps` instance and every search fuel.
-/
namespace Physt
open Grid H1

/-- **Well-formed after any history**: shapes of contents, squared errors and bins match, no squared
    error and no content is negative — whatever calls were made, accepted or refused. -/
theorem C18_history (fo : FloatOps) (fuel : Nat) (h : H1) (ops : List Op1) (w : WF fo h)
    (ok : ∀ op ∈ ops, OpOK fo op) : WF fo (run fo fuel h ops) :=
  wf_history' fo fuel h ops w ok

/-- the same in plain words -/
theorem C18_no_negative_content (fo : FloatOps) (fuel : Nat) (h : H1) (ops : List Op1) (w : WF fo h)
    (ok : ∀ op ∈ ops, OpOK fo op) :
    (∀ x ∈ (run fo fuel h ops).freq, 0 ≤ x) ∧ (∀ x ∈ (run fo fuel h ops).err2, 0 ≤ x) ∧
    (run fo fuel h ops).freq.length = ((run fo fuel h ops).bins fo).length ∧
    (run fo fuel h ops).err2.length = ((run fo fuel h ops).bins fo).length :=
  let r := wf_history' fo fuel h ops w ok
  ⟨r.fpos, r.epos, r.flen, r.elen⟩

/-- **A refused call changes nothing**: contents, squared errors, the three missed slots, bins,
    `keep_missed` and statistics are what they were; the dtype is what it was or a *lossless*
    promotion of it.  (All operations; `fill_n` on an adaptive histogram: next theorem.) -/
theorem C18_refused (fo : FloatOps) (fuel : Nat) (h : H1) (op : Op1) (e : String)
    (hs : step fo fuel h op = .error e)
    (hna : ∀ vs ws wk, op = .fillN vs ws wk → h.binning.isAdaptive = false) :
    SameRecord (next fo fuel h op) h ∧ DTypeKept (next fo fuel h op) h := by
  rw [next_of_error fo fuel h op e hs]
  rcases kept_cases fo fuel h op e with ⟨vs, ws, wk, rfl⟩ | ⟨d, hd⟩
  · rw [kept, adapt_other fo fuel h _ false (hna vs ws wk rfl)]
    have := same_coerce h h.dtype
    rwa [coerce_self] at this
  · rw [hd]; exact same_coerce h d

/-- A refused `fill_n` on an *adaptive* histogram has already grown the bins (physt adapts before it
    checks the weights): missed slots, statistics, dtype are untouched and the arrays are the old ones
    moved by the reshape instruction of the growth … -/
theorem C18_refused_fill_n_adaptive (fo : FloatOps) (fuel : Nat) (h : H1) (vs : List (Option Rat))
    (ws : Option (List Rat)) (wk : DType) (e : String) (hs : step fo fuel h (.fillN vs ws wk) = .error e) :
    next fo fuel h (.fillN vs ws wk) = h.adapt fo fuel (vs.filterMap id) false ∧
    (next fo fuel h (.fillN vs ws wk)).under = h.under ∧ (next fo fuel h (.fillN vs ws wk)).over = h.over ∧
    (next fo fuel h (.fillN vs ws wk)).inner = h.inner ∧ (next fo fuel h (.fillN vs ws wk)).keep = h.keep ∧
    (next fo fuel h (.fillN vs ws wk)).stats = h.stats ∧ (next fo fuel h (.fillN vs ws wk)).dtype = h.dtype ∧
    ∃ n r, (next fo fuel h (.fillN vs ws wk)).freq = reshape1 h.freq n r ∧
           (next fo fuel h (.fillN vs ws wk)).err2 = reshape1 h.err2 n r := by
  rw [next_of_error fo fuel h _ e hs]
  exact ⟨rfl, adapt_fields fo fuel h _ false⟩

/-- … and **every recorded content stays on its interval**: for a well-formed adaptive grid histogram
    (strictly increasing edges, every value of the batch within reach of the search) the refused
    call leaves a grid on the same `w`, `shift` that contains the old range, and the arrays are the
    old ones padded with zeros — `a` new cells on the left, the rest on the right.  No content per
    bin interval changes, which is what the property asks of a call that raises. -/
theorem C18_refused_fill_n_adaptive_intervals (fo : FloatOps) (fuel : Nat) (h : H1) (g : Grid) (st : GridState h g)
    (hpos : 0 < g.count) (hm : EdgeMono fo g.w g.shift) (vs : List (Option Rat)) (ws : Option (List Rat)) (wk : DType)
    (e : String) (hs : step fo fuel h (.fillN vs ws wk) = .error e)
    (hreach : ∀ v ∈ vs.filterMap id, Reach fo g.w g.shift fuel v) :
    ∃ g' : Grid, (next fo fuel h (.fillN vs ws wk)).binning = .fixed g' ∧ g'.w = g.w ∧ g'.shift = g.shift ∧
      g'.tmin ≤ g.tmin ∧ g.tmin + g.count ≤ g'.tmin + g'.count ∧
      (next fo fuel h (.fillN vs ws wk)).freq
        = List.replicate (g.tmin - g'.tmin).toNat 0 ++ h.freq ++
          List.replicate (g'.count - (g.tmin - g'.tmin).toNat - g.count) 0 ∧
      (next fo fuel h (.fillN vs ws wk)).err2
        = List.replicate (g.tmin - g'.tmin).toNat 0 ++ h.err2 ++
          List.replicate (g'.count - (g.tmin - g'.tmin).toNat - g.count) 0 := by
  rw [next_of_error fo fuel h _ e hs, kept]
  obtain ⟨_, _, _, hok, hull⟩ := forceMany_spec fo fuel g st.align st.ire hm (vs.filterMap id) hreach
  rw [adapt_fixed fo fuel h g st.binning st.adaptive]
  have rf := (reshape1_of_ok hok h.freq st.flen).2 hpos
  have re := (reshape1_of_ok hok h.err2 st.elen).2 hpos
  exact ⟨_, rfl, hull.w, hull.shift, hull.keepLo hpos, hull.keepHi hpos, rf, re⟩

/-- **Subtracting more than is there is refused** (same bins, free arithmetics off). -/
theorem C18_sub_larger_refused (fo : FloatOps) (h o : H1) (hs : h.sameBins fo o = true) (i : Nat)
    (hi : i < h.freq.length) (hi' : i < o.freq.length) (hlt : h.freq[i] < o.freq[i]) :
    ∃ e, h.isub fo o = .error e :=
  Except.error_of_not_ok fun r hr => by
    obtain ⟨o0, h0, aS, aO, e1, e2, e3, e4, _, hn, rfl⟩ := isub_parts fo h o r hr
    obtain ⟨_, rfl⟩ := (imul_iff o o0 0 .pyInt).mp e1
    obtain ⟨_, rfl⟩ := (imul_iff h h0 0 .pyInt).mp e2
    have := any_lt_false hn _ (by
      rw [(iadd_same_ok fo _ (o.scaled 0 _) aS hs e3).2.1, (iadd_same_ok fo (h.scaled 0 _) _ aO hs e4).2.1]
      exact sub_mem h.freq o.freq i hi hi')
    linarith

end Physt
