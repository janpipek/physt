import Physt.Proofs.MergeMarginal
import Physt.Theorems.C10_Runs
/-!
# C10 (continued) — `merge_bins(min_frequency=…)` on all axes: every axis is grouped by the marginal
# of the ORIGINAL histogram

`HistogramND.merge_bins(axis=None, min_frequency=t)` merges the axes one after the other, and
computes the bin map of axis `k` from the marginal along `k` of the histogram *as it is after the
axes before `k` were merged*.  `Theorems/C10_Runs.lean` (`C10_all_axes`) therefore only says that
*some* step-chain map was used on every axis.  Here: merging one axis does not change the marginal
along any other axis, so the map used on axis `k` **is** `minFreqMap t` of the marginal of the
original histogram along `k`; the result, its acceptance and the threshold guarantee can all be
read off the original histogram.

Vocabulary:
* `a.marginal n k` — the array `a` (with `n` axes) summed over all axes but `k`, highest axis first:
  literally the expression in `HN.mergeAxis`;
* `h.minFreqMapOf t k = minFreqMap t (h.freq.marginal h.axes.length k).data`;
* `a.mergeAxesUpTo maps i` — `a` merged along the axes `0 … i-1`, axis `k` with the map `maps k`;
* `h.axisMap k amount thr` — the map of axis `k` for either way of calling `merge_bins`, computed
  on `h` (`Proofs/MergeRuns.lean`).
-/
namespace Physt
open H1

/-! ## arrays -/

/-- **Merging another axis does not change the marginal.**  `a` has `n` axes, `j ≠ k`, the bin map
    has one entry per old bin of axis `j` and every entry is below `newN`: the marginal along `k`
    of the array merged along `j` is the marginal along `k` of `a`.  (`a` need not be well-shaped;
    `k` need not even be an axis — then both sides are the grand total.) -/
theorem C10_marginal_other_axis (a : Arr) (n j k : Nat) (map : List Nat) (newN : Nat)
    (hn : a.shape.length = n) (hj : j < n) (hjk : j ≠ k)
    (hl : map.length = a.shape[j]?.getD 0) (hm : ∀ m ∈ map, m < newN) :
    (a.mergeAxis j map newN).marginal n k = a.marginal n k :=
  Arr.marginal_mergeAxis' a n j k map newN hn hj hjk hl hm

/-- the reason: **merging an axis and then summing over it is summing over it** (full equality of
    the arrays over the remaining axes) -/
theorem C10_sum_merged_axis (a : Arr) (axis : Nat) (map : List Nat) (newN : Nat)
    (hax : axis < a.shape.length) (hl : map.length = a.shape[axis]?.getD 0) (hm : ∀ m ∈ map, m < newN) :
    (a.mergeAxis axis map newN).sumAxis axis = a.sumAxis axis :=
  Arr.sumAxis_mergeAxis_self a axis map newN hax hl hm

/-- **The marginal along the merged axis itself is the merged marginal** (any bin map, any `newN`):
    projecting onto axis `k` and merging commute … -/
theorem C10_marginal_same_axis (a : Arr) (n k : Nat) (map : List Nat) (newN : Nat)
    (hn : a.shape.length = n) (hk : k < n) :
    (a.mergeAxis k map newN).marginal n k = (a.marginal n k).mergeAxis 0 map newN :=
  Arr.marginal_mergeAxis_self a n k map newN hn hk

/-- … and on a 1-D array the N-d merge is the 1-D one (`mergeVals`: new entry `j` is the sum of run `j`). -/
theorem C10_merge_axis0_1d (b : Arr) (s : Nat) (map : List Nat) (newN : Nat)
    (hs : b.shape = [s]) (hd : b.data.length = s) (hl : map.length = s) :
    (b.mergeAxis 0 map newN).data = mergeVals b.data map newN := by
  -- a 1-tuple within the shape ravels to its index
  have hget : ∀ k < s, b.get [k] = b.data[k]?.getD 0 := fun k hk => by
    simp only [Arr.get, hs, validIdx, ravel, prodL, decide_eq_true hk, Bool.and_self, if_true, mul_one, add_zero]
  unfold Arr.mergeAxis Arr.gather Arr.ofFn mergeVals
  simp only [hs, Arr.setAt, List.set_cons_zero, allIdx_singleton, List.map_map, Function.comp_def,
    List.getElem?_cons_zero, Option.getD_some]
  apply List.map_congr_left
  intro j _
  rw [zip_filter_eq_range b.data map (by omega) j]
  apply congrArg List.sum
  apply List.map_congr_left
  intro k hk
  exact hget k (by have := List.mem_range.mp (List.mem_filter.mp hk).1; omega)

/-! ## the whole histogram -/

/-- **`merge_bins(axis=None)`, either way of calling it, when accepted**: on every axis `k` the bin
    map that was used is the one computed on the *original* histogram (`h.axisMap k`: the `amount`
    map of the original number of bins, or `minFreqMap` of the original marginal along `k`).  The
    axis had at least one bin, no run of that map has a gap inside, the new bins are `mergedByMap`
    of the old ones with the old right-edge flag, and contents / squared errors are the original
    arrays merged along axis 0, 1, … with these maps. -/
theorem C10_all_axes_original (fo : FloatOps) (h r : HN) (amount : Option Nat) (thr : Option Rat)
    (hfs : h.freq.shape = h.shape fo) (hes : h.err2.shape = h.shape fo)
    (hfw : h.freq.WellShaped) (hew : h.err2.WellShaped)
    (hr : h.mergeAll fo amount thr = .ok r) :
    (∀ (k : Nat) (bn : Binning), h.axes[k]? = some bn →
      0 < (bn.bins fo).length ∧ MapRunsMeet (bn.bins fo) (h.axisMap k amount thr) ∧
      r.axes[k]? = some (.static (mergedByMap (bn.bins fo) (h.axisMap k amount thr)) bn.ire)) ∧
    r.freq = h.freq.mergeAxesUpTo (fun k => h.axisMap k amount thr) h.axes.length ∧
    r.err2 = h.err2.mergeAxesUpTo (fun k => h.axisMap k amount thr) h.axes.length := by
  have inv := HN.mergeAll_marginal_spec fo h r amount thr hfs hes hfw hew hr
  exact ⟨fun k bn hbn => inv.maps k bn (List.getElem?_eq_some_iff.mp hbn).1 hbn, inv.freq, inv.err2⟩

/-- **What `merge_bins(min_frequency=t)` on all axes returns.**  `h` has arrays of the shape of its
    binnings; the call is accepted with result `r`.  Then for every axis `k`, with
    `m = minFreqMap t (marginal of the ORIGINAL h along k)`:
    * `m` has one entry per bin of the axis, the axis has a bin, no run of `m` has a gap inside;
    * the new bins of axis `k` are `mergedByMap bins m` (new bin `j` spans run `j`), same right-edge flag;
    * the marginal of the *result* along `k` is the 1-D merge of the original marginal: its entry `j`
      is the sum of run `j` of the original marginal.
    Contents and squared errors are the original arrays merged along every axis with these maps;
    totals, missed, names, dtype, keep are unchanged. -/
theorem C10_minfreq_all_axes (fo : FloatOps) (h r : HN) (t : Rat)
    (hfs : h.freq.shape = h.shape fo) (hes : h.err2.shape = h.shape fo)
    (hfw : h.freq.WellShaped) (hew : h.err2.WellShaped)
    (hr : h.mergeAll fo none (some t) = .ok r) :
    r.axes.length = h.axes.length ∧
    (∀ (k : Nat) (bn : Binning), h.axes[k]? = some bn →
      (h.minFreqMapOf t k).length = (bn.bins fo).length ∧ 0 < (bn.bins fo).length ∧
      MapRunsMeet (bn.bins fo) (h.minFreqMapOf t k) ∧
      r.axes[k]? = some (.static (mergedByMap (bn.bins fo) (h.minFreqMapOf t k)) bn.ire) ∧
      (r.freq.marginal h.axes.length k).data
        = mergeVals (h.freq.marginal h.axes.length k).data (h.minFreqMapOf t k) (newCount (h.minFreqMapOf t k))) ∧
    r.freq = h.freq.mergeAxesUpTo (h.minFreqMapOf t) h.axes.length ∧
    r.err2 = h.err2.mergeAxesUpTo (h.minFreqMapOf t) h.axes.length ∧
    r.freq.total = h.freq.total ∧ r.err2.total = h.err2.total ∧
    r.missed = h.missed ∧ r.names = h.names ∧ r.dtype = h.dtype ∧ r.keep = h.keep := by
  have inv := HN.mergeAll_marginal_spec fo h r none (some t) hfs hes hfw hew hr
  refine ⟨inv.base.len, fun k bn hbn => ?_, inv.freq, inv.err2, inv.base.ftot, inv.base.etot, inv.base.missed,
    inv.base.names, inv.base.dtype, inv.base.keep⟩
  have hk : k < h.axes.length := (List.getElem?_eq_some_iff.mp hbn).1
  obtain ⟨h1, h2, h3⟩ := inv.maps k bn hk hbn
  obtain ⟨⟨hl, _, _⟩, _⟩ := HN.axisMap_stepChain fo h k bn none (some t) (Or.inr ⟨rfl, t, rfl⟩) hbn hfs hfw
  have hn : h.freq.shape.length = h.axes.length := by rw [hfs]; simp [HN.shape]
  refine ⟨hl, h1, h2, h3, ?_⟩
  rw [inv.margDone k hk]
  exact C10_merge_axis0_1d _ _ _ _ (Arr.marginal_shape h.freq _ k hn hk) (marginal_length h.freq hfw _ k hn hk)
    (by rw [hfs, HN.shape_getElem? fo h k bn hbn]; exact hl)

/-- **The grouping of every axis is characterised on the original marginal** (`C10_minfreq_characterised`):
    a map `m` is the one used on axis `k` iff it has one entry per entry of the original marginal,
    starts at 0, climbs in steps of 0 or 1, and its runs of the original marginal have the three
    threshold properties. -/
theorem C10_minfreq_axis_characterised (h : HN) (t : Rat) (k : Nat) (m : List Nat) :
    m = h.minFreqMapOf t k ↔
      m.length = (h.freq.marginal h.axes.length k).data.length ∧ StepChain 0 m ∧ (∀ x, m.head? = some x → x = 0) ∧
      (∀ j, j + 1 < newCount m →
        t < (runOf ((h.freq.marginal h.axes.length k).data.zip m) j).sum ∨
        (0 < (runOf ((h.freq.marginal h.axes.length k).data.zip m) j).sum ∧
          ∃ g, (runOf ((h.freq.marginal h.axes.length k).data.zip m) (j + 1)).head? = some g ∧ t ≤ g)) ∧
      (∀ j p q, runOf ((h.freq.marginal h.axes.length k).data.zip m) j = p ++ q → p ≠ [] → q ≠ [] → p.sum ≤ t) ∧
      (∀ j p g q, runOf ((h.freq.marginal h.axes.length k).data.zip m) j = p ++ g :: q → t ≤ g → p.sum ≤ 0) :=
  C10_minfreq_characterised t _ m

/-- **The threshold guarantee, read on the result.**  After an accepted all-axes
    `merge_bins(min_frequency=t)`, on every axis `k`: the marginal content `S` of every new bin `j`
    but the last **of the returned histogram** exceeds `t`, or it is positive and the next new bin
    starts with an old bin whose original marginal content alone reaches `t`. -/
theorem C10_minfreq_result_guarantee (fo : FloatOps) (h r : HN) (t : Rat)
    (hfs : h.freq.shape = h.shape fo) (hes : h.err2.shape = h.shape fo)
    (hfw : h.freq.WellShaped) (hew : h.err2.WellShaped)
    (hr : h.mergeAll fo none (some t) = .ok r) (k : Nat) (hk : k < h.axes.length)
    (j : Nat) (hj : j + 1 < newCount (h.minFreqMapOf t k)) :
    ∃ S, (r.freq.marginal h.axes.length k).data[j]? = some S ∧
      (t < S ∨ (0 < S ∧ ∃ g,
        (runOf ((h.freq.marginal h.axes.length k).data.zip (h.minFreqMapOf t k)) (j + 1)).head? = some g ∧ t ≤ g)) := by
  obtain ⟨_, _, _, _, hm⟩ := (C10_minfreq_all_axes fo h r t hfs hes hfw hew hr).2.1 k h.axes[k]
    (List.getElem?_eq_getElem hk)
  refine ⟨_, ?_, (C10_minfreq_guarantee t (h.freq.marginal h.axes.length k).data).1 j hj⟩
  rw [hm]
  exact C10_run_content _ _ _ j (by omega)

/-- **Acceptance is decided on the original histogram**: `merge_bins(min_frequency=t)` on all axes
    is accepted iff every axis has a bin and, on every axis, no run of the `min_frequency` map *of
    the original marginal* has a gap inside.  (Otherwise nothing is returned: all-or-nothing.) -/
theorem C10_minfreq_all_axes_iff (fo : FloatOps) (h : HN) (t : Rat)
    (hfs : h.freq.shape = h.shape fo) (hes : h.err2.shape = h.shape fo)
    (hfw : h.freq.WellShaped) (hew : h.err2.WellShaped) :
    (∃ r, h.mergeAll fo none (some t) = .ok r) ↔
      ∀ (k : Nat) (bn : Binning), h.axes[k]? = some bn →
        0 < (bn.bins fo).length ∧ MapRunsMeet (bn.bins fo) (h.minFreqMapOf t k) :=
  HN.mergeAll_ok_iff fo h none (some t) (Or.inr ⟨rfl, t, rfl⟩) hfs hes hfw hew

/-- the same for either way of calling it (a positive `amount`, or a `min_frequency`) -/
theorem C10_all_axes_iff (fo : FloatOps) (h : HN) (amount : Option Nat) (thr : Option Rat)
    (hm : MergeMode amount thr)
    (hfs : h.freq.shape = h.shape fo) (hes : h.err2.shape = h.shape fo)
    (hfw : h.freq.WellShaped) (hew : h.err2.WellShaped) :
    (∃ r, h.mergeAll fo amount thr = .ok r) ↔
      ∀ (k : Nat) (bn : Binning), h.axes[k]? = some bn →
        0 < (bn.bins fo).length ∧ MapRunsMeet (bn.bins fo) (h.axisMap k amount thr) :=
  HN.mergeAll_ok_iff fo h amount thr hm hfs hes hfw hew

/-! ## Non-vacuity -/

namespace C10MarginalExamples
open C10RunsExamples

/-- a 2 × 3 × 2 array -/
def a232 : Arr := { shape := [2, 3, 2], data := [1, 2, 3, 4, 5, 6, 7, 8, 9, 10, 11, 12] }

/-- its three marginals -/
example : (a232.marginal 3 0).data = [21, 57] ∧ (a232.marginal 3 1).data = [18, 26, 34] ∧
    (a232.marginal 3 2).data = [36, 42] ∧ (a232.marginal 3 1).shape = [3] := by decide +kernel

/-- `C10_marginal_other_axis`: merging the middle axis by `[0, 0, 1]` leaves the marginals along
    axes 0 and 2 alone (the arrays differ: shape `[2, 2, 2]` against `[2, 3, 2]`) … -/
example : (a232.mergeAxis 1 [0, 0, 1] 2).marginal 3 0 = a232.marginal 3 0 ∧
    (a232.mergeAxis 1 [0, 0, 1] 2).marginal 3 2 = a232.marginal 3 2 :=
  ⟨C10_marginal_other_axis a232 3 1 0 _ 2 rfl (by decide) (by decide) rfl (by decide),
   C10_marginal_other_axis a232 3 1 2 _ 2 rfl (by decide) (by decide) rfl (by decide)⟩

example : (a232.mergeAxis 1 [0, 0, 1] 2).data = [4, 6, 5, 6, 16, 18, 11, 12] := by decide +kernel

/-- … and `C10_marginal_same_axis`, `C10_merge_axis0_1d`, `C10_sum_merged_axis` on the same merge -/
example : (a232.mergeAxis 1 [0, 0, 1] 2).marginal 3 1 = (a232.marginal 3 1).mergeAxis 0 [0, 0, 1] 2 ∧
    ((a232.marginal 3 1).mergeAxis 0 [0, 0, 1] 2).data = mergeVals (a232.marginal 3 1).data [0, 0, 1] 2 ∧
    (a232.mergeAxis 1 [0, 0, 1] 2).sumAxis 1 = a232.sumAxis 1 :=
  ⟨C10_marginal_same_axis a232 3 1 _ 2 rfl (by decide),
   C10_merge_axis0_1d (a232.marginal 3 1) 3 _ 2 (by decide +kernel) (by decide +kernel) rfl,
   C10_sum_merged_axis a232 1 _ 2 (by decide) rfl (by decide)⟩

/-- the hypothesis "every map entry is below `newN`" is needed: with `newN = 1` the old bin sent
    to new bin 1 is lost and the other marginals change -/
example : (a232.mergeAxis 1 [0, 0, 1] 1).marginal 3 0 ≠ a232.marginal 3 0 := by decide +kernel

/-- a 2 × 3 × 2 histogram; the middle axis has a gap between its old bins 1 and 2 -/
def h3 : HN :=
  { axes := [.static [(0, 1), (1, 2)] true, .static [(0, 1), (1, 3), (4, 5)] false, .static [(0, 2), (2, 3)] true],
    freq := a232, err2 := a232, missed := some 2, names := ["x", "y", "z"] }

/-- the maps computed on the original marginals, threshold 30 -/
example : h3.minFreqMapOf 30 0 = [0, 1] ∧ h3.minFreqMapOf 30 1 = [0, 0, 1] ∧ h3.minFreqMapOf 30 2 = [0, 1] := by
  decide +kernel

def r3 : HN := match h3.mergeAll FloatOps.exact none (some 30) with
  | .ok r => r
  | .error _ => default

theorem h3_ws : h3.freq.WellShaped ∧ h3.err2.WellShaped := by decide +kernel

theorem r3_ok : h3.mergeAll FloatOps.exact none (some 30) = .ok r3 := by
  have hs : (h3.mergeAll FloatOps.exact none (some 30)).toOption.isSome = true := by decide +kernel
  rw [r3]
  generalize h3.mergeAll FloatOps.exact none (some 30) = x at hs ⊢
  cases x with
  | ok r => rfl
  | error e => cases hs

/-- **`C10_minfreq_all_axes` instantiated** on `h3` (threshold 30): the middle axis is grouped by
    the original column sums `[18, 26, 34]` into `{0, 1}, {2}` … -/
example : r3.axes[1]? = some (.static (mergedByMap [(0, 1), (1, 3), (4, 5)] (h3.minFreqMapOf 30 1)) false) ∧
    (r3.freq.marginal 3 1).data = mergeVals (h3.freq.marginal 3 1).data (h3.minFreqMapOf 30 1)
      (newCount (h3.minFreqMapOf 30 1)) ∧
    r3.freq = h3.freq.mergeAxesUpTo (h3.minFreqMapOf 30) 3 ∧ r3.missed = some 2 := by
  obtain ⟨_, hax, hf, _, _, _, hm, _⟩ := C10_minfreq_all_axes FloatOps.exact h3 r3 30 rfl rfl h3_ws.1 h3_ws.2 r3_ok
  obtain ⟨_, _, _, h4, h5⟩ := hax 1 _ rfl
  exact ⟨h4, h5, hf, hm⟩

/-- … and this is the result: bins, contents, the marginal of the result along the middle axis -/
example : r3.axes.map (·.bins FloatOps.exact) = [[(0, 1), (1, 2)], [(0, 3), (4, 5)], [(0, 2), (2, 3)]] ∧
    r3.freq.shape = [2, 2, 2] ∧ r3.freq.data = [4, 6, 5, 6, 16, 18, 11, 12] ∧
    (r3.freq.marginal 3 1).data = [44, 34] := by decide +kernel

/-- `C10_minfreq_result_guarantee` on the middle axis: new bin 0 of the result has marginal content
    `44 > 30` -/
example : ∃ S, (r3.freq.marginal 3 1).data[0]? = some S ∧
    (30 < S ∨ (0 < S ∧ ∃ g,
      (runOf ((h3.freq.marginal 3 1).data.zip (h3.minFreqMapOf 30 1)) 1).head? = some g ∧ 30 ≤ g)) :=
  C10_minfreq_result_guarantee FloatOps.exact h3 r3 30 rfl rfl h3_ws.1 h3_ws.2 r3_ok 1
    (by decide) 0 (by decide +kernel)

/-- `C10_minfreq_all_axes_iff`: accepted with threshold 30 … -/
example : ∀ (k : Nat) (bn : Binning), h3.axes[k]? = some bn →
    0 < (bn.bins FloatOps.exact).length ∧ MapRunsMeet (bn.bins FloatOps.exact) (h3.minFreqMapOf 30 k) :=
  (C10_minfreq_all_axes_iff FloatOps.exact h3 30 rfl rfl h3_ws.1 h3_ws.2).mp ⟨r3, r3_ok⟩

/-- … and refused with threshold 50: the original column sums `[18, 26, 34]` then form one run
    `{0, 1, 2}`, which crosses the gap of the middle axis (decided on the original histogram,
    although axis 0 is merged first) -/
example : ¬ ∃ r, h3.mergeAll FloatOps.exact none (some 50) = .ok r := by
  rw [C10_minfreq_all_axes_iff FloatOps.exact h3 50 rfl rfl h3_ws.1 h3_ws.2]
  intro hall
  have hm := (hall 1 _ rfl).2
  have := hm 1 (1, 3) (4, 5) 0 (by decide +kernel) (by decide +kernel) (by decide +kernel) (by decide +kernel)
  revert this
  decide +kernel

example : (h3.mergeAll FloatOps.exact none (some 50)).toOption = none := by decide +kernel

/-- `C10_all_axes_original` in the `amount` form on the 5 × 3 histogram of `C10_Runs` -/
example : ∀ r, hn.mergeAll FloatOps.exact (some 2) none = .ok r →
    r.freq = hn.freq.mergeAxesUpTo (fun k => hn.axisMap k (some 2) none) 2 := by
  intro r hr
  exact (C10_all_axes_original FloatOps.exact hn r (some 2) none rfl rfl hn_ws.1 hn_ws.2 hr).2.1

end C10MarginalExamples

end Physt
