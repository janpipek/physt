import Physt.Theorems.C14_Std
import Mathlib.Tactic.FieldSimp
/-!
# C14 (continued) — the recorded moments lie where the raw data lie

`C14_moments` says what `mean()` and `variance()` ARE; a user who reads
`h.statistics` also relies on where they lie: the mean of data entered with non-negative weights is
between the recorded minimum and maximum, and the variance is at most the squared range.  Both are
statements for every data set, and both need the non-negative weights that `C14_variance_nonneg`
needs (weights 3 and −1 on the values 1 and 0 give the "mean" 3/2, outside [0, 1]:
`C14_mean_outside_negative_weights`).
-/
namespace Physt
open H1 Stats

/-- `Σ v·w` lies between `lo·Σw` and `hi·Σw` when every value lies in `[lo, hi]` and no weight is negative -/
theorem sumWV_bounds (d : List Pt) (lo hi : Rat) (hv : ∀ p ∈ d, lo ≤ p.1 ∧ p.1 ≤ hi) (hp : ∀ p ∈ d, 0 ≤ p.2) :
    lo * wsum d ≤ sumWV d ∧ sumWV d ≤ hi * wsum d := by
  rw [wsum, ← List.sum_map_mul_left, ← List.sum_map_mul_left]
  exact ⟨List.sum_le_sum fun p hpm => mul_le_mul_of_nonneg_right (hv p hpm).1 (hp p hpm),
    List.sum_le_sum fun p hpm => mul_le_mul_of_nonneg_right (hv p hpm).2 (hp p hpm)⟩

theorem rawStats_range (d : List Pt) (hne : d ≠ []) (hw : 0 < wsum d) (hp : ∀ p ∈ d, 0 ≤ p.2) :
    ∃ lo hi, (rawStats d).min = some lo ∧ (rawStats d).max = some hi ∧ lo ∈ d.map (·.1) ∧ hi ∈ d.map (·.1) ∧
      (∀ p ∈ d, lo ≤ p.1 ∧ p.1 ≤ hi) ∧ lo ≤ sumWV d / wsum d ∧ sumWV d / wsum d ≤ hi := by
  obtain ⟨lo, hi, hlo, hhi, hlom, hhim, hle⟩ := listMin_listMax_spec (d.map (·.1)) (mt List.map_eq_nil_iff.mp hne)
  have hv : ∀ p ∈ d, lo ≤ p.1 ∧ p.1 ≤ hi := fun p hpm => hle p.1 (List.mem_map_of_mem hpm)
  have hb := sumWV_bounds _ lo hi hv hp
  rw [rawStats_eq]
  exact ⟨lo, hi, hlo, hhi, hlom, hhim, hv, (le_div_iff₀ hw).2 hb.1, (div_le_iff₀ hw).2 hb.2⟩

/-- **The mean lies between the recorded minimum and maximum** (non-negative weights, positive
    total weight): `statistics.min ≤ statistics.mean() ≤ statistics.max`, and both extremes are
    values that were entered. -/
theorem C14_mean_between (d : List Pt) (hne : d ≠ []) (hw : 0 < wsum d) (hp : ∀ p ∈ d, 0 ≤ p.2) :
    ∃ lo hi μ, (rawStats d).min = some lo ∧ (rawStats d).max = some hi ∧ (rawStats d).mean = some μ ∧
      lo ∈ d.map (·.1) ∧ hi ∈ d.map (·.1) ∧ lo ≤ μ ∧ μ ≤ hi := by
  obtain ⟨lo, hi, hmin, hmax, hlom, hhim, _, hlo, hhi⟩ := rawStats_range d hne hw hp
  exact ⟨lo, hi, _, hmin, hmax, (C14_moments d hne hw).1, hlom, hhim, hlo, hhi⟩

/-- **The variance is at most the squared range of the recorded extremes** (non-negative weights) —
    a recorded variance larger than `(max − min)²` cannot come from the data entered. -/
theorem C14_variance_le_range (d : List Pt) (hne : d ≠ []) (hw : 0 < wsum d) (hp : ∀ p ∈ d, 0 ≤ p.2) :
    ∃ lo hi v, (rawStats d).min = some lo ∧ (rawStats d).max = some hi ∧ (rawStats d).variance = some v ∧
      0 ≤ v ∧ v ≤ (hi - lo) ^ 2 := by
  obtain ⟨lo, hi, hmin, hmax, _, _, hv, hlo, hhi⟩ := rawStats_range d hne hw hp
  refine ⟨lo, hi, _, hmin, hmax, (C14_moments d hne hw).2, div_nonneg (sum_sq_dev_nonneg d _ hp) hw.le, ?_⟩
  rw [div_le_iff₀ hw]
  -- every summand is at most w·(hi − lo)²
  refine (List.sum_le_sum fun p hpm => ?_).trans_eq (List.sum_map_mul_left d (·.2) _)
  have h := abs_le.1 (abs_sub_le_of_le_of_le (hv p hpm).1 (hv p hpm).2 hlo hhi)
  rw [mul_comm]
  exact mul_le_mul_of_nonneg_right (sq_le_sq' h.1 h.2) (hp p hpm)

/-- without non-negative weights the mean can leave the range of the data: weights 3 and −1 on the
    values 1 and 0: total weight 2, "mean" 3/2 > max = 1 -/
theorem C14_mean_outside_negative_weights :
    (rawStats [(1, 3), (0, -1)]).mean = some (3 / 2) ∧ (rawStats [(1, 3), (0, -1)]).max = some 1 := by
  decide +kernel

/-! Non-vacuity: 1, 2, 3, 6 with weights 1, 1, 2, 0 — min 1, max 6, mean 9/4, variance 11/16 ≤ 25. -/
example : (rawStats [(1, 1), (2, 1), (3, 2), (6, 0)]).min = some 1 ∧ (rawStats [(1, 1), (2, 1), (3, 2), (6, 0)]).max = some 6 ∧
    (rawStats [(1, 1), (2, 1), (3, 2), (6, 0)]).mean = some (9 / 4) ∧
    (rawStats [(1, 1), (2, 1), (3, 2), (6, 0)]).variance = some (11 / 16) := by
  decide +kernel

theorem wmean_between {p q : Rat} (hp : 0 < p) (hq : 0 < q) (x y : Rat) :
    min x y ≤ (p * x + q * y) / (p + q) ∧ (p * x + q * y) / (p + q) ≤ max x y := by
  rw [le_div_iff₀' (add_pos hp hq), div_le_iff₀' (add_pos hp hq), add_mul, add_mul]
  exact ⟨add_le_add (mul_le_mul_of_nonneg_left (min_le_left x y) hp.le)
      (mul_le_mul_of_nonneg_left (min_le_right x y) hq.le),
    add_le_add (mul_le_mul_of_nonneg_left (le_max_left x y) hp.le)
      (mul_le_mul_of_nonneg_left (le_max_right x y) hq.le)⟩

/-- mean and variance recorded by `h(A) + h(B)`, in the sums of `A` and of `B` -/
theorem pooled_moments (a b : List Pt) (hwa : 0 < wsum a) (hwb : 0 < wsum b) :
    ((rawStats a).add (rawStats b)).mean = some ((sumWV a + sumWV b) / (wsum a + wsum b)) ∧
    ((rawStats a).add (rawStats b)).variance =
      some ((sumWV2 a + sumWV2 b - (sumWV a + sumWV b) * (sumWV a + sumWV b) / (wsum a + wsum b)) /
        (wsum a + wsum b)) := by
  have hw : 0 < wsum (a ++ b) := by
    rw [wsum_append]
    exact add_pos hwa hwb
  have m := rawStats_mean (a ++ b) hw.ne'
  have v := rawStats_variance (a ++ b) hw
  rw [← C14_hom, sumWV_append, wsum_append] at m v
  rw [sumWV2_append] at v
  exact ⟨m, v⟩

/-- **The mean of a sum of histograms is the pooled mean**: the statistics of `h(A) + h(B)` (or of two
    `fill_n` chunks) report the weight-average `(W_A·μ_A + W_B·μ_B) / (W_A + W_B)` of the two means,
    which lies between them. -/
theorem C14_pooled_mean (a b : List Pt) (ha : a ≠ []) (hb : b ≠ []) (hwa : 0 < wsum a) (hwb : 0 < wsum b) :
    ∃ μa μb μ, (rawStats a).mean = some μa ∧ (rawStats b).mean = some μb ∧
      ((rawStats a).add (rawStats b)).mean = some μ ∧
      μ = (wsum a * μa + wsum b * μb) / (wsum a + wsum b) ∧ min μa μb ≤ μ ∧ μ ≤ max μa μb := by
  have m := (pooled_moments a b hwa hwb).1
  rw [← mul_div_cancel₀ (sumWV a) hwa.ne', ← mul_div_cancel₀ (sumWV b) hwb.ne'] at m
  exact ⟨_, _, _, (C14_moments a ha hwa).1, (C14_moments b hb hwb).1, m, rfl, wmean_between hwa hwb _ _⟩

/-! Non-vacuity: A = {1, 3} (weights 1, 1), B = {6} (weight 2): means 2 and 6, pooled mean 4. -/
example : ((rawStats [(1, 1), (3, 1)]).add (rawStats [(6, 2)])).mean = some 4 := by decide +kernel

theorem sum_eq_zero_iff_of_nonneg {α} (l : List α) (f : α → Rat) (h : ∀ x ∈ l, 0 ≤ f x) :
    (l.map f).sum = 0 ↔ ∀ x ∈ l, f x = 0 :=
  ⟨fun e _ hx => List.all_zero_of_le_zero_le_of_sum_eq_zero (List.forall_mem_map.2 h) e (List.mem_map_of_mem hx),
    fun h0 => List.sum_eq_zero (List.forall_mem_map.2 h0)⟩

/-- **The variance is zero exactly when all the weight sits on one value** (non-negative weights):
    every entry has weight 0 or the value `mean()`. -/
theorem C14_variance_zero_iff (d : List Pt) (hne : d ≠ []) (hw : 0 < wsum d) (hp : ∀ p ∈ d, 0 ≤ p.2) :
    (rawStats d).variance = some 0 ↔ ∀ p ∈ d, p.2 = 0 ∨ p.1 = sumWV d / wsum d := by
  rw [(C14_moments d hne hw).2]
  have hw' := ne_of_gt hw
  rw [Option.some.injEq, div_eq_zero_iff, or_iff_left hw',
    sum_eq_zero_iff_of_nonneg d _ fun p hpm => mul_nonneg (hp p hpm) (sq_nonneg _)]
  refine forall₂_congr fun p _ => ?_
  rw [mul_eq_zero, sq_eq_zero_iff, sub_eq_zero]

example : (rawStats [(2, 1), (2, 3), (7, 0)]).variance = some 0 := by decide +kernel

/-- variance in the "sum of squares" form the implementation computes -/
theorem C14_variance_raw (d : List Pt) (hne : d ≠ []) (hw : 0 < wsum d) :
    (rawStats d).variance = some ((sumWV2 d - sumWV d * sumWV d / wsum d) / wsum d) :=
  rawStats_variance d hw

/-- **Law of total variance for a sum of histograms**: the variance reported by `h(A) + h(B)` is the
    weight-average of the two variances plus the weight-average of the squared distances of the two
    means from the pooled mean. -/
theorem C14_pooled_variance (a b : List Pt) (ha : a ≠ []) (hb : b ≠ []) (hwa : 0 < wsum a) (hwb : 0 < wsum b) :
    ∃ μa μb μ va vb v, (rawStats a).mean = some μa ∧ (rawStats b).mean = some μb ∧
      ((rawStats a).add (rawStats b)).mean = some μ ∧
      (rawStats a).variance = some va ∧ (rawStats b).variance = some vb ∧
      ((rawStats a).add (rawStats b)).variance = some v ∧
      v = (wsum a * (va + (μa - μ) ^ 2) + wsum b * (vb + (μb - μ) ^ 2)) / (wsum a + wsum b) := by
  obtain ⟨m, v⟩ := pooled_moments a b hwa hwb
  refine ⟨_, _, _, _, _, _, (C14_moments a ha hwa).1, (C14_moments b hb hwb).1, m, C14_variance_raw a ha hwa,
    C14_variance_raw b hb hwb, v, ?_⟩
  have hwa' := hwa.ne'
  have hwb' := hwb.ne'
  have hsum := (add_pos hwa hwb).ne'
  field_simp
  ring

example : ((rawStats [(1, 1), (3, 1)]).add (rawStats [(6, 2)])).variance = some (9 / 2) := by decide +kernel

end Physt
