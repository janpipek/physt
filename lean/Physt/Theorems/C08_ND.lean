import Physt.Theorems.C08
import Physt.Model.JsonND
/-!
# C08 (continued) — round trip of N-d histograms and of collections
-/
namespace Physt

theorem map_binning_roundtrip (fo : FloatOps) (axes : List Binning) :
    (axes.map fun b => ((b.toDict fo).toBinning).toDict fo) = axes.map (Binning.toDict fo) := by
  simp only [binning_dict_roundtrip]

/-- **Round trip, N dimensions.** Reading back what was written reproduces the bins of every axis
    (type and parameters), the shape, contents, squared errors, dtype, missed, `keep_missed` and
    the axis names. -/
theorem C08_nd_roundtrip (fo : FloatOps) (h : HN) : HN.fromDict (h.toDict fo) = h.canon fo := by
  unfold HN.fromDict HN.toDict HN.canon
  simp [List.map_map, Function.comp_def]

/-- the bins of every axis survive bit for bit -/
theorem C08_nd_bins (fo : FloatOps) (h : HN) :
    (HN.fromDict (h.toDict fo)).axes.map (·.bins fo) = h.axes.map (·.bins fo) := by
  unfold HN.fromDict HN.toDict
  simp only [List.map_map]
  apply List.map_congr_left
  intro b _
  cases b <;> rfl

/-- **Stability, N dimensions**: serialising the parsed object again gives the same document
    (the document carries one shape for both arrays). -/
theorem C08_nd_stable (fo : FloatOps) (h : HN) :
    (HN.fromDict (h.toDict fo)).toDict fo = h.toDict fo := by
  unfold HN.toDict HN.fromDict
  simp [List.map_map, Function.comp_def, binning_dict_roundtrip]

/-- **Round trip of a collection**: name, title, the shared binning and every member. -/
theorem C08_coll_roundtrip (fo : FloatOps) (c : Coll) : Coll.fromDict (c.toDict fo) = c.canon fo := by
  unfold Coll.fromDict Coll.toDict Coll.canon
  simp only [List.map_map]
  have : c.members.map (H1.fromDict ∘ H1.toDict fo) = c.members.map (H1.canon fo) :=
    List.map_congr_left fun m _ => C08_roundtrip fo m
  rw [this]

def exampleGrid : Grid := { w := 1 / 2, tmin := 3, count := 2 }
def exampleHN : HN :=
  { axes := [.static [(0, 1), (1, 2)] true, .fixed exampleGrid],
    freq := { shape := [2, 2], data := [1, 2, 3, 4] }, err2 := { shape := [2, 2], data := [1, 2, 3, 4] },
    missed := some 2, names := ["x", "y"] }
example : HN.fromDict (exampleHN.toDict FloatOps.exact) = exampleHN.canon FloatOps.exact ∧
    (HN.fromDict (exampleHN.toDict FloatOps.exact)).freq.data = [1, 2, 3, 4] ∧
    (HN.fromDict (exampleHN.toDict FloatOps.exact)).missed = some 2 :=
  ⟨C08_nd_roundtrip _ _, rfl, rfl⟩

end Physt
