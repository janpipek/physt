import Physt.Proofs.ArrayLaws
import Mathlib.Tactic.Linarith
/-!
# C11 (continued) — per-axis integer and slice selection of N-d arrays
-/
namespace Physt

/-- **An integer index drops its axis** and reads the entries with that index inserted. -/
theorem C11_select_int (a : Arr) (axis i : Nat) (idx : List Nat) (hax : axis < a.shape.length)
    (hv : validIdx (Arr.removeAt a.shape axis) idx = true) :
    (a.selectInt axis i).shape = Arr.removeAt a.shape axis ∧
    (a.selectInt axis i).get idx = a.get (idx.take axis ++ [i] ++ idx.drop axis) :=
  ⟨Arr.shape_selectInt a axis i, Arr.get_selectInt a axis i idx hax⟩

/-- **A slice keeps the axis** with length `hi − lo` and reads the entries shifted by `lo`; the
    other axes are untouched. -/
theorem C11_select_slice (a : Arr) (axis lo hi : Nat) (idx : List Nat)
    (hv : validIdx (Arr.setAt a.shape axis (hi - lo)) idx = true) :
    (a.selectSlice axis lo hi).shape = Arr.setAt a.shape axis (hi - lo) ∧
    (a.selectSlice axis lo hi).get idx = a.get (Arr.setAt idx axis (lo + idx[axis]?.getD 0)) :=
  ⟨Arr.shape_selectSlice a axis lo hi, Arr.get_selectSlice a axis lo hi idx hv⟩

/-- slicing an axis and then summing it gives the partial sums over the slice -/
theorem C11_slice_sum (a : Arr) (axis lo hi : Nat) (js : List Nat) (hax : axis < a.shape.length)
    (hv : validIdx (Arr.removeAt a.shape axis) js = true) :
    ((a.selectSlice axis lo hi).sumAxis axis).get js
      = ((List.range (hi - lo)).map fun k => a.get (insAt js axis (lo + k))).sum := by
  rw [Arr.get_sumAxis_insAt _ axis js (by simpa using hax)]
  have hN : (a.selectSlice axis lo hi).shape[axis]?.getD 0 = hi - lo := by simp [hax]
  rw [hN]
  apply congrArg List.sum
  apply List.map_congr_left
  intro k hk
  exact Arr.get_selectSlice_insAt a axis lo hi k js hax (List.mem_range.mp hk)

/-- **`h[..., i, ...]` on a histogram**: an integer index (negative counted from the end) inside the
    range drops the axis with its bins and its name, and contents / squared errors are those selected
    entries; an index outside `[-n, n)` is refused. -/
theorem C11_nd_int (h : HN) (axis : Nat) (i : Int) :
    let n : Int := ((h.freq.shape[axis]?.getD 0 : Nat) : Int)
    let k : Int := if i < 0 then i + n else i
    (0 ≤ k ∧ k < n → h.selectInt axis i = .ok
        { h with axes := h.axes.eraseIdx axis, names := h.names.eraseIdx axis,
                 freq := h.freq.selectInt axis k.toNat, err2 := h.err2.selectInt axis k.toNat,
                 missed := some 0, keep := true }) ∧
    (¬ (0 ≤ k ∧ k < n) → ∃ e, h.selectInt axis i = .error e) := by
  intro n k
  unfold HN.selectInt
  simp only [bind, Except.bind, pure, Except.pure, throw, throwThe, MonadExceptOf.throw]
  constructor
  · intro hk
    exact if_neg (show ¬ (k < 0 ∨ k ≥ n) by omega)
  · intro hk
    exact ⟨_, if_pos (show k < 0 ∨ k ≥ n by omega)⟩

/-- **`h[..., a:b, ...]` on a histogram**: the bins of the sliced axis are the list slice of its bins
    (Python bounds), the other axes, the names, missed and dtype are untouched, contents and squared
    errors are the sliced arrays. -/
theorem C11_nd_slice (fo : FloatOps) (h : HN) (axis : Nat) (start stop : Option Int) (bn : Binning)
    (hbn : h.axes[axis]? = some bn) :
    let n := h.freq.shape[axis]?.getD 0
    let a := (H1.sliceBounds n start stop).1
    let b := if (H1.sliceBounds n start stop).2 < a then a else (H1.sliceBounds n start stop).2
    (h.selectSlice fo axis start stop).axes = h.axes.set axis (.static (pySlice (bn.bins fo) a b) bn.ire) ∧
    (h.selectSlice fo axis start stop).names = h.names ∧
    (h.selectSlice fo axis start stop).missed = h.missed ∧
    (h.selectSlice fo axis start stop).dtype = h.dtype ∧
    (h.selectSlice fo axis start stop).freq = h.freq.selectSlice axis a b ∧
    (h.selectSlice fo axis start stop).err2 = h.err2.selectSlice axis a b := by
  intro n a b
  unfold HN.selectSlice
  simp only [hbn]
  refine ⟨?_, ?_, ?_, ?_, ?_, ?_⟩ <;> trivial

example : ((({ shape := [2, 3], data := [1, 2, 3, 4, 5, 6] } : Arr).selectInt 0 1).data = [4, 5, 6]) ∧
    ((({ shape := [2, 3], data := [1, 2, 3, 4, 5, 6] } : Arr).selectSlice 1 1 3).data = [2, 3, 5, 6]) := by decide +kernel

end Physt
