import Physt.Proofs.ScaleND
/-!
# C06 (continued) — scaling and normalising N-d histograms, partial_normalize, normalize_bins

Helper lemmas: `Proofs/ScaleND.lean`.  Index-wise statements hold for every index tuple (a read
outside the array is 0 and every scaling fixes 0), so no shape hypotheses are needed for them.
-/
namespace Physt

/-- **`h * c` in N dimensions**: every content and the missed count × c, every squared error × c²;
    bins, names, `keep_missed` untouched; totals scale likewise. -/
theorem C06_nd_mul (h r : HN) (c : Rat) (k : H1.NumKind) (hr : h.imul c k = .ok r) :
    r.freq = h.freq.map (· * c) ∧ r.err2 = h.err2.map (· * (c * c)) ∧ r.missed = nscale h.missed c ∧
    r.axes = h.axes ∧ r.keep = h.keep ∧ r.names = h.names ∧ r.dtype = h.dtype.promote k.dtype ∧
    r.freq.shape = h.freq.shape ∧ r.err2.shape = h.err2.shape ∧
    (∀ idx, r.freq.get idx = h.freq.get idx * c) ∧
    (∀ idx, r.err2.get idx = h.err2.get idx * (c * c)) ∧
    r.freq.total = h.freq.total * c ∧ r.err2.total = h.err2.total * (c * c) := by
  obtain ⟨_, rfl⟩ := (HN.imul_iff h r c k).mp hr
  exact ⟨rfl, rfl, rfl, rfl, rfl, rfl, rfl, rfl, rfl, Arr.get_map _ _ (zero_mul _), Arr.get_map _ _ (zero_mul _),
    Arr.total_map_mul _ _, Arr.total_map_mul _ _⟩

/-- **`h / c` in N dimensions** -/
theorem C06_nd_div (h r : HN) (c : Rat) (hr : h.idiv c = .ok r) :
    c ≠ 0 ∧ r.freq = h.freq.map (· / c) ∧ r.err2 = h.err2.map (· / (c * c)) ∧
    r.missed = nscale h.missed (1 / c) ∧
    r.axes = h.axes ∧ r.keep = h.keep ∧ r.names = h.names ∧ r.dtype = h.dtype.promote DType.f64 ∧
    r.freq.shape = h.freq.shape ∧ r.err2.shape = h.err2.shape ∧
    (∀ idx, r.freq.get idx = h.freq.get idx / c) ∧
    (∀ idx, r.err2.get idx = h.err2.get idx / (c * c)) ∧
    r.freq.total = h.freq.total / c ∧ r.err2.total = h.err2.total / (c * c) := by
  obtain ⟨hc, _, rfl⟩ := (HN.idiv_iff h r c).mp hr
  rw [HN.scaled, mul_one_div_sq_eq, mul_one_div_eq]
  exact ⟨hc, rfl, rfl, rfl, rfl, rfl, rfl, rfl, rfl, rfl, Arr.get_map _ _ (zero_div _), Arr.get_map _ _ (zero_div _),
    Arr.total_map_div _ _, Arr.total_map_div _ _⟩

/-- `(h * c) / c = h` -/
theorem C06_nd_mul_div (h m r : HN) (c : Rat) (k : H1.NumKind) (hc : c ≠ 0) (hm : h.imul c k = .ok m)
    (hr : m.idiv c = .ok r) :
    r.freq = h.freq ∧ r.err2 = h.err2 ∧ r.missed = h.missed ∧ r.axes = h.axes ∧ r.keep = h.keep ∧
    r.names = h.names := by
  obtain ⟨f1, e1, m1, a1, k1, n1, _⟩ := C06_nd_mul h m c k hm
  obtain ⟨_, f2, e2, m2, a2, k2, n2, _⟩ := C06_nd_div m r c hr
  refine ⟨?_, ?_, ?_, by rw [a2, a1], by rw [k2, k1], by rw [n2, n1]⟩
  · rw [f2, f1, Arr.map_map]
    exact Arr.map_id' _ _ fun x => mul_div_cancel_right₀ x hc
  · rw [e2, e1, Arr.map_map]
    exact Arr.map_id' _ _ fun x => mul_div_cancel_right₀ x (mul_ne_zero hc hc)
  · rw [m2, m1]; exact nscale_nscale _ _ hc

/-- **Refusals, and only these**: division by zero; a factor / divisor that makes some content negative. -/
theorem C06_nd_refuse (h : HN) (c : Rat) (k : H1.NumKind) :
    (∃ e, h.idiv 0 = .error e) ∧
    (∀ idx, h.freq.get idx * c < 0 → ∃ e, h.imul c k = .error e) ∧
    (∀ idx, h.freq.get idx / c < 0 → ∃ e, h.idiv c = .error e) ∧
    (((h.freq.map (· * c)).data.any (· < 0)) = false → ∃ r, h.imul c k = .ok r) ∧
    (c ≠ 0 → ((h.freq.map (· / c)).data.any (· < 0)) = false → ∃ r, h.idiv c = .ok r) := by
  refine ⟨?_, ?_, ?_, ?_, ?_⟩
  · exact Except.error_of_not_ok fun r hr => ((HN.idiv_iff h r 0).mp hr).1 rfl
  · intro idx hneg
    have : ((h.freq.map (· * c)).data.any (· < 0)) = true :=
      Arr.any_neg_of_get _ idx (by rw [Arr.get_map _ _ (by simp) idx]; exact hneg)
    exact ⟨_, if_pos this⟩
  · intro idx hneg
    have : ((h.freq.map (· / c)).data.any (· < 0)) = true :=
      Arr.any_neg_of_get _ idx (by rw [Arr.get_map _ _ (by simp) idx]; exact hneg)
    by_cases hc : c = 0
    · exact ⟨_, if_pos hc⟩
    · exact ⟨_, (if_neg hc).trans (if_pos this)⟩
  · intro hok
    exact ⟨_, (HN.imul_iff h _ c k).mpr ⟨hok, rfl⟩⟩
  · intro hc hok
    exact ⟨_, (HN.idiv_iff h _ c).mpr ⟨hc, by rwa [mul_one_div_eq], rfl⟩⟩

/-- **`normalize()` in N dimensions**: total 1 (100), every content keeps its share; a zero total is refused. -/
theorem C06_nd_normalize (h r : HN) (percent : Bool) (hr : h.normalize false percent = .ok r) :
    h.freq.total ≠ 0 ∧
    r.freq.total = (if percent then 100 else 1) ∧
    (∀ idx, r.freq.get idx * h.freq.total = h.freq.get idx * (if percent then 100 else 1)) ∧
    (∀ idx, r.freq.get idx = h.freq.get idx / h.freq.total * (if percent then 100 else 1)) ∧
    (∀ idx, r.err2.get idx = h.err2.get idx / (h.freq.total * h.freq.total)
        * ((if percent then 100 else 1) * (if percent then 100 else 1))) ∧
    r.axes = h.axes ∧ r.keep = h.keep ∧ r.names = h.names ∧ r.freq.shape = h.freq.shape := by
  obtain ⟨d, hd, hr⟩ := (HN.normalize_false_iff h r percent).mp hr
  · obtain ⟨hne, _, _, _, a1, k1, n1, _, s1, _, g1, ge1, t1, _⟩ := C06_nd_div h d h.total hd
    obtain ⟨_, _, _, a2, k2, n2, _, s2, _, g2, ge2, t2, _⟩ := C06_nd_mul d r _ _ hr
    have hne' : h.freq.total ≠ 0 := hne
    have hT : h.total = h.freq.total := rfl
    rw [hT] at g1 ge1 t1
    have hget : ∀ idx, r.freq.get idx = h.freq.get idx / h.freq.total * (if percent then 100 else 1) := by
      intro idx
      rw [g2 idx, g1 idx]
    refine ⟨hne', ?_, ?_, hget, ?_, by rw [a2, a1], by rw [k2, k1], by rw [n2, n1], by rw [s2, s1]⟩
    · rw [t2, t1, div_self hne', one_mul]
    · intro idx
      rw [hget idx, div_mul_eq_mul_div, div_mul_cancel₀ _ hne']
    · intro idx
      rw [ge2 idx, ge1 idx]

theorem C06_nd_normalize_zero (h : HN) (p : Bool) (hz : h.freq.total = 0) : ∃ e, h.normalize false p = .error e :=
  Except.error_of_not_ok fun r hr => by
    obtain ⟨d, hd, _⟩ := (HN.normalize_false_iff h r p).mp hr
    exact ((HN.idiv_iff h d _).mp hd).1 hz

/-- **`partial_normalize(axis=0)`** (numpy sense: the sum runs over the first index): every column
    with a non-zero sum sums to 1, contents are `old / s_j`, squared errors `old / s_j²`; an
    all-zero-sum column is left alone. -/
theorem C06_partial_axis0 (h : HN) (n m j : Nat) (hs : h.freq.shape = [n, m]) (hj : j < m) :
    (h.freq.colSum n j ≠ 0 →
      (h.partialNormalize 0).freq.colSum n j = 1 ∧
      ∀ i, i < n →
        (h.partialNormalize 0).freq.get [i, j] = h.freq.get [i, j] / h.freq.colSum n j ∧
        (h.partialNormalize 0).err2.get [i, j]
          = h.err2.get [i, j] / (h.freq.colSum n j * h.freq.colSum n j)) ∧
    (h.freq.colSum n j = 0 →
      ∀ i, i < n → (h.partialNormalize 0).freq.get [i, j] = h.freq.get [i, j] ∧
        (h.partialNormalize 0).err2.get [i, j] = h.err2.get [i, j]) := by
  have := HN.partialNormalize_line h 0 n m hs (fun i => [i, j]) j n (h.freq.colSum n j) (fun _ => rfl)
    (Arr.get_sumAxis0 h.freq n m j hs) rfl
  exact ⟨fun hne => ⟨(this.1 hne).1, fun i _ => (this.1 hne).2 i⟩, fun hz i _ => this.2 hz i⟩

/-- **`partial_normalize(axis=1)`**: every row with a non-zero sum sums to 1. -/
theorem C06_partial_axis1 (h : HN) (n m i : Nat) (hs : h.freq.shape = [n, m]) (hi : i < n) :
    (h.freq.rowSum m i ≠ 0 →
      (h.partialNormalize 1).freq.rowSum m i = 1 ∧
      ∀ j, j < m →
        (h.partialNormalize 1).freq.get [i, j] = h.freq.get [i, j] / h.freq.rowSum m i ∧
        (h.partialNormalize 1).err2.get [i, j]
          = h.err2.get [i, j] / (h.freq.rowSum m i * h.freq.rowSum m i)) ∧
    (h.freq.rowSum m i = 0 →
      ∀ j, j < m → (h.partialNormalize 1).freq.get [i, j] = h.freq.get [i, j] ∧
        (h.partialNormalize 1).err2.get [i, j] = h.err2.get [i, j]) := by
  have := HN.partialNormalize_line h 1 n m hs (fun j => [i, j]) i m (h.freq.rowSum m i) (fun _ => rfl)
    (Arr.get_sumAxis1 h.freq n m i hs) rfl
  exact ⟨fun hne => ⟨(this.1 hne).1, fun j _ => (this.1 hne).2 j⟩, fun hz j _ => this.2 hz j⟩

/-- `partial_normalize` leaves bins, names, missed, `keep_missed` and the shapes alone; dtype → float -/
theorem C06_partial_frame (h : HN) (axis n m : Nat) (hs : h.freq.shape = [n, m]) :
    (h.partialNormalize axis).axes = h.axes ∧ (h.partialNormalize axis).names = h.names ∧
    (h.partialNormalize axis).missed = h.missed ∧ (h.partialNormalize axis).keep = h.keep ∧
    (h.partialNormalize axis).dtype = h.dtype.promote .f64 ∧
    (h.partialNormalize axis).freq.shape = h.freq.shape ∧
    (h.partialNormalize axis).err2.shape = h.err2.shape ∧
    (h.partialNormalize axis).freq.WellShaped ∧ (h.partialNormalize axis).err2.WellShaped := by
  rw [HN.partialNormalize_eq h axis n m hs]
  exact ⟨rfl, rfl, rfl, rfl, rfl, rfl, rfl, Arr.wellShaped_ofFn _ _, Arr.wellShaped_ofFn _ _⟩

/-- **`HistogramCollection.normalize_bins`**: in every bin whose members' sum is not zero the shares
    sum to 1, each member's content is `old / sum`, its squared error `old / sum²`; member count,
    bins, missed slots and statistics are untouched; every member becomes float. -/
theorem C06_normalize_bins (hs : List H1) (n : Nat)
    (hf : ∀ m ∈ hs, m.freq.length = n) (he : ∀ m ∈ hs, m.err2.length = n) :
    (H1.normalizeBins hs).length = hs.length ∧
    (∀ (k : Nat) (m : H1), hs[k]? = some m → ∃ m' : H1, (H1.normalizeBins hs)[k]? = some m' ∧
        m'.binning = m.binning ∧ m'.under = m.under ∧ m'.over = m.over ∧ m'.inner = m.inner ∧
        m'.keep = m.keep ∧ m'.stats = m.stats ∧ m'.dtype = DType.f64 ∧
        m'.freq.length = n ∧ m'.err2.length = n ∧
        ∀ i : Nat, i < n → (H1.binSums hs)[i]?.getD 0 ≠ 0 →
          m'.freq[i]?.getD 0 = m.freq[i]?.getD 0 / (H1.binSums hs)[i]?.getD 0 ∧
          m'.err2[i]?.getD 0
            = m.err2[i]?.getD 0 / ((H1.binSums hs)[i]?.getD 0 * (H1.binSums hs)[i]?.getD 0)) ∧
    (∀ i : Nat, i < n → (H1.binSums hs)[i]?.getD 0 = (hs.map fun m => m.freq[i]?.getD 0).sum) ∧
    (∀ i : Nat, i < n → (H1.binSums hs)[i]?.getD 0 ≠ 0 →
        ((H1.normalizeBins hs).map fun m => m.freq[i]?.getD 0).sum = 1) := by
  refine ⟨H1.normalizeBins_length hs, ?_, fun i _ => H1.binSums_getD hs n hf i,
    fun i _ hne => H1.normalizeBins_sum_one hs i hne⟩
  intro k m hk
  have hm : m ∈ hs := List.mem_of_getElem? hk
  have hne : hs ≠ [] := by intro e; rw [e] at hm; cases hm
  obtain ⟨a, b, c1, c2, c3, c4, c5, c6, c7⟩ := H1.divBins_spec (H1.binSums hs) m
  obtain ⟨l1, l2⟩ := H1.divBins_length hs n hne hf he m hm
  exact ⟨H1.divBins (H1.binSums hs) m, by rw [H1.normalizeBins_getElem?, hk]; rfl,
    c1, c2, c3, c4, c5, c6, c7, l1, l2, fun i _ _ => ⟨a i, b i⟩⟩

/-! Non-vacuity -/
example : (H1.normalizeBins [{ binning := .static [(0, 1), (1, 2)] true, freq := [1, 2], err2 := [1, 2] },
    { binning := .static [(0, 1), (1, 2)] true, freq := [3, 2], err2 := [3, 2] }]).map (·.freq) = [[1 / 4, 1 / 2], [3 / 4, 1 / 2]] := by
  decide +kernel

end Physt
