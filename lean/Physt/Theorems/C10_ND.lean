import Physt.Proofs.MergeRuns
/-!
# C10 (continued) — the merged bins' edges; merge_bins on one axis of an N-d histogram

`mergedBins bins amount` (`Proofs/ArrayLaws.lean`) is the list whose bin `j` reaches from the left edge of old bin `j·amount` to the right edge of old bin `min((j+1)·amount, n) − 1`;
`RunsMeet bins amount` says no run has a gap inside (gaps *between* runs are allowed) — exactly
the condition under which the merge is accepted.
-/
namespace Physt

/-- **Each run becomes one bin from its first left edge to its last right edge**, and there are
    `⌈n / amount⌉` of them (the last run may be shorter). -/
theorem C10_merged_edges (bins : Bins) (amount : Nat) (ha : 0 < amount) (hc : RunsMeet bins amount) :
    H1.mergeBinsAux (bins.zip (H1.amountMap bins.length amount)) none = .ok (mergedBins bins amount) ∧
    (mergedBins bins amount).length = (bins.length + amount - 1) / amount ∧
    ∀ j, j < (bins.length + amount - 1) / amount →
      (mergedBins bins amount)[j]? =
        some ((binAt bins (j * amount)).1, (binAt bins (min ((j + 1) * amount) bins.length - 1)).2) :=
  ⟨mergeBinsAux_amount bins amount ha hc, mergedBins_length bins amount, fun j hj => mergedBins_getElem? bins amount j hj⟩

/-- **`merge_bins(amount)` of a 1-D histogram** with at least one bin (a histogram without bins is
    refused: physt takes `max()` of an empty bin map): accepted; new bins as above; contents and squared
    errors are the run sums and keep their totals. -/
theorem C10_merge_1d (fo : FloatOps) (h : H1) (amount : Nat) (ha : 0 < amount) (hpos : 0 < h.freq.length)
    (hlen : h.freq.length = (h.bins fo).length) (hc : RunsMeet (h.bins fo) amount) :
    ∃ r, h.mergeAmount fo amount = .ok r ∧ r.bins fo = mergedBins (h.bins fo) amount ∧
      (r.bins fo).length = (h.freq.length + amount - 1) / amount ∧
      r.freq = H1.mergeVals h.freq (H1.amountMap h.freq.length amount) ((h.freq.length + amount - 1) / amount) ∧
      r.err2 = H1.mergeVals h.err2 (H1.amountMap h.freq.length amount) ((h.freq.length + amount - 1) / amount) ∧
      r.freq.sum = h.freq.sum ∧ (h.err2.length = h.freq.length → r.err2.sum = h.err2.sum) := by
  have hL : (mergedBins (h.bins fo) amount).length = (h.freq.length + amount - 1) / amount := by
    rw [mergedBins_length, hlen]
  have hlm : (H1.amountMap h.freq.length amount).length = h.freq.length := (amountMap_stepChain _ _).1
  have hrun : h.mergeAmount fo amount = h.mergeWithMap fo (H1.amountMap h.freq.length amount) := by
    simp only [H1.mergeAmount, Nat.ne_of_gt ha, if_false, bind, Except.bind]
  rw [H1.mergeWithMap_eq fo h _ (List.ne_nil_of_length_pos (by rw [hlm]; exact hpos)), hlen,
    mergeBinsAux_amount (h.bins fo) amount ha hc, ← hlen] at hrun
  refine ⟨_, hrun, rfl, hL, ?_, ?_, ?_, ?_⟩
  · simp only [hL]
  · simp only [hL]
  · simp only [hL]
    exact C10_conserve _ _ _ (by simp [H1.amountMap]) (amountMap_lt _ _ ha)
  · intro he
    simp only [hL]
    exact C10_conserve _ _ _ (by simp [H1.amountMap, he]) (amountMap_lt _ _ ha)

/-- **`merge_bins(amount, axis)` of an N-d histogram**: the chosen axis gets the merged bins; the
    other axes, their shape entries, the names and the missed count are unchanged; contents and
    squared errors are gathered run by run along that axis and keep their totals. -/
theorem C10_merge_nd (fo : FloatOps) (h : HN) (axis amount : Nat) (thr : Option Rat) (bn : Binning) (ha : 0 < amount)
    (hbn : h.axes[axis]? = some bn) (hpos : 0 < (bn.bins fo).length)
    (hn : h.freq.shape[axis]?.getD 0 = (bn.bins fo).length) (hc : RunsMeet (bn.bins fo) amount) :
    ∃ r ire, h.mergeAxis fo axis (some amount) thr = .ok r ∧
      r.axes = h.axes.set axis (.static (mergedBins (bn.bins fo) amount) ire) ∧
      r.freq = h.freq.mergeAxis axis (H1.amountMap (bn.bins fo).length amount) (((bn.bins fo).length + amount - 1) / amount) ∧
      r.err2 = h.err2.mergeAxis axis (H1.amountMap (bn.bins fo).length amount) (((bn.bins fo).length + amount - 1) / amount) ∧
      r.freq.shape = Arr.setAt h.freq.shape axis (((bn.bins fo).length + amount - 1) / amount) ∧
      r.missed = h.missed ∧ r.names = h.names ∧
      (h.freq.WellShaped → axis < h.freq.shape.length → r.freq.total = h.freq.total) ∧
      (h.err2.WellShaped → h.err2.shape = h.freq.shape → axis < h.freq.shape.length → r.err2.total = h.err2.total) := by
  have hL := mergedBins_length (bn.bins fo) amount
  have hlen : (H1.amountMap (bn.bins fo).length amount).length = (bn.bins fo).length := (amountMap_stepChain _ _).1
  have hmap : h.axisMap axis (some amount) thr = H1.amountMap (bn.bins fo).length amount := by
    simp only [HN.axisMap, hn]
  have hrun := (HN.mergeAxis_eq fo h axis (some amount) thr (Or.inl ⟨amount, rfl, ha⟩)).trans
    ((HN.mergeAxisWithMap_ok_iff fo h _ axis _).mpr ⟨bn, _, List.ne_nil_of_length_pos (by rw [hmap, hlen]; exact hpos),
      hbn, by rw [hmap]; exact mergeBinsAux_amount (bn.bins fo) amount ha hc, rfl⟩)
  rw [hmap, hL] at hrun
  refine ⟨_, _, hrun, rfl, rfl, rfl, rfl, rfl, rfl, ?_, ?_⟩
  · intro hw hax
    exact Arr.total_mergeAxis' _ hw axis _ _ hax (hlen.trans hn.symm) (amountMap_lt _ _ ha)
  · intro hw hs hax
    exact Arr.total_mergeAxis' _ hw axis _ _ (by rw [hs]; exact hax) (by rw [hs]; exact hlen.trans hn.symm)
      (amountMap_lt _ _ ha)

/-- any regrouping along an axis in which every old bin lands in exactly one new bin keeps the total
    (merging by amount or by min_frequency, adaptive growth) -/
theorem C10_regroup_total (a : Arr) (hw : a.WellShaped) (axis newN : Nat) (src : Nat → List Nat)
    (hax : axis < a.shape.length)
    (hsrc : ∀ k, k < a.shape[axis]?.getD 0 → ((List.range newN).flatMap src).count k = 1) :
    (a.gather axis newN src).total = a.total ∧ (a.gather axis newN src).shape = Arr.setAt a.shape axis newN :=
  ⟨Arr.total_gather a hw axis newN src hax hsrc, Arr.shape_gather a axis newN src⟩

/-! Non-vacuity: five bins with a gap between the runs, merged in twos -/
example : RunsMeet [(0, 1), (1, 2), (5 / 2, 3), (3, 4), (4, 5)] 2 ∧
    mergedBins [(0, 1), (1, 2), (5 / 2, 3), (3, 4), (4, 5)] 2 = [(0, 2), (5 / 2, 4), (4, 5)] := by
  constructor
  · intro k hk he
    have hk4 : k < 4 := by simp at hk; omega
    match k, hk4, he with
    | 0, _, _ => decide +kernel
    | 1, _, he => exact absurd he (by decide)
    | 2, _, _ => decide +kernel
    | 3, _, he => exact absurd he (by decide)
  · decide +kernel

end Physt
