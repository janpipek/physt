import Physt.Proofs.ComposeScale
/-!
# C06 (composition) — chains of scalings, commutation with the linear operations, idempotence of `normalize`

In the model `h * c` and `c * h` are the same function (`__rmul__` is `__mul__` in physt), and the in-place
and the copying spellings are the same function on values.  What IS meaningful, and proved here for
histograms of every size and chains of every length (helper lemmas: `Proofs/ComposeScale.lean`):

* (i)   a chain of `*= c` / `/= c` equals ONE scaling by the product of the factors — contents and missed
        slots × p, squared errors × p², statistics sums and weight × p — and the dtype it ends in is the
        initial one promoted with every scalar's (`float64` for a division);
* (ii)  scalings commute with one another (any reordering of a chain), with `+=` over equal bins, with
        `merge_bins` (explicit map / `amount`), with slicing and with `projection`;
* (iii) `normalize` is idempotent.

Every statement has the form "if the calls are accepted then …": the sign refusal (`negative frequencies`,
free arithmetics off) and division by zero are explicit, and `C06_chain_accepted` gives a sufficient
condition for acceptance.  Acceptance itself does NOT commute — see `C06_acceptance_order`.

Reading guide: `ScaleOp.mul c k` is `h *= c` with a scalar of kind `k`, `ScaleOp.div c` is `h /= c`;
`chainFactor ops` is the product of the factors (`c`, resp. `1 / c`); `chainDType d ops` is `d` promoted with
every step's dtype in turn; `ScaledBy h r p` says that `r` is `h` with contents, underflow, overflow and
inner-missed × p, squared errors × p², same bins and `keep_missed` (`ScaledByN` likewise in N dimensions).
-/
namespace Physt
open H1

/-! ## (i) chains -/

/-- **A chain of scalings is one scaling by the product** (1-D).  If `((h op₁) op₂) … opₙ` is accepted then every
    division was by a non-zero number, the result is `h` scaled by the product `p` of the factors, its dtype
    is `h`'s promoted with every step's, and (for a non-empty chain) its statistics are `h`'s scaled by `p`
    and no content is negative. -/
theorem C06_chain (ops : List ScaleOp) (h r : H1) (hr : h.scaleChain ops = .ok r) :
    ScaledBy h r (chainFactor ops) ∧ r.dtype = chainDType h.dtype ops ∧
    (ops ≠ [] → r.stats = h.stats.scale (chainFactor ops) ∧ r.freq.any (· < 0) = false) ∧
    (∀ op ∈ ops, op.defined) := by
  by_cases hne : ops = []
  · subst hne
    cases hr
    exact ⟨ScaledBy.refl h, rfl, fun h => absurd rfl h, fun _ h => nomatch h⟩
  · obtain ⟨rfl, hn, hd⟩ := scaleChain_ok ops hne h r hr
    exact ⟨scaledBy_scaled _ _ _, rfl, fun _ => ⟨rfl, hn⟩, hd⟩

/-- … and the single multiplication by the product is itself accepted and returns the same histogram
    (the dtype aside, which a chain promotes step by step). -/
theorem C06_chain_single (ops : List ScaleOp) (hne : ops ≠ []) (h r : H1) (hr : h.scaleChain ops = .ok r)
    (k : NumKind) :
    ∃ r', h.imul (chainFactor ops) k = .ok r' ∧ r = { r' with dtype := chainDType h.dtype ops } := by
  obtain ⟨rfl, hn, _⟩ := scaleChain_ok ops hne h r hr
  exact ⟨_, (imul_iff h _ _ k).mpr ⟨hn, rfl⟩, rfl⟩

/-- statistics under a chain: recorded weight, `Σ w·x` and `Σ w·x²` are multiplied by the product -/
theorem C06_chain_stats (ops : List ScaleOp) (hne : ops ≠ []) (h r : H1) (hr : h.scaleChain ops = .ok r)
    (hv : h.stats.valid = true) :
    r.stats.weight = h.stats.weight * chainFactor ops ∧ r.stats.sum = h.stats.sum * chainFactor ops ∧
    r.stats.sum2 = h.stats.sum2 * chainFactor ops ∧ r.stats.min = h.stats.min ∧ r.stats.max = h.stats.max := by
  obtain ⟨_, _, st, _⟩ := C06_chain ops h r hr
  rw [(st hne).1]
  simp [Stats.scale, hv]

/-- **A chain whose factors multiply to 1 reproduces `h`** — `(h * c) / c`, `((h * a) * b) / (a * b)`, … : contents,
    squared errors, missed slots and bins come back exactly (the dtype has been promoted on the way). -/
theorem C06_chain_identity (ops : List ScaleOp) (h r : H1) (hr : h.scaleChain ops = .ok r)
    (hp : chainFactor ops = 1) :
    r.freq = h.freq ∧ r.err2 = h.err2 ∧ r.under = h.under ∧ r.over = h.over ∧ r.inner = h.inner ∧
    r.binning = h.binning ∧ r.keep = h.keep :=
  ((C06_chain ops h r hr).1.congr hp).one

/-- **Acceptance.**  A chain of non-negative factors (no division by zero) on non-negative contents is accepted. -/
theorem C06_chain_accepted (ops : List ScaleOp) (h : H1) (hpos : ∀ x ∈ h.freq, 0 ≤ x)
    (hops : ∀ op ∈ ops, op.defined ∧ 0 ≤ op.factor) : ∃ r, h.scaleChain ops = .ok r := by
  induction ops generalizing h with
  | nil => exact ⟨h, rfl⟩
  | cons op ops ih =>
    obtain ⟨⟨hdef, hf⟩, hrest⟩ := List.forall_mem_cons.mp hops
    have hpos' : ∀ y ∈ h.freq.map (· * op.factor), 0 ≤ y := by
      intro y hy
      obtain ⟨x, hx, rfl⟩ := List.mem_map.mp hy
      exact mul_nonneg (hpos x hx) hf
    obtain ⟨r, hr⟩ := ih (h.scaled op.factor (h.dtype.promote op.dtype)) hpos' hrest
    exact ⟨r, (bind_eq_ok _ _ _).mpr
      ⟨_, (scaleOp_iff h _ op).mpr ⟨hdef, (any_neg_eq_false _).mpr hpos', rfl⟩, hr⟩⟩

/-- the dtype a chain ends in does not depend on the order of its steps, and is `h`'s dtype promoted with the
    join of the steps' dtypes (`promote` is commutative, associative and idempotent) -/
theorem C06_chain_dtype (a b : List ScaleOp) (hp : a.Perm b) (d : DType) : chainDType d a = chainDType d b :=
  chainDType_perm hp d

/-! ## (ii) commutation -/

/-- **Scalings commute** (1-D): two accepted chains made of the same steps in any order give the same histogram —
    contents, squared errors, missed slots, dtype, statistics. -/
theorem C06_commute (a b : List ScaleOp) (hp : a.Perm b) (h r₁ r₂ : H1) (h1 : h.scaleChain a = .ok r₁)
    (h2 : h.scaleChain b = .ok r₂) : r₁ = r₂ := by
  by_cases ha : a = []
  · subst ha
    obtain rfl := hp.nil_eq
    exact Except.ok.inj (h1.symm.trans h2)
  · have hb : b ≠ [] := fun hb => ha (hb ▸ hp).eq_nil
    rw [(scaleChain_ok a ha h r₁ h1).1, (scaleChain_ok b hb h r₂ h2).1, chainFactor_perm hp, chainDType_perm hp]

/-- the two-step form: `(h * c) * d = (h * d) * c` -/
theorem C06_commute_two (h m₁ r₁ m₂ r₂ : H1) (c d : Rat) (kc kd : NumKind)
    (h1 : h.imul c kc = .ok m₁) (h2 : m₁.imul d kd = .ok r₁)
    (h3 : h.imul d kd = .ok m₂) (h4 : m₂.imul c kc = .ok r₂) : r₁ = r₂ := by
  exact C06_commute [.mul c kc, .mul d kd] [.mul d kd, .mul c kc] (List.Perm.swap _ _ _) h r₁ r₂
    ((bind_eq_ok _ _ _).mpr ⟨m₁, h1, (bind_eq_ok _ _ _).mpr ⟨r₁, h2, rfl⟩⟩)
    ((bind_eq_ok _ _ _).mpr ⟨m₂, h3, (bind_eq_ok _ _ _).mpr ⟨r₂, h4, rfl⟩⟩)

/-- **Acceptance does not commute.**  `(h * 0) * (-1)` is accepted (every content is 0 after the first step),
    `(h * (-1)) * 0` is refused at its first step: the sign check looks at every intermediate result. -/
theorem C06_acceptance_order :
    let h : H1 := { binning := .static [(0, 1), (1, 2)] true, freq := [2, 3], err2 := [2, 3] }
    (h.scaleChain [.mul 0 .pyInt, .mul (-1) .pyInt]).toOption.map (·.freq) = some [0, 0] ∧
    (h.scaleChain [.mul (-1) .pyInt, .mul 0 .pyInt]).toOption = none := by
  decide +kernel

/-- **`(a + b) * c = a * c + b * c`** over equal bins (1-D): contents, squared errors (× c²), missed slots,
    dtype and statistics of the two sides coincide whenever all the calls are accepted. -/
theorem C06_distrib_add (fo : FloatOps) (a b s r a' b' r' : H1) (c : Rat) (k : NumKind)
    (hs : a.sameBins fo b = true) (h1 : a.iadd fo b = .ok s) (h2 : s.imul c k = .ok r)
    (h3 : a.imul c k = .ok a') (h4 : b.imul c k = .ok b') (h5 : a'.iadd fo b' = .ok r') : r = r' := by
  obtain ⟨_, rfl⟩ := (imul_iff s r c k).mp h2
  obtain ⟨_, rfl⟩ := (imul_iff a a' c k).mp h3
  obtain ⟨_, rfl⟩ := (imul_iff b b' c k).mp h4
  rw [iadd_scaled fo a b s c _ _ hs h1] at h5
  rw [← Except.ok.inj h5, (iadd_same_ok fo a b s hs h1).1, DType.promote_distrib]

/-- **`merge_bins` commutes with scaling** (1-D, explicit bin map). -/
theorem C06_merge_comm (fo : FloatOps) (h m r h' r' : H1) (map : List Nat) (c : Rat) (k : NumKind)
    (h1 : mergeWithMap fo h map = .ok m) (h2 : m.imul c k = .ok r)
    (h3 : h.imul c k = .ok h') (h4 : mergeWithMap fo h' map = .ok r') : r = r' := by
  obtain ⟨_, rfl⟩ := (imul_iff m r c k).mp h2
  obtain ⟨_, rfl⟩ := (imul_iff h h' c k).mp h3
  rw [mergeWithMap_scaled fo h map c (·.promote k.dtype), h1] at h4
  exact Except.ok.inj h4

/-- … in particular `merge_bins(amount=…)`.  (`merge_bins(min_frequency=…)` does NOT commute with scaling: its
    bin map is computed from the contents themselves.) -/
theorem C06_merge_amount_comm (fo : FloatOps) (h m r h' r' : H1) (amount : Nat) (c : Rat) (k : NumKind)
    (h1 : mergeAmount fo h amount = .ok m) (h2 : m.imul c k = .ok r)
    (h3 : h.imul c k = .ok h') (h4 : mergeAmount fo h' amount = .ok r') : r = r' := by
  obtain ⟨_, rfl⟩ := (imul_iff m r c k).mp h2
  obtain ⟨_, rfl⟩ := (imul_iff h h' c k).mp h3
  rw [mergeAmount_scaled fo h amount c (·.promote k.dtype), h1] at h4
  exact Except.ok.inj h4

/-- **Slicing commutes with scaling** (1-D): `h[a:b] * c = (h * c)[a:b]`, including the weight that the slice
    moves into underflow / overflow. -/
theorem C06_slice_comm (fo : FloatOps) (h r h' : H1) (start stop : Option Int) (c : Rat) (k : NumKind)
    (h2 : (getSlice fo h start stop).imul c k = .ok r) (h3 : h.imul c k = .ok h') :
    r = getSlice fo h' start stop := by
  obtain ⟨_, rfl⟩ := (imul_iff _ r c k).mp h2
  obtain ⟨_, rfl⟩ := (imul_iff h h' c k).mp h3
  exact (getSlice_scaled fo h start stop c _).symm

/-! ## (iii) idempotence of `normalize` -/

/-- **`normalize` is idempotent** (1-D; in place or copying, with or without `percent`): normalising an accepted
    normalisation is accepted and changes nothing — contents, squared errors, missed slots, dtype, statistics.
    A zero total is refused by the first call already (`C06_normalize_zero`), so no hypothesis on the total is
    needed here. -/
theorem C06_normalize_idem (h r : H1) (inplace percent : Bool) (hr : h.normalize inplace percent = .ok r) :
    r.normalize inplace percent = .ok r := by
  cases inplace with
  | true =>
    -- the one division leaves the total `1 / k`, so the second call divides by 1
    simp only [H1.normalize, if_true] at hr ⊢
    generalize (if percent = true then centiDouble else 1) = k at hr ⊢
    obtain ⟨hne, hneg, rfl⟩ := (idiv_iff h r _).mp hr
    have htot : h.total * (1 / (h.total * k)) * k = 1 := by rw [mul_right_comm, mul_one_div_cancel hne]
    rw [H1.total_scaled, htot]
    refine (idiv_scaled h _ _ 1 _).mpr ⟨one_ne_zero, ?_, ?_⟩
    · rwa [div_one, mul_one]
    · rw [div_one, mul_one, DType.promote_promote_right]
  | false =>
    -- the total is `m` (1 or 100) after `/ total`, `* m`; the second call divides by `m` and multiplies by `m`
    rw [normalize_false_iff] at hr ⊢
    have hm : (if percent = true then 100 else 1 : Rat) ≠ 0 := by
      cases percent
      · exact one_ne_zero
      · exact OfNat.ofNat_ne_zero 100
    generalize (if percent = true then 100 else 1 : Rat) = m at hr hm ⊢
    obtain ⟨d, hd, hr⟩ := hr
    obtain ⟨hT, hneg, rfl⟩ := (idiv_iff h d _).mp hd
    obtain ⟨hneg', rfl⟩ := (imul_scaled h r _ m _ .pyInt).mp hr
    have htot : h.total * (1 / h.total * m) = m := by rw [← mul_assoc, mul_one_div_cancel hT, one_mul]
    have e1 : 1 / h.total * m * (1 / m) = 1 / h.total := by rw [mul_assoc, mul_one_div_cancel hm, mul_one]
    rw [H1.total_scaled, htot]
    refine ⟨_, (idiv_scaled h _ _ m _).mpr ⟨hm, ?_, rfl⟩,
      (imul_scaled h _ _ m _ .pyInt).mpr ⟨?_, ?_⟩⟩
    · rwa [e1]
    · rwa [e1]
    · rw [e1, DType.promote_right_comm _ _ .f64, DType.promote_promote_right, DType.promote_promote_right]

/-! ## N dimensions -/

/-- **A chain of scalings is one scaling by the product** (N-d, any shape). -/
theorem C06_nd_chain (ops : List ScaleOp) (h r : HN) (hr : h.scaleChain ops = .ok r) :
    ScaledByN h r (chainFactor ops) ∧ r.dtype = chainDType h.dtype ops ∧
    (ops ≠ [] → r.freq.data.any (· < 0) = false) ∧ (∀ op ∈ ops, op.defined) := by
  by_cases hne : ops = []
  · subst hne
    cases hr
    exact ⟨ScaledByN.refl h, rfl, fun h => absurd rfl h, fun _ h => nomatch h⟩
  · obtain ⟨rfl, hn, hd⟩ := HN.scaleChain_ok ops hne h r hr
    exact ⟨scaledByN_scaled _ _ _, rfl, fun _ => hn, hd⟩

theorem C06_nd_chain_single (ops : List ScaleOp) (hne : ops ≠ []) (h r : HN) (hr : h.scaleChain ops = .ok r)
    (k : NumKind) :
    ∃ r', h.imul (chainFactor ops) k = .ok r' ∧ r = { r' with dtype := chainDType h.dtype ops } := by
  obtain ⟨rfl, hn, _⟩ := HN.scaleChain_ok ops hne h r hr
  exact ⟨_, (HN.imul_iff h _ _ k).mpr ⟨hn, rfl⟩, rfl⟩

/-- **Scalings commute** (N-d). -/
theorem C06_nd_commute (a b : List ScaleOp) (hp : a.Perm b) (h r₁ r₂ : HN) (h1 : h.scaleChain a = .ok r₁)
    (h2 : h.scaleChain b = .ok r₂) : r₁ = r₂ := by
  by_cases ha : a = []
  · subst ha
    obtain rfl := hp.nil_eq
    exact Except.ok.inj (h1.symm.trans h2)
  · have hb : b ≠ [] := fun hb => ha (hb ▸ hp).eq_nil
    rw [(HN.scaleChain_ok a ha h r₁ h1).1, (HN.scaleChain_ok b hb h r₂ h2).1, chainFactor_perm hp,
      chainDType_perm hp]

/-- **`(a + b) * c = a * c + b * c`** over equal bins (N-d). -/
theorem C06_nd_distrib_add (fo : FloatOps) (a b s r a' b' r' : HN) (c : Rat) (k : NumKind)
    (hs : a.sameBins fo b = true) (h1 : a.iadd fo b = .ok s) (h2 : s.imul c k = .ok r)
    (h3 : a.imul c k = .ok a') (h4 : b.imul c k = .ok b') (h5 : a'.iadd fo b' = .ok r') : r = r' := by
  obtain ⟨_, rfl⟩ := (HN.imul_iff s r c k).mp h2
  obtain ⟨_, rfl⟩ := (HN.imul_iff a a' c k).mp h3
  obtain ⟨_, rfl⟩ := (HN.imul_iff b b' c k).mp h4
  rw [HN.iadd_scaled fo a b s c _ _ hs h1] at h5
  rw [HN.iadd_same fo a b hs] at h1
  rw [← Except.ok.inj h5, ← Except.ok.inj h1, ← DType.promote_distrib]

/-- **`projection` commutes with scaling**: `projection(h) * c` and `projection(h * c)` have the same bins, names,
    contents, squared errors, missed count; they are the same histogram except for the dtype in ONE situation:
    `int16` contents scaled by a `float16` / `float32` scalar (`C06_nd_projection_dtype`). -/
theorem C06_nd_projection_comm (h p r h' r' : HN) (axes : List (Sum Int String)) (c : Rat) (k : NumKind)
    (h1 : h.projection axes = .ok p) (h2 : p.imul c k = .ok r) (h3 : h.imul c k = .ok h')
    (h4 : h'.projection axes = .ok r') :
    r.axes = r'.axes ∧ r.names = r'.names ∧ r.freq = r'.freq ∧ r.err2 = r'.err2 ∧ r.missed = r'.missed ∧
    r.keep = r'.keep ∧ ((h.dtype = .i16 → k.dtype ≠ .f16 ∧ k.dtype ≠ .f32) → r = r') := by
  obtain ⟨_, rfl⟩ := (HN.imul_iff p r c k).mp h2
  obtain ⟨_, rfl⟩ := (HN.imul_iff h h' c k).mp h3
  obtain ⟨ax, hax, rfl⟩ := HN.projection_eq h p axes h1
  obtain ⟨ax', hax', rfl⟩ := HN.projection_eq _ r' axes h4
  obtain rfl : ax = ax' := Except.ok.inj (hax.symm.trans hax')
  have hz : nscale (some 0) c = some 0 := congrArg some (zero_mul c)
  refine ⟨rfl, rfl, (Arr.sumAxes_map_mul _ _ _).symm, (Arr.sumAxes_map_mul _ _ _).symm, hz, rfl, fun hok => ?_⟩
  simp only [HN.scaled, Arr.sumAxes_map_mul, hz, DType.projection_promote _ _ hok]
  rfl

/-- **`select(axis, slice)` commutes with scaling** (N-d). -/
theorem C06_nd_select_comm (fo : FloatOps) (h r h' : HN) (axis : Nat) (start stop : Option Int) (c : Rat)
    (k : NumKind) (h2 : (h.selectSlice fo axis start stop).imul c k = .ok r) (h3 : h.imul c k = .ok h') :
    r = h'.selectSlice fo axis start stop := by
  obtain ⟨_, rfl⟩ := (HN.imul_iff _ r c k).mp h2
  obtain ⟨_, rfl⟩ := (HN.imul_iff h h' c k).mp h3
  rw [HN.selectSlice_scaled, HN.selectSlice_dtype]

/-- **`merge_bins(axis)` commutes with scaling** (N-d, explicit bin map). -/
theorem C06_nd_merge_comm (fo : FloatOps) (h m r h' r' : HN) (axis : Nat) (map : List Nat) (c : Rat)
    (k : NumKind) (h1 : h.mergeAxisWithMap fo axis map = .ok m) (h2 : m.imul c k = .ok r)
    (h3 : h.imul c k = .ok h') (h4 : h'.mergeAxisWithMap fo axis map = .ok r') : r = r' := by
  obtain ⟨_, rfl⟩ := (HN.imul_iff m r c k).mp h2
  obtain ⟨_, rfl⟩ := (HN.imul_iff h h' c k).mp h3
  rw [HN.mergeAxisWithMap_scaled fo h axis map c (·.promote k.dtype), h1] at h4
  exact Except.ok.inj h4

/-- **`normalize` is idempotent** (N-d). -/
theorem C06_nd_normalize_idem (h r : HN) (inplace percent : Bool) (hr : h.normalize inplace percent = .ok r) :
    r.normalize inplace percent = .ok r := by
  cases inplace with
  | true =>
    simp only [HN.normalize, if_true] at hr ⊢
    generalize (if percent = true then centiDouble else 1) = k at hr ⊢
    obtain ⟨hne, hneg, rfl⟩ := (HN.idiv_iff h r _).mp hr
    have htot : h.total * (1 / (h.total * k)) * k = 1 := by rw [mul_right_comm, mul_one_div_cancel hne]
    rw [HN.total_scaled, htot]
    refine (HN.idiv_scaled h _ _ 1 _).mpr ⟨one_ne_zero, ?_, ?_⟩
    · rwa [div_one, mul_one]
    · rw [div_one, mul_one, DType.promote_promote_right]
  | false =>
    rw [HN.normalize_false_iff] at hr ⊢
    have hm : (if percent = true then 100 else 1 : Rat) ≠ 0 := by
      cases percent
      · exact one_ne_zero
      · exact OfNat.ofNat_ne_zero 100
    generalize (if percent = true then 100 else 1 : Rat) = m at hr hm ⊢
    obtain ⟨d, hd, hr⟩ := hr
    obtain ⟨hT, hneg, rfl⟩ := (HN.idiv_iff h d _).mp hd
    obtain ⟨hneg', rfl⟩ := (HN.imul_scaled h r _ m _ .pyInt).mp hr
    have htot : h.total * (1 / h.total * m) = m := by rw [← mul_assoc, mul_one_div_cancel hT, one_mul]
    have e1 : 1 / h.total * m * (1 / m) = 1 / h.total := by rw [mul_assoc, mul_one_div_cancel hm, mul_one]
    rw [HN.total_scaled, htot]
    refine ⟨_, (HN.idiv_scaled h _ _ m _).mpr ⟨hm, ?_, rfl⟩,
      (HN.imul_scaled h _ _ m _ .pyInt).mpr ⟨?_, ?_⟩⟩
    · rwa [e1]
    · rwa [e1]
    · rw [e1, DType.promote_right_comm _ _ .f64, DType.promote_promote_right, DType.promote_promote_right]

/-! ## Non-vacuity and the limits of the statements -/

namespace CommuteExamples

def h3 : H1 :=
  { binning := .static [(0, 1), (1, 2), (2, 3)] true, freq := [2, 3, 5], err2 := [2, 3, 5], under := some 1,
    over := some 4, dtype := .i32,
    stats := { valid := true, sum := 17, sum2 := 30, min := some (1 / 4), max := some (11 / 4), weight := 10 } }

def chain : List ScaleOp := [.mul 3 .pyInt, .div 2, .mul (1 / 2) .pyFloat, .mul 4 (.np .i16)]

/-- a chain of four steps with product 3: accepted, contents × 3, errors × 9, missed × 3, weight × 3, float64 -/
example : chainFactor chain = 3 ∧ chainDType h3.dtype chain = .f64 ∧
    (h3.scaleChain chain).toOption.map (fun r => (r.freq, r.err2, r.under, r.over, r.dtype, r.stats.weight))
      = some ([6, 9, 15], [18, 27, 45], some 3, some 12, .f64, 30) := by decide +kernel

example : ∃ r, h3.scaleChain chain = .ok r ∧ ScaledBy h3 r 3 := by
  obtain ⟨r, hr⟩ := C06_chain_accepted chain h3 (by decide +kernel) (by
    simp only [chain, List.forall_mem_cons, List.not_mem_nil, false_imp_iff, implies_true, ScaleOp.defined,
      ScaleOp.factor]
    decide +kernel)
  have h := (C06_chain chain h3 r hr).1
  rw [show chainFactor chain = 3 by decide +kernel] at h
  exact ⟨r, hr, h⟩

/-- the same steps in reverse order: the same histogram -/
example : h3.scaleChain chain = h3.scaleChain chain.reverse ∧ (h3.scaleChain chain).toOption.isSome = true := by
  decide +kernel

/-- a chain that ends in an integer dtype: int32 contents, int and int16 scalars -/
example : (h3.scaleChain [.mul 3 .pyInt, .mul 2 (.np .i16)]).toOption.map (fun r => (r.freq, r.dtype))
    = some ([12, 18, 30], .i64) := by decide +kernel

/-- `(a + b) * c = a * c + b * c`, `merge_bins`, slicing on a concrete histogram -/
example :
    ((h3.iadd FloatOps.exact h3).toOption.bind fun s => (s.imul (1 / 2) .pyFloat).toOption)
      = ((h3.imul (1 / 2) .pyFloat).toOption.bind fun a => (a.iadd FloatOps.exact a).toOption) ∧
    ((mergeAmount FloatOps.exact h3 2).toOption.bind fun m => (m.imul 3 .pyInt).toOption)
      = ((h3.imul 3 .pyInt).toOption.bind fun a => (mergeAmount FloatOps.exact a 2).toOption) ∧
    ((getSlice FloatOps.exact h3 (some 1) none).imul 3 .pyInt).toOption
      = (h3.imul 3 .pyInt).toOption.map (fun a => getSlice FloatOps.exact a (some 1) none) ∧
    ((getSlice FloatOps.exact h3 (some 1) none).imul 3 .pyInt).toOption.map (fun r => (r.freq, r.under))
      = some ([9, 15], some 9) := by
  decide +kernel

/-- **`merge_bins(min_frequency=…)` does not commute with scaling**: with threshold 4 the contents `[2, 3, 5]` merge
    into two bins, the contents `[6, 9, 15]` (scaled by 3 first) stay three bins -/
example :
    ((mergeMinFreq FloatOps.exact h3 4).toOption.bind fun m => (m.imul 3 .pyInt).toOption).map (·.freq) = some [15, 15] ∧
    ((h3.imul 3 .pyInt).toOption.bind fun a => (mergeMinFreq FloatOps.exact a 4).toOption).map (·.freq)
      = some [6, 9, 15] := by
  decide +kernel

/-- `((h * 3) * 4) / 12` reproduces `h` (as float64) -/
example : (h3.scaleChain [.mul 3 .pyInt, .mul 4 .pyInt, .div 12]).toOption
    = some { h3 with dtype := .f64 } := by decide +kernel

/-- `normalize` twice = once, all four variants; the totals are 1, 100 and (in place with `percent`)
    the reciprocal of the double nearest to 0.01 -/
example :
    (∀ ip p : Bool, ((h3.normalize ip p).toOption.bind fun r => (r.normalize ip p).toOption)
      = (h3.normalize ip p).toOption ∧ (h3.normalize ip p).toOption.isSome = true) ∧
    (h3.normalize false false).toOption.map (·.total) = some 1 ∧
    (h3.normalize false true).toOption.map (·.total) = some 100 ∧
    (h3.normalize true true).toOption.map (·.total) = some (1 / centiDouble) := by
  decide +kernel

/-- a 2 × 3 histogram with `int16` contents -/
def g23 : HN :=
  { axes := [.static [(0, 1), (1, 2)] true, .static [(0, 1), (1, 2), (2, 3)] true],
    freq := { shape := [2, 3], data := [1, 2, 3, 4, 5, 6] },
    err2 := { shape := [2, 3], data := [1, 2, 3, 4, 5, 6] }, names := ["x", "y"], dtype := .i16 }

example : (g23.scaleChain chain).toOption.map (fun r => (r.freq.data, r.err2.data, r.dtype))
    = some ([3, 6, 9, 12, 15, 18], [9, 18, 27, 36, 45, 54], .f64) := by decide +kernel

/-- projection onto `y` and scaling by a python float commute entirely … -/
example :
    ((g23.projection [.inr "y"]).toOption.bind fun p => (p.imul (1 / 2) .pyFloat).toOption)
      = ((g23.imul (1 / 2) .pyFloat).toOption.bind fun a => (a.projection [.inr "y"]).toOption) ∧
    ((g23.projection [.inr "y"]).toOption.bind fun p => (p.imul (1 / 2) .pyFloat).toOption).map
      (fun r => (r.freq.data, r.err2.data, r.dtype)) = some ([5 / 2, 7 / 2, 9 / 2], [5 / 4, 7 / 4, 9 / 4], .f64) := by
  decide +kernel

/-- **… but with a `float32` scalar the dtypes differ** (`C06_nd_projection_dtype`): `projection` sums `int16`
    contents in `int64`, and `int64 * float32` is `float64`; scaling first gives `int16 * float32 = float32`, which
    the projection keeps.  Contents and errors agree. -/
theorem C06_nd_projection_dtype :
    ((g23.projection [.inr "y"]).toOption.bind fun p => (p.imul 2 (.np .f32)).toOption).map
      (fun r => (r.freq.data, r.dtype)) = some ([10, 14, 18], .f64) ∧
    ((g23.imul 2 (.np .f32)).toOption.bind fun a => (a.projection [.inr "y"]).toOption).map
      (fun r => (r.freq.data, r.dtype)) = some ([10, 14, 18], .f32) := by
  decide +kernel

/-- N-d: slicing, merging, addition and `normalize` on the 2 × 3 histogram -/
example :
    ((g23.selectSlice FloatOps.exact 1 (some 1) none).imul 3 .pyInt).toOption
      = (g23.imul 3 .pyInt).toOption.map (fun a => a.selectSlice FloatOps.exact 1 (some 1) none) ∧
    ((g23.mergeAxisWithMap FloatOps.exact 1 [0, 0, 1]).toOption.bind fun m => (m.imul 3 .pyInt).toOption)
      = ((g23.imul 3 .pyInt).toOption.bind fun a => (a.mergeAxisWithMap FloatOps.exact 1 [0, 0, 1]).toOption) ∧
    ((g23.mergeAxisWithMap FloatOps.exact 1 [0, 0, 1]).toOption.bind fun m => (m.imul 3 .pyInt).toOption).map
      (fun r => r.freq.data) = some [9, 9, 27, 18] ∧
    ((g23.iadd FloatOps.exact g23).toOption.bind fun s => (s.imul 3 .pyInt).toOption)
      = ((g23.imul 3 .pyInt).toOption.bind fun a => (a.iadd FloatOps.exact a).toOption) ∧
    (∀ ip p : Bool, ((g23.normalize ip p).toOption.bind fun r => (r.normalize ip p).toOption)
      = (g23.normalize ip p).toOption ∧ (g23.normalize ip p).toOption.isSome = true) := by
  decide +kernel

end CommuteExamples

end Physt
