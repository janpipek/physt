import Physt.Proofs.Ops
import Physt.Theorems.C14
import Mathlib.Tactic.FieldSimp
/-!
# C06 — scaling, division and normalisation are exactly linear (exact-arithmetic form)

The floating-point statements `(h*c)/c == h` and `total == 1` hold "up to rounding"; the theorems
are about the rational model, the correspondence check compares bit-exactly on dyadic inputs and
with a relative tolerance elsewhere.
-/
namespace Physt
open H1

/-- **Multiplication.** Every content and missed count is multiplied by `c`, every squared error
    by `c²`; bins, `keep_missed` and the operand are untouched (the operand is a value). -/
theorem C06_mul (h r : H1) (c : Rat) (k : NumKind) (hr : h.imul c k = .ok r) :
    r.freq = h.freq.map (· * c) ∧ r.err2 = h.err2.map (· * (c * c)) ∧
    r.under = nscale h.under c ∧ r.over = nscale h.over c ∧ r.inner = nscale h.inner c ∧
    r.binning = h.binning ∧ r.keep = h.keep := by
  obtain ⟨_, a, b, c1, d, e, _, f, g, _⟩ := imul_ok h r c k hr
  exact ⟨a, b, c1, d, e, f, g⟩

/-- **Division** likewise by `1/c` and `1/c²`. -/
theorem C06_div (h r : H1) (c : Rat) (hr : h.idiv c = .ok r) :
    r.freq = h.freq.map (· / c) ∧ r.err2 = h.err2.map (· / (c * c)) ∧
    r.under = nscale h.under (1 / c) ∧ r.over = nscale h.over (1 / c) ∧ r.inner = nscale h.inner (1 / c) ∧
    r.binning = h.binning := by
  obtain ⟨_, _, rfl⟩ := (idiv_iff h r c).mp hr
  exact ⟨congrArg (h.freq.map ·) (mul_one_div_eq c), congrArg (h.err2.map ·) (mul_one_div_sq_eq c), rfl, rfl, rfl, rfl⟩

/-! `c * h == h * c`: the model has a single scaling operation (`__rmul__` is `__mul__` in physt), so
    there is nothing to prove *in the model*; that the implementation's two spellings agree is checked
    by the correspondence (ops `mul` and `rmul` are both compared with `imul`) and by the oracle. -/

/-- **`(h * c) / c = h`** (c ≠ 0): contents, squared errors and missed counts come back exactly. -/
theorem C06_mul_div (h m r : H1) (c : Rat) (k : NumKind) (hc : c ≠ 0) (hm : h.imul c k = .ok m)
    (hr : m.idiv c = .ok r) :
    r.freq = h.freq ∧ r.err2 = h.err2 ∧ r.under = h.under ∧ r.over = h.over ∧ r.inner = h.inner ∧
    r.binning = h.binning := by
  obtain ⟨f1, e1, u1, o1, i1, b1, _⟩ := C06_mul h m c k hm
  obtain ⟨f2, e2, u2, o2, i2, b2⟩ := C06_div m r c hr
  refine ⟨?_, ?_, ?_, ?_, ?_, by rw [b2, b1]⟩
  · rw [f2, f1]; exact map_cancel fun x => by field_simp
  · rw [e2, e1]; exact map_cancel fun x => by field_simp
  · rw [u2, u1]; exact nscale_nscale _ _ hc
  · rw [o2, o1]; exact nscale_nscale _ _ hc
  · rw [i2, i1]; exact nscale_nscale _ _ hc

theorem H1.total_scaled (h : H1) (p : Rat) (d : DType) : (h.scaled p d).total = h.total * p :=
  sum_map_mul h.freq p

/-- **Normalisation.** `normalize()` gives total 1 (100 with `percent`) and every content keeps
    its share of the total. -/
theorem C06_normalize (h r : H1) (percent : Bool) (hr : h.normalize false percent = .ok r) :
    r.total = (if percent then 100 else 1) ∧
    r.freq = h.freq.map fun x => x / h.total * (if percent then 100 else 1) := by
  obtain ⟨d, hd, hr⟩ := (normalize_false_iff h r percent).mp hr
  obtain ⟨hne, _, rfl⟩ := (idiv_iff h d h.total).mp hd
  obtain ⟨_, rfl⟩ := (imul_iff _ r _ _).mp hr
  constructor
  · rw [H1.total_scaled, H1.total_scaled, mul_one_div_cancel hne, one_mul]
  · show (h.freq.map (· * (1 / h.total))).map _ = _
    rw [mul_one_div_eq, List.map_map]
    rfl

/-- a zero total cannot be normalised: the call is refused -/
theorem C06_normalize_zero (h : H1) (p : Bool) (hz : h.total = 0) : ∃ e, h.normalize false p = .error e := by
  have : h.idiv h.total = .error "division by zero" := if_pos hz
  exact ⟨_, show (h.idiv h.total).bind _ = _ by rw [this]; rfl⟩

/-- **Refusals.** A factor that would make a content negative is refused (free arithmetics off),
    and division by zero is refused. -/
theorem C06_refuse (h : H1) (c : Rat) (k : NumKind) :
    (((h.freq.map (· * c)).any (· < 0)) = true → ∃ e, h.imul c k = .error e) ∧ (∃ e, h.idiv 0 = .error e) :=
  ⟨imul_refused h c k, Except.error_of_not_ok fun r hr => ((idiv_iff h r 0).mp hr).1 rfl⟩

/-- **Statistics under positive scaling** (from C14): mean, variance, minimum and maximum are
    unchanged, the recorded weight scales by `c`. -/
theorem C06_stats (h r : H1) (c : Rat) (k : NumKind) (hc : 0 < c) (hv : h.stats.valid = true)
    (hr : h.imul c k = .ok r) :
    r.stats.mean = h.stats.mean ∧ r.stats.variance = h.stats.variance ∧ r.stats.min = h.stats.min ∧
    r.stats.max = h.stats.max ∧ r.stats.weight = h.stats.weight * c := by
  rw [(imul_ok h r c k hr).2.2.2.2.2.2.1]
  exact C14_scale h.stats c hc hv

/-! Non-vacuity -/
example : (({ binning := .static [(0, 1), (1, 2)] true, freq := [2, 3], err2 := [2, 3] } : H1).imul (1 / 2) .pyFloat).toOption.map
    (fun r => (r.freq, r.err2)) = some ([1, 3 / 2], [1 / 2, 3 / 4]) := by decide +kernel

end Physt
