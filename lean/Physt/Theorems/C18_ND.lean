import Physt.Proofs.HistoryND
/-!
# C18 in N dimensions — every history keeps a histogram well-formed; refused calls change nothing

`Proofs/HistoryND.lean` defines `WFN` (contents and squared errors have the shape of the bins of
all axes, the flat data have the matching length, nothing is negative, one name per axis), the
operation language `OpN'` of the 17 public N-d operations (fill, fill_n, `+=`, `-=`, `*=`, `/=`,
normalize, projection, integer and slice selection, T, accumulate, merge_bins on one axis and on
all axes, partial_normalize, set_dtype, copy; axes by index or by name), `stepN'`, the state
`keptN` a refused call leaves behind (as the driver and physt do: at most a promoted dtype) and
`runN` (refused calls are caught, the object is used further).  Adaptive growth is included; no
hypothesis on the axis kinds is needed.  `T` is defined for two axes, as in physt.
-/
namespace Physt

/-- **Well-formed after any N-d history** (non-negative weights, well-formed operands, free arithmetics off). -/
theorem C18_nd_history (fo : FloatOps) (fuel : Nat) (h : HN) (ops : List OpN') (w : WFN fo h)
    (ok : ∀ op ∈ ops, OpOKN fo op) : WFN fo (runN fo fuel h ops) :=
  wfn_history fo fuel h ops w ok

/-- in plain words: nothing negative, shapes of contents / errors / bins always match, one name per axis -/
theorem C18_nd_no_negative_content (fo : FloatOps) (fuel : Nat) (h : HN) (ops : List OpN') (w : WFN fo h)
    (ok : ∀ op ∈ ops, OpOKN fo op) :
    (∀ x ∈ (runN fo fuel h ops).freq.data, 0 ≤ x) ∧ (∀ x ∈ (runN fo fuel h ops).err2.data, 0 ≤ x) ∧
    (runN fo fuel h ops).freq.shape = (runN fo fuel h ops).axes.map (fun b => (b.bins fo).length) ∧
    (runN fo fuel h ops).err2.shape = (runN fo fuel h ops).axes.map (fun b => (b.bins fo).length) ∧
    (runN fo fuel h ops).freq.data.length = prodL ((runN fo fuel h ops).axes.map fun b => (b.bins fo).length) ∧
    (runN fo fuel h ops).err2.data.length = prodL ((runN fo fuel h ops).axes.map fun b => (b.bins fo).length) ∧
    (runN fo fuel h ops).names.length = (runN fo fuel h ops).axes.length := by
  have r := wfn_history fo fuel h ops w ok
  exact ⟨r.fpos, r.epos, r.fshape, r.eshape, r.fws.trans (congrArg prodL r.fshape),
    r.ews.trans (congrArg prodL r.eshape), r.nlen⟩

/-- **A refused N-d call changes nothing**: bins of every axis, contents, squared errors, missed,
    `keep_missed`, names are what they were; the dtype is unchanged or a lossless promotion.  For
    every operation — the N-d `fill_n` validates before it grows adaptive axes, and the all-axes
    `merge_bins` is all-or-nothing. -/
theorem C18_nd_refused (fo : FloatOps) (fuel : Nat) (h : HN) (op : OpN') (e : String)
    (hs : stepN' fo fuel h op = .error e) :
    SameRecordN (nextN fo fuel h op) h ∧ DTypeKeptN (nextN fo fuel h op) h :=
  refused_changes_nothing_nd fo fuel h op e hs

/-- one accepted step keeps well-formedness -/
theorem C18_nd_step (fo : FloatOps) (fuel : Nat) (h h' : HN) (op : OpN') (w : WFN fo h) (ok : OpOKN fo op)
    (hs : stepN' fo fuel h op = .ok h') : WFN fo h' :=
  wfn_step fo fuel h h' op w ok hs

/-! An empty histogram over two static axes is well-formed; whole histories are checked in `DemoND`
    (`Proofs/HistoryND.lean`). -/
example : WFN FloatOps.exact (HN.empty FloatOps.exact [.static [(0, 1), (1, 2)] true, .static [(0, 2), (2, 4), (5, 6)] false] true none none) :=
  wfn_empty _ _ _ _

end Physt
