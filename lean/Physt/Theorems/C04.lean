import Physt.Proofs.GridCover
import Mathlib.Algebra.Order.Floor.Ring
import Mathlib.Data.Rat.Floor
import Mathlib.Algebra.Order.Field.Rat
/-!
# C04 — adaptive fixed-width histograms never lose a value when bins grow

The implementation computes grid edges `k*width + shift` and the cell estimate
`floor((v - shift)/width)` in floating point.  The theorems quantify over **every** `FloatOps`
instance (the parameter standing for those computations) whose edge function is strictly
increasing, and over **every** estimate within the search fuel: rounding can then neither lose a
value nor mis-place it.  For exact arithmetic the hypotheses are proved (`C04_exact_*`); for IEEE
doubles the driver checks strict monotonicity on every case it runs.
-/
namespace Physt
open Grid H1

/-- **The corrected cell search.** For any strictly increasing edge function and any estimate,
    `_find_grid_index` returns the unique cell `k` with `edge k ≤ v < edge (k+1)`. -/
theorem C04_locate (edge : Int → Rat) (hmono : ∀ a b : Int, a < b → edge a < edge b) (v : Rat)
    (k est : Int) (fuel : Nat) (hk : edge k ≤ v ∧ v < edge (k + 1)) (hf : (est - k).natAbs ≤ fuel) :
    locate edge v fuel est = k :=
  locate_spec edge v hmono k est fuel hk hf

/-- In exact arithmetic a positive width gives a strictly increasing edge function … -/
theorem C04_exact_mono (w s : Rat) (hw : 0 < w) : EdgeMono FloatOps.exact w s := by
  intro a b hab
  simp only [FloatOps.exact]
  have : (a : Rat) < (b : Rat) := by exact_mod_cast hab
  nlinarith

/-- … and the floor of the quotient *is* the cell, so the search needs no correction at all. -/
theorem C04_exact_cell (w s v : Rat) (hw : 0 < w) :
    CellOf (FloatOps.exact.edge w s) v (FloatOps.exact.est w s v) := by
  simp only [FloatOps.exact, CellOf]
  have h1 : ((⌊(v - s) / w⌋ : Int) : Rat) ≤ (v - s) / w := Int.floor_le _
  have h2 : (v - s) / w < ((⌊(v - s) / w⌋ : Int) : Rat) + 1 := Int.lt_floor_add_one _
  have hfl : ((v - s) / w).floor = ⌊(v - s) / w⌋ := rfl
  rw [hfl]
  constructor
  · have := mul_le_mul_of_nonneg_right h1 (le_of_lt hw)
    rw [div_mul_cancel₀ _ (ne_of_gt hw)] at this
    linarith
  · have := mul_lt_mul_of_pos_right h2 hw
    rw [div_mul_cancel₀ _ (ne_of_gt hw)] at this
    push_cast
    linarith

theorem sum_replicate_zero (n : Nat) : (List.replicate n (0 : Rat)).sum = 0 := by
  induction n with
  | zero => rfl
  | succ n ih => simp [List.replicate_succ, ih]

theorem addAt_sum (l : List Rat) (i : Nat) (w : Rat) (hi : i < l.length) : (addAt l i w).sum = l.sum + w := by
  induction l generalizing i with
  | nil => simp at hi
  | cons a t ih =>
    cases i with
    | zero => simp [addAt, List.modify]; ring
    | succ i =>
      have := ih i (by simpa using hi)
      simp only [addAt, List.modify_succ_cons, List.sum_cons] at this ⊢
      rw [this]; ring

/-- moving the contents as a right instruction says keeps them all (sum), on the new number of cells -/
theorem reshape1_ok_sum_length {g g' : Grid} {r : Reshape} (ok : ReshapeOK g g' r) (old : List Rat)
    (hold : old.length = g.count) :
    (reshape1 old g'.count r).sum = old.sum ∧ (reshape1 old g'.count r).length = g'.count := by
  by_cases h0 : g.count = 0
  · have : old = [] := List.length_eq_zero_iff.mp (by omega)
    rw [(reshape1_of_ok ok old hold).1 h0, this]
    simp
  · have hp := Nat.pos_of_ne_zero h0
    have := ok.contains hp
    rw [(reshape1_of_ok ok old hold).2 hp]
    simp
    omega

/-- `fill(v, w)` on an adaptive histogram whose grown grid `g'` has the value in bin `i` -/
theorem fill_eq_of_bin (fo : FloatOps) (fuel : Nat) (h : H1) (g g' : Grid) (r : Reshape) (v w : Rat)
    (wk : NumKind) (i : Nat) (hb : h.binning = .fixed g) (ha : g.adaptive = true)
    (e : g.forceSingle fo fuel v g.ire = (g', r)) (hfind : findBinIn (g'.bins fo) v = .bin i) :
    h.fill fo fuel (some v) w wk =
      ({ h with dtype := h.dtype.promote wk.dtype, binning := .fixed g',
                freq := addAt (reshape1 h.freq g'.count r) i w,
                err2 := addAt (reshape1 h.err2 g'.count r) i (w * w),
                stats := h.stats.addPoint v w }, some (.bin i)) := by
  simp only [fill, adapt, coerce, hb, ha, if_true, e, findBin, H1.bins, Binning.bins, hfind]

/-- What `C04_fill` needs to know about the state: an adaptive, aligned, right-open grid whose
    contents have the grid's length, with tracking of missed values on. -/
structure GridState (h : H1) (g : Grid) : Prop where
  binning : h.binning = .fixed g
  adaptive : g.adaptive = true
  align : g.align = true
  ire : g.ire = false
  keep : h.keep = true
  flen : h.freq.length = g.count
  elen : h.err2.length = g.count

/-- **A filled value is never lost.**  For every strictly increasing edge function and every
    estimate within the fuel: `fill(v, w)` on an adaptive histogram grows the grid so that it covers
    the cell of `v` *and* every cell it covered before, reports a bin (never underflow, overflow or
    a gap), adds `w` to the total, and leaves underflow / overflow untouched. -/
theorem C04_fill (fo : FloatOps) (fuel : Nat) (h : H1) (g : Grid) (st : GridState h g) (v w : Rat) (wk : NumKind)
    (k : Int) (hm : EdgeMono fo g.w g.shift) (hk : CellOf (g.edgeAt fo) v k)
    (hf : (fo.est g.w g.shift v - k).natAbs ≤ fuel) :
    ∃ g' : Grid, GridState (h.fill fo fuel (some v) w wk).1 g' ∧
      g'.w = g.w ∧ g'.shift = g.shift ∧
      g'.tmin ≤ k ∧ k < g'.tmin + g'.count ∧
      (0 < g.count → g'.tmin = min g.tmin k ∧ g'.tmin + g'.count = max (g.tmin + g.count) (k + 1)) ∧
      (g.count = 0 → g'.tmin = k ∧ g'.count = 1) ∧
      (h.fill fo fuel (some v) w wk).2 = some (.bin (k - g'.tmin).toNat) ∧
      (h.fill fo fuel (some v) w wk).1.freq.sum = h.freq.sum + w ∧
      (h.fill fo fuel (some v) w wk).1.under = h.under ∧ (h.fill fo fuel (some v) w wk).1.over = h.over := by
  obtain ⟨g', r, e, hw, hs, hal, had, hire, ok, hsp⟩ := forceSingle_spec fo fuel g v k (fun _ => st.align) hm hk hf
  obtain ⟨hlo, hhi, hzero, hpos⟩ := span_hull_cell.mp hsp
  have hfind : findBinIn (g'.bins fo) v = .bin (k - g'.tmin).toNat :=
    findBinIn_bins fo g' (by rw [hw, hs]; exact hm) (by rw [edgeAt_congr fo hw hs]; exact hk) hlo hhi
  rw [fill_eq_of_bin fo fuel h g g' r v w wk _ st.binning st.adaptive (by rw [st.ire]; exact e) hfind]
  obtain ⟨rf1, rf2⟩ := reshape1_ok_sum_length ok h.freq st.flen
  obtain ⟨_, re2⟩ := reshape1_ok_sum_length ok h.err2 st.elen
  refine ⟨g', ⟨rfl, had.trans st.adaptive, hal.trans st.align, hire.trans st.ire, st.keep, ?_, ?_⟩,
    hw, hs, hlo, hhi, hpos, hzero, rfl, ?_, rfl, rfl⟩
  · simp [addAt, rf2]
  · simp [addAt, re2]
  · rw [addAt_sum _ _ _ (by rw [rf2]; omega), rf1]

/-! Non-vacuity: the exact instance with width 1/10 and the value 17/10 (the decimal literal that physt lost
    before its fix: 454a31e) satisfies every hypothesis of `C04_fill`; and whatever the estimate, the
    search lands on cell 17. -/
example : EdgeMono FloatOps.exact (1 / 10) 0 ∧ CellOf (FloatOps.exact.edge (1 / 10) 0) (17 / 10) 17 :=
  ⟨C04_exact_mono _ _ (by norm_num), by simp only [CellOf, FloatOps.exact]; constructor <;> norm_num⟩
example : locate (FloatOps.exact.edge (1 / 10) 0) (17 / 10) 8 16 = 17 ∧
    locate (FloatOps.exact.edge (1 / 10) 0) (17 / 10) 8 19 = 17 := by decide +kernel

end Physt
