import Physt.Proofs.AdaptiveHistory
/-!
# C04 (continued) — any sequence of `fill` / `fill_n` calls on an adaptive histogram

`Theorems/C04.lean` proves the single step.  Here the step is lifted to arbitrary histories with
the invariant `GridTracks fo h g pts` (`Proofs/AdaptiveHistory.lean`): `h` is an adaptive,
aligned, right-open grid histogram whose contents are the batch histogram of `pts` over its own
bins, with zero underflow / overflow and every point inside the grid.

`ire = false` (the binning does not include its right edge) is part of `GridState`: physt refuses
to build an adaptive binning that includes its right edge (`BinningBase.__init__`: "Adaptivity
does not work together with right-edge inclusion"), and without that refusal the property would
be false (counter-example at the end of `Proofs/AdaptiveHistory.lean`, kernel-checked).
-/
namespace Physt
open Grid H1

/-- **Contents recorded earlier stay attached to the same interval.**  Growing the grid by `a`
    cells on the left and `b` on the right pads the histogram of the data (all inside the old
    range) with zeros: no content moves to another interval. -/
theorem C04_grow_keeps_intervals {edge : Int → Rat} (hm : ∀ a b : Int, a < b → edge a < edge b) (t : Int)
    (n a b : Nat) (pts : List Pt) (h : Inside edge t n pts) :
    (calc1d (binsFrom edge (t - a) (a + n + b)) pts).freq
      = List.replicate a 0 ++ (calc1d (binsFrom edge t n) pts).freq ++ List.replicate b 0 ∧
    (calc1d (binsFrom edge (t - a) (a + n + b)) pts).err2
      = List.replicate a 0 ++ (calc1d (binsFrom edge t n) pts).err2 ++ List.replicate b 0 :=
  calc1d_grid_grow hm t n a b pts h

/-- **C04 for every history.**  For every `FloatOps` instance with strictly increasing edges, every
    list of `fill` / `fill_n` calls (NaN values, empty batches, weights) on a histogram satisfying the
    invariant (the empty one: `gridTracks_empty`; or pre-filled), every value having its cell within
    reach of the search: every call is accepted; the result **equals the fixed-bin histogram of all
    the data over the final bins** (contents, squared errors, underflow, overflow); total = initial
    total + weight entered; underflow = overflow = 0; every value entered is found in the bin
    `[edge k, edge (k+1))` of its cell on the *original* grid `k·w + s`; and the final range is the
    hull of the initial range and the cells needed (`SpanHull`: nothing more, nothing less). -/
theorem C04_every_history (fo : FloatOps) (fuel : Nat) (w s : Rat) (hm : EdgeMono fo w s) (ops : List FillOp)
    (hok : ∀ op ∈ ops, op.ok = true) (hreach : ∀ p ∈ opsPts ops, Reach fo w s fuel p.1)
    (h : H1) (g : Grid) (pts : List Pt) (hw : g.w = w) (hs : g.shift = s) (tr : GridTracks fo h g pts) :
    ∃ (h' : H1) (g' : Grid), runOps fo fuel h ops = .ok h' ∧ GridTracks fo h' g' (pts ++ opsPts ops) ∧
      SpanHull (fo.edge w s) g g' ((opsPts ops).map (·.1)) ∧
      h'.freq = (calc1d (h'.bins fo) (pts ++ opsPts ops)).freq ∧
      h'.err2 = (calc1d (h'.bins fo) (pts ++ opsPts ops)).err2 ∧
      h'.under = (calc1d (h'.bins fo) (pts ++ opsPts ops)).under ∧
      h'.over = (calc1d (h'.bins fo) (pts ++ opsPts ops)).over ∧
      h'.total = h.total + wsum (opsPts ops) ∧
      h'.underflow = some 0 ∧ h'.overflow = some 0 ∧
      (∀ p ∈ pts ++ opsPts ops, ∃ k : Int, CellOf (fo.edge w s) p.1 k ∧ g'.tmin ≤ k ∧ k < g'.tmin + g'.count ∧
        h'.findBin fo p.1 = .bin (k - g'.tmin).toNat ∧
        (h'.bins fo)[(k - g'.tmin).toNat]? = some (fo.edge w s k, fo.edge w s (k + 1))) := by
  obtain ⟨h', g', he, tr', sp⟩ := gridTracks_ops fo fuel w s hm ops hok hreach h g pts hw hs tr
  obtain ⟨e1, e2, e3, e4, e5, e6, e7, e8⟩ := tr'.report (sp.w.trans hw) (sp.shift.trans hs) hm
  exact ⟨h', g', he, tr', sp, e1, e2, e3, e4, by rw [e5, (tr.report hw hs hm).2.2.2.2.1, wsum_append], e6, e7, e8⟩

/-- in exact arithmetic the only hypothesis left is a positive width -/
theorem C04_every_history_exact (fuel : Nat) (ops : List FillOp) (hok : ∀ op ∈ ops, op.ok = true)
    (h : H1) (g : Grid) (pts : List Pt) (hw : 0 < g.w) (tr : GridTracks FloatOps.exact h g pts) :
    ∃ (h' : H1) (g' : Grid), runOps FloatOps.exact fuel h ops = .ok h' ∧
      GridTracks FloatOps.exact h' g' (pts ++ opsPts ops) ∧
      SpanHull (FloatOps.exact.edge g.w g.shift) g g' ((opsPts ops).map (·.1)) ∧
      h'.total = h.total + wsum (opsPts ops) ∧ h'.underflow = some 0 ∧ h'.overflow = some 0 := by
  obtain ⟨h', g', he, tr', sp, _, _, _, _, ht, hu, ho, _⟩ :=
    C04_every_history FloatOps.exact fuel g.w g.shift (C04_exact_mono _ _ hw) ops hok
      (fun p _ => reach_exact g.w g.shift hw fuel p.1) h g pts rfl rfl tr
  exact ⟨h', g', he, tr', sp, ht, hu, ho⟩

/-- **Started empty, the bins span exactly from the lowest to the highest cell ever needed.** -/
theorem C04_span_from_empty (fo : FloatOps) (fuel : Nat) (g : Grid) (hm : EdgeMono fo g.w g.shift)
    (hc : g.count = 0) (had : g.adaptive = true) (hal : g.align = true) (hire : g.ire = false)
    (dt : Option DType) (hist : List (Pt × NumKind)) (hne : hist ≠ [])
    (hreach : ∀ e ∈ hist, Reach fo g.w g.shift fuel e.1.1) :
    ∃ g' : Grid, GridTracks fo (fillAll fo fuel (H1.empty fo (.fixed g) true dt) hist) g' (hist.map (·.1)) ∧
      g'.w = g.w ∧ g'.shift = g.shift ∧ 0 < g'.count ∧
      (∃ e ∈ hist, CellOf (fo.edge g.w g.shift) e.1.1 g'.tmin) ∧
      (∃ e ∈ hist, CellOf (fo.edge g.w g.shift) e.1.1 (g'.tmin + g'.count - 1)) ∧
      (∀ e ∈ hist, ∃ k : Int, CellOf (fo.edge g.w g.shift) e.1.1 k ∧ g'.tmin ≤ k ∧ k < g'.tmin + g'.count) ∧
      (fillAll fo fuel (H1.empty fo (.fixed g) true dt) hist).total = wsum (hist.map (·.1)) := by
  obtain ⟨g', tr', sp⟩ := gridTracks_history fo fuel g.w g.shift hm hist hreach _ g [] rfl rfl
    (gridTracks_empty fo g hc had hal hire dt)
  have hp := sp.pos (Or.inr (by simpa using hne))
  simp only [List.nil_append] at tr'
  refine ⟨g', tr', sp.w, sp.shift, hp, ?_, ?_, ?_, tr'.total (by rw [sp.w, sp.shift]; exact hm)⟩
  · rcases sp.loTight hp with ⟨h0, _⟩ | ⟨v, hv, hcell⟩
    · omega
    · obtain ⟨e, he, rfl⟩ := List.mem_map.mp hv
      exact ⟨e, he, hcell⟩
  · rcases sp.hiTight hp with ⟨h0, _⟩ | ⟨v, hv, hcell⟩
    · omega
    · obtain ⟨e, he, rfl⟩ := List.mem_map.mp hv
      exact ⟨e, he, hcell⟩
  · intro e he
    exact sp.covers e.1.1 (List.mem_map.mpr ⟨e, he, rfl⟩)

/-- **One `fill_n` batch = the same pairs entered one by one**: same grid, contents, squared
    errors, underflow, overflow (the batch routine looks at the minimum and maximum only). -/
theorem C04_batch_eq_singles (fo : FloatOps) (fuel : Nat) (h : H1) (g : Grid) (pts : List Pt)
    (tr : GridTracks fo h g pts) (hm : EdgeMono fo g.w g.shift) (vs : List (Option Rat))
    (ws : Option (List Rat)) (wkind : DType) (wk : NumKind) (hok : weightsShapeOk vs ws = true)
    (hreach : ∀ v ∈ vs.filterMap id, Reach fo g.w g.shift fuel v) :
    ∃ h' : H1, h.fillN fo fuel vs ws wkind = .ok h' ∧
      h'.binning = (fillAll fo fuel h ((maskPts vs ws).map fun p => (p, wk))).binning ∧
      h'.freq = (fillAll fo fuel h ((maskPts vs ws).map fun p => (p, wk))).freq ∧
      h'.err2 = (fillAll fo fuel h ((maskPts vs ws).map fun p => (p, wk))).err2 ∧
      h'.under = (fillAll fo fuel h ((maskPts vs ws).map fun p => (p, wk))).under ∧
      h'.over = (fillAll fo fuel h ((maskPts vs ws).map fun p => (p, wk))).over ∧
      h'.keep = (fillAll fo fuel h ((maskPts vs ws).map fun p => (p, wk))).keep := by
  have hreach' : ∀ p ∈ maskPts vs ws, Reach fo g.w g.shift fuel p.1 := fun p hp =>
    hreach p.1 (maskPts_values vs ws hok ▸ List.mem_map_of_mem hp)
  obtain ⟨h', g', he, tr', sp'⟩ := gridTracks_fillN fo fuel h g pts tr hm vs ws wkind hok hreach'
  obtain ⟨g'', tr'', sp''⟩ := gridTracks_history fo fuel g.w g.shift hm ((maskPts vs ws).map fun p => (p, wk))
    (fun e he => by obtain ⟨p, hp, rfl⟩ := List.mem_map.mp he; exact hreach' p hp) h g pts rfl rfl tr
  have e1 : ((maskPts vs ws).map fun p => (p, wk)).map (·.1) = maskPts vs ws := by
    rw [List.map_map]; exact List.map_id _
  have e2 : ((maskPts vs ws).map fun p => (p, wk)).map (·.1.1) = (maskPts vs ws).map (·.1) := List.map_map
  rw [e1] at tr''
  rw [e2] at sp''
  obtain ⟨_, a1, a2, a3, a4, a5, a6⟩ := gridTracks_agree hm tr' tr'' sp' sp''
  exact ⟨h', he, a1, a2, a3, a4, a5, a6⟩

/-- in exact arithmetic with a positive width every value is within reach, whatever the fuel -/
theorem C04_reach_exact (w s : Rat) (hw : 0 < w) (fuel : Nat) (v : Rat) : Reach FloatOps.exact w s fuel v :=
  reach_exact w s hw fuel v

/-! Non-vacuity: width 1/10, the values 17/10, −3/10 and 5 entered into the empty adaptive histogram. -/
example : ∃ (h' : H1) (g' : Grid),
    runOps FloatOps.exact 4 (H1.empty FloatOps.exact (.fixed { w := 1 / 10, adaptive := true }) true none)
      [.one (some (17 / 10)) 1 .pyInt, .one (some (-3 / 10)) 2 .pyInt, .many [some 5, none] none .i64] = .ok h' ∧
    h'.total = (H1.empty FloatOps.exact (.fixed { w := 1 / 10, adaptive := true }) true none).total
      + wsum (opsPts [.one (some (17 / 10)) 1 .pyInt, .one (some (-3 / 10)) 2 .pyInt, .many [some 5, none] none .i64]) ∧
    h'.underflow = some 0 ∧ h'.overflow = some 0 := by
  obtain ⟨h', g', he, _, _, ht, hu, ho⟩ := C04_every_history_exact 4
    [.one (some (17 / 10)) 1 .pyInt, .one (some (-3 / 10)) 2 .pyInt, .many [some 5, none] none .i64]
    (by decide) _ { w := 1 / 10, adaptive := true } [] (by decide +kernel)
    (gridTracks_empty FloatOps.exact { w := 1 / 10, adaptive := true } rfl rfl rfl rfl none)
  exact ⟨h', g', he, ht, hu, ho⟩

end Physt
