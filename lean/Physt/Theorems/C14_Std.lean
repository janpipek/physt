import Physt.Theorems.C14
import Mathlib.Analysis.Real.Sqrt
import Mathlib.Algebra.Order.Ring.Rat
import Mathlib.Tactic.Positivity
/-!
# C14 (continued) — `std()`

`Statistics.std()` is `sqrt(variance())`.  The model keeps rational numbers, so the square root lives
in ℝ (Mathlib's `Real.sqrt`); what the property states about `std()` is that it is the weighted
population standard deviation of the raw data, i.e. the non-negative number whose square is the
weighted population variance.  That needs the variance to be non-negative, which holds exactly when
the weights are non-negative — the hypothesis is forced and is stated.
-/
namespace Physt
open H1 Stats

/-- `std()`; `none` = NaN -/
noncomputable def Stats.std (a : Stats) : Option ℝ := a.variance.map fun v => Real.sqrt (v : ℝ)

theorem sum_sq_dev_nonneg (d : List Pt) (μ : Rat) (hp : ∀ p ∈ d, 0 ≤ p.2) :
    0 ≤ (d.map fun p => p.2 * (p.1 - μ) ^ 2).sum :=
  List.sum_nonneg (List.forall_mem_map.2 fun p hpm => mul_nonneg (hp p hpm) (sq_nonneg _))

/-- **The variance of data entered with non-negative weights is non-negative** (it is a weighted
    mean of squares), so it has a real square root. -/
theorem C14_variance_nonneg (d : List Pt) (hne : d ≠ []) (hw : 0 < wsum d) (hp : ∀ p ∈ d, 0 ≤ p.2) :
    ∃ v, (rawStats d).variance = some v ∧ 0 ≤ v :=
  ⟨_, (C14_moments d hne hw).2, div_nonneg (sum_sq_dev_nonneg d _ hp) hw.le⟩

/-- **`std()` is the weighted population standard deviation of the raw data**: it is non-negative
    and its square is the weighted population variance `Σ w·(v − mean)² / Σ w`. -/
theorem C14_std (d : List Pt) (hne : d ≠ []) (hw : 0 < wsum d) (hp : ∀ p ∈ d, 0 ≤ p.2) :
    ∃ s : ℝ, (rawStats d).std = some s ∧ 0 ≤ s ∧
      s ^ 2 = (((d.map fun p => p.2 * (p.1 - sumWV d / wsum d) ^ 2).sum / wsum d : Rat) : ℝ) := by
  refine ⟨_, ?_, Real.sqrt_nonneg _,
    Real.sq_sqrt (Rat.cast_nonneg.2 (div_nonneg (sum_sq_dev_nonneg d _ hp) hw.le))⟩
  rw [Stats.std, (C14_moments d hne hw).2]
  rfl

/-- without non-negative weights the statement is false: the recorded "variance" can be negative
    (weights 3 and −1 on the values 0 and 1: total weight 2 > 0, variance −3/4) and `std()` is then NaN
    in numpy (`Real.sqrt` of a negative number is 0 in Mathlib — another reason to state the hypothesis) -/
theorem C14_variance_negative_weights : (rawStats [(0, 3), (1, -1)]).variance = some (-3 / 4) := by
  decide +kernel

/-- `std()` is NaN exactly when `variance()` is (empty, zero total weight or invalidated statistics) -/
theorem C14_std_nan (s : Stats) : s.std = none ↔ s.variance = none := by
  cases h : s.variance <;> simp [Stats.std, h]

/-- positive rescaling leaves `std()` unchanged -/
theorem C14_std_scale (s : Stats) (c : Rat) (hc : 0 < c) (hv : s.valid = true) : (s.scale c).std = s.std := by
  simp [Stats.std, (C14_scale s c hc hv).2.1]

/-! Non-vacuity: the data 1, 2, 3, 6 with weights 1, 1, 2, 0: mean 9/4, variance 11/16, std² = 11/16. -/
example : ∃ s : ℝ, (rawStats [(1, 1), (2, 1), (3, 2), (6, 0)]).std = some s ∧ 0 ≤ s ∧ s ^ 2 = ((11 / 16 : Rat) : ℝ) := by
  obtain ⟨s, h1, h2, h3⟩ := C14_std [(1, 1), (2, 1), (3, 2), (6, 0)] (List.cons_ne_nil _ _) (by decide +kernel) (by decide +kernel)
  refine ⟨s, h1, h2, ?_⟩
  rw [h3]
  congr 1
  decide +kernel

end Physt
