import Physt.Proofs.AdaptiveAddND
import Physt.Theorems.C04_ND
/-!
# C05 (continued) — adding N-dimensional histograms with adaptive fixed-width axes

"For adaptive fixed-width histograms the bins are first extended to the union of both ranges on the common
grid and nothing is lost.  Addition is commutative and associative, so `sum()` over any list, collection or
partition of the data gives the same histogram …  Operands with incompatible bins, a different dimension …
are refused."  Here: the adapting branch of the N-d `__iadd__` (`HN.iadd`).  Helper lemmas:
`Proofs/AdaptiveAddND.lean`, on top of the invariant `TracksA fo h grids rows` of `Proofs/AdaptiveND.lean`
(`Theorems/C04_ND.lean`): all axes adaptive, aligned, right-open grids; contents and squared errors are the
batch histogram (`calcND`, the model of `calculate_nd_frequencies`) of `rows` over the current bins;
`missed = 0`; every row inside every axis.

Hypotheses (those of the 1-D theorem, per axis):
* `lattice ga = lattice gb` — both operands have the same width and origin on every axis (and as many axes);
  this is what `FixedWidthBinning._adapt` checks, see the refusals below;
* `MonoGrids fo ga` — the edge function of every axis is strictly increasing (rounding does not reorder
  edges; holds in exact arithmetic for positive widths: `monoGrids_exact`).
No condition on `missed` is needed: the invariant has `missed = 0` (the N-d histogram has one missed slot).

Finding (kept as a hypothesis of the refusal theorems): an axis that is EMPTY in both operands has equal
bins (`[]`) whatever the two widths are, `adapt` answers "nothing to do" before `_adapt` compares widths,
and the sum silently keeps the left operand's width on that axis (kernel-checked example at the end).
-/
namespace Physt
open Grid H1

/-- **h(A) + h(B) = h(A and B together), N dimensions, all axes adaptive.**  `a` holds the histogram of
    the rows `A` on its grids `ga`, `b` that of `B` on grids `gb` with the same width and origin per axis.
    Then `a += b` is accepted; per axis the grid of the result has the width, origin and flags of `a`'s
    axis and its range is the UNION of both ranges (`UnionN` / `SpanUnion`: both non-empty — from the lower
    first cell to the higher last cell; one empty — the other one's range); and the result holds the
    histogram of `A ++ B` over its bins (invariant `TracksA`). -/
theorem C05_nd_adaptive (fo : FloatOps) (a b : HN) (ga gb : List Grid) (A B : List Row)
    (ta : TracksA fo a ga A) (tb : TracksA fo b gb B) (hlat : lattice ga = lattice gb) (hm : MonoGrids fo ga) :
    ∃ (r : HN) (gr : List Grid), a.iadd fo b = .ok r ∧ TracksA fo r gr (A ++ B) ∧ UnionN ga gb gr ∧
      r.dtype = a.dtype.promote b.dtype ∧ r.keep = a.keep ∧ r.names = a.names := by
  have hlen : ga.length = gb.length := lattice_len_eq hlat
  have hl : a.axes.length = b.axes.length := by rw [ta.hax, tb.hax]; simpa using hlen
  have hmb : MonoGrids fo gb := hm.of_lattice hlat.symm
  have fa := ta.flags
  have fb := tb.flags
  cases hsb : a.sameBins fo b with
  | true =>
    have hbins := sameBins_getElem ta.hax tb.hax hsb
    have hab : b.axesBins fo = a.axesBins fo := by
      rw [ta.axesBins, tb.axesBins]
      apply axesOf_eq_of_bins fo gb ga hlen.symm
      intro i g2 g1 h2 h1
      exact ⟨(hbins i g1 g2 h1 h2).symm, by rw [(fa g1 (List.mem_of_getElem? h1)).2.2, (fb g2 (List.mem_of_getElem? h2)).2.2]⟩
    have un : UnionN ga gb ga := by
      refine ⟨rfl, hlen.symm, fun i g1 g2 g' h1 h2 h' => ?_⟩
      cases h1.symm.trans h'
      obtain ⟨hw, hs⟩ := lattice_getElem? hlat i g1 g2 h1 h2
      obtain ⟨hc, ht⟩ := grids_of_same_bins (hm g1 (List.mem_of_getElem? h1)) hw hs (hbins i g1 g2 h1 h2)
      exact ⟨rfl, rfl, rfl, rfl, rfl, .of_same hc ht⟩
    refine ⟨_, ga, (HN.iadd_eq fo a b).trans ((if_neg (by simp [hl])).trans (if_pos hsb)), ?_, un, rfl, rfl, rfl⟩
    refine ⟨ta.hax, fa, ?_, ?_, ?_, ?_⟩
    · show Arr.zipWith (· + ·) a.freq b.freq = (calcND (a.axesBins fo) (A ++ B)).freq
      rw [ta.freq, tb.freq, hab, calcND_append_freq]
    · show Arr.zipWith (· + ·) a.err2 b.err2 = (calcND (a.axesBins fo) (A ++ B)).err2
      rw [ta.err2, tb.err2, hab, calcND_append_err2]
    · show nadd a.missed b.missed = some 0
      rw [ta.missed, tb.missed]; exact nadd_zero _
    · intro r hr
      rcases List.mem_append.mp hr with h | h
      · exact ta.inside r h
      · exact un.inside_right hlat (tb.inside r h)
  | false =>
    obtain ⟨plans, hpl, f1, f2, un⟩ := plans_spec fo ga gb hlat hm
    have hall : a.axes.all Binning.isAdaptive = true := by
      rw [ta.hax]; exact (all_isAdaptive_map_fixed ga).mpr (fun g hg => (fa g hg).1)
    have hallow : b.axes.all Binning.adaptiveAllowed = true := by
      rw [tb.hax]; exact all_adaptiveAllowed_map_fixed gb
    have hmiss : ∀ m, b.missed = some m → ¬ 0 < m := by
      intro m hm'
      rw [tb.missed] at hm'
      cases hm'
      exact lt_irrefl _
    have e := iaddN_grow fo a b hl hsb hall hmiss
    rw [HN.iaddGrow, if_neg (by simp [hallow]), ta.hax, tb.hax, hpl] at e
    have flr := un.flags fa
    have hpire : ∀ p ∈ plans, p.1.ire = false := fun p hp => (flr p.1 (List.mem_map_of_mem hp)).2.2
    have s1 := planFold_tracksA fo true ta hm plans f1 hpire
    have s2 := planFold_tracksA fo false tb hmb plans f2 hpire
    refine ⟨_, plans.map (·.1), e, ?_, un, rfl, rfl, rfl⟩
    refine ⟨by simp [List.map_map, Function.comp], flr, ?_, ?_, ta.missed, ?_⟩
    · show Arr.zipWith (· + ·) _ _ = (calcND (axesOf fo (plans.map fun p => Binning.fixed p.1)) (A ++ B)).freq
      rw [s1.1, s2.1, calcND_append_freq]
    · show Arr.zipWith (· + ·) _ _ = (calcND (axesOf fo (plans.map fun p => Binning.fixed p.1)) (A ++ B)).err2
      rw [s1.2, s2.2, calcND_append_err2]
    · intro r hr
      rcases List.mem_append.mp hr with h | h
      · exact un.inside_left (ta.inside r h)
      · exact un.inside_right hlat (tb.inside r h)

/-- the union written out for one axis `i` -/
theorem C05_nd_adaptive_axis {ga gb gr : List Grid} (u : UnionN ga gb gr) (i : Nat) (g1 g2 g' : Grid)
    (h1 : ga[i]? = some g1) (h2 : gb[i]? = some g2) (h' : gr[i]? = some g') :
    g'.w = g1.w ∧ g'.shift = g1.shift ∧
    (0 < g1.count → 0 < g2.count →
      g'.tmin = min g1.tmin g2.tmin ∧ g'.tmin + g'.count = max (g1.tmin + g1.count) (g2.tmin + g2.count)) ∧
    (g2.count = 0 → g'.tmin = g1.tmin ∧ g'.count = g1.count) ∧
    (g1.count = 0 → 0 < g2.count → g'.tmin = g2.tmin ∧ g'.count = g2.count) := by
  obtain ⟨hw, hs, _, _, _, sp⟩ := u.each i g1 g2 g' h1 h2 h'
  exact ⟨hw, hs, sp.both, sp.rightEmpty, sp.leftEmpty⟩

/-- **Nothing is lost.**  The sum is accepted; contents and squared errors are those
    `calculate_nd_frequencies` computes from ALL the rows over the final bins, `missed` is `0` and is the
    missed weight of that computation, the total is the sum of the totals = the weight of all the rows, and
    `find_bin` finds every row of `A` and of `B` in the bin `[edge k, edge (k+1))` of its cell `k` on each
    axis' grid. -/
theorem C05_nd_adaptive_nothing_lost (fo : FloatOps) (a b : HN) (ga gb : List Grid) (A B : List Row)
    (ta : TracksA fo a ga A) (tb : TracksA fo b gb B) (hlat : lattice ga = lattice gb) (hm : MonoGrids fo ga) :
    ∃ (r : HN) (gr : List Grid), a.iadd fo b = .ok r ∧ r.axes = gr.map Binning.fixed ∧ UnionN ga gb gr ∧
      r.freq = (calcND (r.axesBins fo) (A ++ B)).freq ∧ r.err2 = (calcND (r.axesBins fo) (A ++ B)).err2 ∧
      r.missed = some 0 ∧ r.missed = some (calcND (r.axesBins fo) (A ++ B)).missing ∧
      r.total = a.total + b.total ∧ r.total = ((A ++ B).map (·.2)).sum ∧
      (∀ row ∈ A ++ B, ∃ idx, r.findBin fo row.1 = some idx ∧ validIdx (r.shape fo) idx = true ∧
        ∀ (i : Nat) (g : Grid) (x : Rat), gr[i]? = some g → row.1[i]? = some x →
          ∃ k : Int, CellOf (fo.edge g.w g.shift) x k ∧ g.tmin ≤ k ∧ k < g.tmin + g.count ∧
            idx[i]? = some (k - g.tmin).toNat ∧
            (g.bins fo)[(k - g.tmin).toNat]? = some (fo.edge g.w g.shift k, fo.edge g.w g.shift (k + 1))) := by
  obtain ⟨r, gr, e, t, u, _⟩ := C05_nd_adaptive fo a b ga gb A B ta tb hlat hm
  have hmr : MonoGrids fo gr := hm.of_lattice u.lattice
  have hmb : MonoGrids fo gb := hm.of_lattice hlat.symm
  refine ⟨r, gr, e, t.hax, u, t.freq, t.err2, t.missed, ?_, ?_, t.total hmr, fun row hrow => t.in_bin hmr row hrow⟩
  · rw [t.missing_zero hmr]; exact t.missed
  · rw [t.total hmr, ta.total hm, tb.total hmb, List.map_append, List.sum_append]

/-- **`a + b` is the histogram obtained by FILLING the rows of `b` into `a`**: same axis records, contents,
    squared errors and missed — for any sequence `ops` of `fill` / `fill_n` calls that enters the rows `B`
    (`C04_nd_every_history`), provided the ranges of `b` are exactly the hull of its own rows (`b` was filled
    from empty grids `g0`; a `b` that was given extra empty bins makes the sum wider than the filled
    histogram).  By commutativity the same holds, bins-wise, for filling the rows of `a` into `b`. -/
theorem C05_nd_adaptive_eq_fill (fo : FloatOps) (fuel : Nat) (a b : HN) (ga gb g0 : List Grid) (A B : List Row)
    (ta : TracksA fo a ga A) (tb : TracksA fo b gb B) (hlat : lattice ga = lattice gb) (hm : MonoGrids fo ga)
    (hb0 : HullN fo g0 gb (B.map (·.1))) (hz : ∀ g ∈ g0, g.count = 0)
    (ops : List OpN) (hops : enteredRows ops = B)
    (hv : ∀ op ∈ ops, op.Valid ga.length) (hacc : ∀ op ∈ ops, op.Accepted ga.length)
    (hreach : ∀ r ∈ B, ReachGrids fo fuel ga r.1) :
    ∃ r r' : HN, a.iadd fo b = .ok r ∧ ops.foldlM (OpN.apply fo fuel) a = .ok r' ∧
      r.axes = r'.axes ∧ r.freq = r'.freq ∧ r.err2 = r'.err2 ∧ r.missed = r'.missed := by
  obtain ⟨r, gr, e, t, u, _⟩ := C05_nd_adaptive fo a b ga gb A B ta tb hlat hm
  obtain ⟨r', gr', e', t', u', _⟩ := tracksA_history fo fuel ops a ga A ta hm hv hacc (by rw [hops]; exact hreach)
  rw [hops] at t' u'
  obtain ⟨_, h1, h2, h3, h4⟩ := tracksA_agree hm t t' (u.toHullN fo hlat hb0 hz) u'
  exact ⟨r, r', e, e', h1, h2, h3, h4⟩

/-- **Commutative**: `a + b` and `b + a` are both accepted and have the same bins (and right-edge rule) on
    every axis, the same contents, squared errors, missed, total and dtype.  The axis RECORDS are equal too
    unless some axis is empty in both operands (then the unobservable first-cell numbers may differ, as in
    one dimension). -/
theorem C05_nd_adaptive_comm (fo : FloatOps) (a b : HN) (ga gb : List Grid) (A B : List Row)
    (ta : TracksA fo a ga A) (tb : TracksA fo b gb B) (hlat : lattice ga = lattice gb) (hm : MonoGrids fo ga) :
    ∃ r1 r2 : HN, a.iadd fo b = .ok r1 ∧ b.iadd fo a = .ok r2 ∧
      r1.axesBins fo = r2.axesBins fo ∧ r1.freq = r2.freq ∧ r1.err2 = r2.err2 ∧ r1.missed = r2.missed ∧
      r1.total = r2.total ∧ r1.dtype = r2.dtype ∧
      ((∀ (i : Nat) (g1 g2 : Grid), ga[i]? = some g1 → gb[i]? = some g2 → 0 < g1.count ∨ 0 < g2.count) →
        r1.axes = r2.axes) := by
  have hmb : MonoGrids fo gb := hm.of_lattice hlat.symm
  obtain ⟨r1, g1, e1, t1, u1, d1, _⟩ := C05_nd_adaptive fo a b ga gb A B ta tb hlat hm
  obtain ⟨r2, g2, e2, t2, u2, d2, _⟩ := C05_nd_adaptive fo b a gb ga B A tb ta hlat.symm hmb
  have h1 : HullAll [ga, gb] g1 := (HullAll.single ga).union (HullAll.single gb) u1
  have h2 : HullAll [gb, ga] g2 := (HullAll.single gb).union (HullAll.single ga) u2
  have hmem : ∀ x, x ∈ [ga, gb] ↔ x ∈ [gb, ga] := by intro x; simp [or_comm]
  have hl : lattice g1 = lattice g2 := by rw [u1.lattice, u2.lattice, hlat]
  obtain ⟨b1, b2, b3, b4, b5⟩ := tracksA_agree_hull t1 t2 h1 h2 hmem hl List.perm_append_comm
  refine ⟨r1, r2, e1, e2, b1, b2, b3, b4, b5, ?_, ?_⟩
  · rw [d1, d2]; exact (C13_promote_algebra.1 _ (DType.mem_all _) _ (DType.mem_all _))
  · intro hne
    rw [t1.hax, t2.hax]
    congr 1
    apply h1.grids_eq h2 hmem hl t1.flags t2.flags
    intro g hg
    obtain ⟨i, h'⟩ := List.getElem?_of_mem hg
    obtain ⟨x1, x2, e1, e2, _, _, _, _, _, su⟩ := u1.axis h'
    exact su.pos_iff.mpr (hne i x1 x2 e1 e2)

/-- **Associative**: `(a + b) + c` and `a + (b + c)` are accepted at every step and agree likewise. -/
theorem C05_nd_adaptive_assoc (fo : FloatOps) (a b c : HN) (ga gb gc : List Grid) (A B C : List Row)
    (ta : TracksA fo a ga A) (tb : TracksA fo b gb B) (tc : TracksA fo c gc C)
    (hlat : lattice ga = lattice gb) (hlat2 : lattice gb = lattice gc) (hm : MonoGrids fo ga) :
    ∃ ab abc bc abc' : HN, a.iadd fo b = .ok ab ∧ ab.iadd fo c = .ok abc ∧
      b.iadd fo c = .ok bc ∧ a.iadd fo bc = .ok abc' ∧
      abc.axesBins fo = abc'.axesBins fo ∧ abc.freq = abc'.freq ∧ abc.err2 = abc'.err2 ∧
      abc.missed = abc'.missed ∧ abc.total = abc'.total ∧ abc.dtype = abc'.dtype := by
  have hmb : MonoGrids fo gb := hm.of_lattice hlat.symm
  obtain ⟨ab, g1, e1, t1, u1, d1, _⟩ := C05_nd_adaptive fo a b ga gb A B ta tb hlat hm
  obtain ⟨abc, g2, e2, t2, u2, d2, _⟩ := C05_nd_adaptive fo ab c g1 gc (A ++ B) C t1 tc
    (by rw [u1.lattice, hlat, hlat2]) (hm.of_lattice u1.lattice)
  obtain ⟨bc, g3, e3, t3, u3, d3, _⟩ := C05_nd_adaptive fo b c gb gc B C tb tc hlat2 hmb
  obtain ⟨abc', g4, e4, t4, u4, d4, _⟩ := C05_nd_adaptive fo a bc ga g3 A (B ++ C) ta t3
    (by rw [u3.lattice, hlat]) hm
  have h2 : HullAll ([ga, gb] ++ [gc]) g2 :=
    ((HullAll.single ga).union (HullAll.single gb) u1).union (HullAll.single gc) u2
  have h4 : HullAll ([ga] ++ [gb, gc]) g4 :=
    (HullAll.single ga).union ((HullAll.single gb).union (HullAll.single gc) u3) u4
  have hl : lattice g2 = lattice g4 := by rw [u2.lattice, u1.lattice, u4.lattice]
  obtain ⟨b1, b2, b3, b4, b5⟩ := tracksA_agree_hull t2 t4 h2 h4 (fun x => Iff.rfl) hl (by rw [List.append_assoc])
  refine ⟨ab, abc, bc, abc', e1, e2, e3, e4, b1, b2, b3, b4, b5, ?_⟩
  rw [d2, d1, d4, d3]
  exact (C13_promote_algebra.2.2 _ (DType.mem_all _) _ (DType.mem_all _) _ (DType.mem_all _))

/-- **`sum()` over any list of chunk histograms** (a partition of the rows, dask chunks; N-d analogue of
    `C05_adaptive_sum`): every chunk `p.1` holds the histogram of its rows `p.2.2` on its own grids `p.2.1`,
    all with the widths and origins `lat`.  Folding `+=` over the chunks is accepted at every step, and the
    result holds the histogram of ALL the rows; per axis its range is the hull of all the chunk ranges
    (`HullAll` / `SpanList`: every non-empty range is contained and both ends are attained). -/
theorem C05_nd_adaptive_chunks (fo : FloatOps) (lat : List (Rat × Rat)) (hm : ∀ p ∈ lat, EdgeMono fo p.1 p.2)
    (rest : List (HN × List Grid × List Row))
    (hrest : ∀ p ∈ rest, TracksA fo p.1 p.2.1 p.2.2 ∧ lattice p.2.1 = lat)
    (first : HN) (gf : List Grid) (F : List Row) (tf : TracksA fo first gf F) (hlf : lattice gf = lat) :
    ∃ (r : HN) (gr : List Grid), rest.foldlM (fun acc p => acc.iadd fo p.1) first = .ok r ∧
      TracksA fo r gr (F ++ (rest.map (·.2.2)).flatten) ∧ lattice gr = lat ∧
      HullAll (gf :: rest.map (·.2.1)) gr := by
  -- the last chunk is added last: induction from the right
  induction hn : rest.length generalizing rest with
  | zero =>
    obtain rfl := List.eq_nil_of_length_eq_zero hn
    exact ⟨first, gf, rfl, by simpa using tf, hlf, HullAll.single gf⟩
  | succ n ih =>
    obtain ⟨ps, p, rfl⟩ := (List.eq_nil_or_concat' rest).resolve_left (by rintro rfl; cases hn)
    obtain ⟨m, gm, em, tm, lm, hm'⟩ := ih ps (fun q hq => hrest q (List.mem_append_left _ hq)) (by simpa using hn)
    obtain ⟨tp, hlp⟩ := hrest p (by simp)
    obtain ⟨r, gr, er, tr, ur, _⟩ := C05_nd_adaptive fo m p.1 gm p.2.1 _ p.2.2 tm tp (by rw [lm, hlp])
      (monoGrids_of_lattice hm lm)
    refine ⟨r, gr, ?_, ?_, ur.lattice.trans lm, ?_⟩
    · rw [List.foldlM_append, em]
      simp only [List.foldlM_cons, List.foldlM_nil, bind, Except.bind, er, pure, Except.pure]
    · simpa [List.append_assoc] using tr
    · simpa using hm'.union (HullAll.single p.2.1) ur

/-- **Any bracketing**: a tree of additions over chunk histograms (`SumTree`: leaves = chunks, nodes = `+`) is
    accepted at every node and gives the histogram of all the rows on the hull of all the chunk ranges. -/
theorem C05_nd_adaptive_any_bracketing (fo : FloatOps) (lat : List (Rat × Rat))
    (hm : ∀ p ∈ lat, EdgeMono fo p.1 p.2) (t : SumTree) (good : t.Good fo lat) :
    ∃ (r : HN) (gr : List Grid), t.eval fo = .ok r ∧ TracksA fo r gr t.rows ∧ lattice gr = lat ∧
      HullAll t.grids gr := by
  induction t with
  | leaf h g rows =>
    obtain ⟨th, hl⟩ := good (h, g, rows) (by simp [SumTree.leaves])
    exact ⟨h, g, rfl, by simpa [SumTree.rows, SumTree.leaves] using th, hl,
      by simpa [SumTree.grids, SumTree.leaves] using HullAll.single g⟩
  | add l r ihl ihr =>
    obtain ⟨a, ga, ea, ta, la, ha⟩ := ihl (fun p hp => good p (by simp [SumTree.leaves, hp]))
    obtain ⟨b, gb, eb, tb, lb, hb⟩ := ihr (fun p hp => good p (by simp [SumTree.leaves, hp]))
    obtain ⟨m, gm, em, tm, um, _⟩ := C05_nd_adaptive fo a b ga gb l.rows r.rows ta tb (by rw [la, lb])
      (monoGrids_of_lattice hm la)
    refine ⟨m, gm, ?_, ?_, um.lattice.trans la, ?_⟩
    · simp only [SumTree.eval, ea, eb, Except.bind]
      exact em
    · have : (SumTree.add l r).rows = l.rows ++ r.rows := by
        simp [SumTree.rows, SumTree.leaves, List.flatten_append]
      rw [this]; exact tm
    · have : (SumTree.add l r).grids = l.grids ++ r.grids := by simp [SumTree.grids, SumTree.leaves]
      rw [this]; exact ha.union hb um

/-- **Any bracketing and any order**: two trees of additions over the same chunks (the leaves of one are a
    permutation of the leaves of the other) are both accepted and give the same bins on every axis, the same
    contents, squared errors, missed and total. -/
theorem C05_nd_adaptive_any_order (fo : FloatOps) (lat : List (Rat × Rat)) (hm : ∀ p ∈ lat, EdgeMono fo p.1 p.2)
    (t1 t2 : SumTree) (good1 : t1.Good fo lat) (hp : t1.leaves.Perm t2.leaves) :
    ∃ r1 r2 : HN, t1.eval fo = .ok r1 ∧ t2.eval fo = .ok r2 ∧
      r1.axesBins fo = r2.axesBins fo ∧ r1.freq = r2.freq ∧ r1.err2 = r2.err2 ∧ r1.missed = r2.missed ∧
      r1.total = r2.total := by
  have good2 : t2.Good fo lat := fun p hp2 => good1 p (hp.mem_iff.mpr hp2)
  obtain ⟨r1, g1, e1, tr1, l1, h1⟩ := C05_nd_adaptive_any_bracketing fo lat hm t1 good1
  obtain ⟨r2, g2, e2, tr2, l2, h2⟩ := C05_nd_adaptive_any_bracketing fo lat hm t2 good2
  exact ⟨r1, r2, e1, e2, tracksA_agree_hull tr1 tr2 h1 h2 (fun x => (hp.map (·.2.1)).mem_iff) (l1.trans l2.symm)
    (hp.map (fun p : HN × List Grid × List Row => p.2.2)).flatten⟩

/-! ## Refusals (a refused call returns `.error`: the caller's histogram is what it was) -/

/-- a different number of axes -/
theorem C05_nd_refuse_dimension (fo : FloatOps) (a b : HN) (hl : a.axes.length ≠ b.axes.length) :
    a.iadd fo b = .error "different dimensions" := by
  rw [HN.iadd_eq, if_pos (by simpa using hl)]

/-- the refusal `C05_nd_refuse_lattice` (below): for an all-adaptive left operand and a right operand without
    positive missed the message is the one of `FixedWidthBinning._adapt` -/
theorem C05_nd_refuse_lattice_msg (fo : FloatOps) (a b : HN) (ga gb : List Grid) (ha : a.axes = ga.map Binning.fixed)
    (hb : b.axes = gb.map Binning.fixed) (hlen : ga.length = gb.length)
    (hall : ∀ g ∈ ga, g.adaptive = true) (hmiss : ∀ m, b.missed = some m → ¬ 0 < m)
    (i : Nat) (g1 g2 : Grid) (h1 : ga[i]? = some g1) (h2 : gb[i]? = some g2)
    (hbins : g1.bins fo ≠ g2.bins fo) (hmis : g1.w ≠ g2.w ∨ g1.shift ≠ g2.shift) :
    ∃ e, a.iadd fo b = .error e ∧ (e = "different widths" ∨ e = "different shifts") := by
  have hl : a.axes.length = b.axes.length := by rw [ha, hb]; simpa using hlen
  have hs := sameBins_eq_false (fo := fo) ha hb h1 h2 hbins
  have e0 := iaddN_grow fo a b hl hs (by rw [ha]; exact (all_isAdaptive_map_fixed ga).mpr hall) hmiss
  rw [HN.iaddGrow, if_neg (by simp [hb, all_adaptiveAllowed_map_fixed gb])] at e0
  obtain ⟨e1, he1⟩ := adaptGrids_mismatch g1 g2 hmis
  have hp : planOf fo (Binning.fixed g1, Binning.fixed g2) = .error e1 := by
    simp [planOf, hbins, he1]
  have hz : ((ga.map Binning.fixed).zip (gb.map Binning.fixed))[i]? = some (Binning.fixed g1, Binning.fixed g2) := by
    simp [List.getElem?_zip_eq_some, List.getElem?_map, h1, h2]
  obtain ⟨e', hm, y, hy, hye⟩ := mapM_error_of_getElem (planOf fo) _ i _ e1 hz hp
  refine ⟨e', ?_, ?_⟩
  · rw [e0, ha, hb, hm]; rfl
  · obtain ⟨y1, y2⟩ := y
    obtain ⟨m1, m2⟩ := List.of_mem_zip hy
    obtain ⟨x1, _, rfl⟩ := List.mem_map.mp m1
    obtain ⟨x2, _, rfl⟩ := List.mem_map.mp m2
    exact planOf_fixed_error fo x1 x2 e' hye

/-- a right operand with positive `missed` is refused as soon as the bins differ (any kind of axes on the
    right) … -/
theorem C05_nd_refuse_missed (fo : FloatOps) (a b : HN) (hl : a.axes.length = b.axes.length)
    (hs : a.sameBins fo b = false) (ha : a.axes.all Binning.isAdaptive = true) (m : Rat)
    (hm : b.missed = some m) (hpos : 0 < m) : a.iadd fo b = .error "other has missed values" := by
  rw [HN.iadd_eq, if_neg (by simp [hl]), if_neg (by simp [hs]), if_pos ha, hm]
  exact if_pos hpos

/-- … while with equal bins the same operand is accepted and its missed weight is added -/
theorem C05_nd_same_bins_adds_missed (fo : FloatOps) (a b : HN) (hl : a.axes.length = b.axes.length)
    (hs : a.sameBins fo b = true) :
    a.iadd fo b = .ok { a with dtype := a.dtype.promote b.dtype, freq := Arr.zipWith (· + ·) a.freq b.freq,
                               err2 := Arr.zipWith (· + ·) a.err2 b.err2, missed := nadd a.missed b.missed } := by
  rw [HN.iadd_eq, if_neg (by simp [hl]), if_pos hs]

/-- different bins and a left operand that is not adaptive on every axis -/
theorem C05_nd_refuse_nonadaptive (fo : FloatOps) (a b : HN) (hl : a.axes.length = b.axes.length)
    (hs : a.sameBins fo b = false) (ha : a.axes.all Binning.isAdaptive = false) :
    a.iadd fo b = .error "incompatible binning" := by
  rw [HN.iadd_eq, if_neg (by simp [hl]), if_neg (by simp [hs]), if_neg (by simp [ha])]

/-- **A width or origin mismatch on SOME axis refuses the whole call**, whatever the other axes look like
    (the common grids of all axes are planned before any array is touched).  Hypothesis `hbins`: the bins of
    that axis differ — an axis empty in both operands is not compared (see the last example). -/
theorem C05_nd_refuse_lattice (fo : FloatOps) (a b : HN) (ga gb : List Grid) (ha : a.axes = ga.map Binning.fixed)
    (hb : b.axes = gb.map Binning.fixed) (hlen : ga.length = gb.length)
    (i : Nat) (g1 g2 : Grid) (h1 : ga[i]? = some g1) (h2 : gb[i]? = some g2)
    (hbins : g1.bins fo ≠ g2.bins fo) (hmis : g1.w ≠ g2.w ∨ g1.shift ≠ g2.shift) :
    ∃ e, a.iadd fo b = .error e := by
  have hl : a.axes.length = b.axes.length := by rw [ha, hb]; simpa using hlen
  have hs := sameBins_eq_false (fo := fo) ha hb h1 h2 hbins
  by_cases hall : a.axes.all Binning.isAdaptive = true
  · by_cases hmiss : ∀ m, b.missed = some m → ¬ 0 < m
    · obtain ⟨e, he, _⟩ := C05_nd_refuse_lattice_msg fo a b ga gb ha hb hlen
        ((all_isAdaptive_map_fixed ga).mp (ha ▸ hall)) hmiss i g1 g2 h1 h2 hbins hmis
      exact ⟨e, he⟩
    · simp only [not_forall, not_not] at hmiss
      obtain ⟨m, hm, hpos⟩ := hmiss
      exact ⟨_, C05_nd_refuse_missed fo a b hl hs hall m hm hpos⟩
  · exact ⟨_, C05_nd_refuse_nonadaptive fo a b hl hs (by simpa using hall)⟩

/-! ## Non-vacuity: two 2-D adaptive histograms, widths 1/2 and 2

`a` is filled with the rows `(1/4, 1)` and `(3, 5)` (weight 2): axis 0 spans the cells `0 … 6` of the grid
`k/2`, axis 1 the cells `0 … 2` of the grid `2k`.  `b` is filled by one weighted `fill_n` batch (with a NaN
row) with `(-2, 3)` and `(-1/2, 9)`: axis 0 spans the cells `-4 … -1` — DISJOINT from `a`'s range —, axis 1
the cells `1 … 4` — OVERLAPPING `a`'s range.  `h0` is the empty histogram (no bins on either axis). -/

namespace ExampleAdaptiveAddND

def grids0 : List Grid := [{ w := 1 / 2, adaptive := true }, { w := 2, adaptive := true }]
def h0 : HN := HN.empty FloatOps.exact (grids0.map Binning.fixed) true none none

def opsA : List OpN := [.fill [some (1 / 4), some 1] 1 .pyInt, .fill [some 3, some 5] 2 .pyInt]
def opsB : List OpN :=
  [.fillN [[some (-2), some 3], [none, some 7], [some (-1 / 2), some 9]] (some [1, 5, 3]) .i64]

def rowsA : List Row := [([1 / 4, 1], 1), ([3, 5], 2)]
def rowsB : List Row := [([-2, 3], 1), ([-1 / 2, 9], 3)]

theorem rowsA_eq : enteredRows opsA = rowsA := by decide +kernel
theorem rowsB_eq : enteredRows opsB = rowsB := by decide +kernel

theorem flags : ∀ g ∈ grids0, g.adaptive = true ∧ g.align = true ∧ g.ire = false := by decide

theorem widths : ∀ g ∈ grids0, 0 < g.w := by decide +kernel

theorem mono : ∀ p ∈ lattice grids0, EdgeMono FloatOps.exact p.1 p.2 := by
  intro p hp
  simp only [lattice, grids0, List.map_cons, List.map_nil, List.mem_cons, List.not_mem_nil, or_false] at hp
  rcases hp with rfl | rfl <;> exact C04_exact_mono _ _ (by norm_num)

theorem start : TracksA FloatOps.exact h0 grids0 [] := tracksA_empty _ grids0 flags true none none

/-- the two operands exist and satisfy the hypotheses of the theorems: each holds the histogram of its rows on
    its own grids, on the lattice of `grids0`; the grids of each are the hull of its rows -/
theorem operands : ∃ (a b : HN) (ga gb : List Grid),
    opsA.foldlM (OpN.apply FloatOps.exact 4) h0 = .ok a ∧ opsB.foldlM (OpN.apply FloatOps.exact 4) h0 = .ok b ∧
    TracksA FloatOps.exact a ga rowsA ∧ TracksA FloatOps.exact b gb rowsB ∧
    lattice ga = lattice grids0 ∧ lattice gb = lattice grids0 ∧
    HullN FloatOps.exact grids0 ga (rowsA.map (·.1)) ∧ HullN FloatOps.exact grids0 gb (rowsB.map (·.1)) := by
  obtain ⟨a, ga, ea, ta, ua, _⟩ := C04_nd_every_history_exact 4 opsA h0 grids0 [] start widths
    (by simp [opsA, OpN.Valid, grids0]) (by simp [opsA, OpN.Accepted])
  obtain ⟨b, gb, eb, tb, ub, _⟩ := C04_nd_every_history_exact 4 opsB h0 grids0 [] start widths
    (by simp [opsB, OpN.Valid]) (by simp [opsB, OpN.Accepted, grids0])
  rw [List.nil_append, rowsA_eq] at ta
  rw [List.nil_append, rowsB_eq] at tb
  rw [rowsA_eq] at ua
  rw [rowsB_eq] at ub
  exact ⟨a, b, ga, gb, ea, eb, ta, tb, ua.lattice_eq, ub.lattice_eq, ua, ub⟩

/-- **`C05_nd_adaptive` and `C05_nd_adaptive_nothing_lost` applied**: `a + b` is accepted, holds the histogram of the four rows on
    the union grids, total `7 = 3 + 4`, nothing missed. -/
example : ∃ (a b r : HN) (ga gb gr : List Grid),
    opsA.foldlM (OpN.apply FloatOps.exact 4) h0 = .ok a ∧ opsB.foldlM (OpN.apply FloatOps.exact 4) h0 = .ok b ∧
    a.iadd FloatOps.exact b = .ok r ∧ TracksA FloatOps.exact r gr (rowsA ++ rowsB) ∧ UnionN ga gb gr ∧
    r.freq = (calcND (r.axesBins FloatOps.exact) (rowsA ++ rowsB)).freq ∧ r.missed = some 0 ∧
    r.total = a.total + b.total := by
  obtain ⟨a, b, ga, gb, ea, eb, ta, tb, la, lb, _, _⟩ := operands
  have hm : MonoGrids FloatOps.exact ga := monoGrids_of_lattice mono la
  obtain ⟨r, gr, e, t, u, _⟩ := C05_nd_adaptive FloatOps.exact a b ga gb rowsA rowsB ta tb (la.trans lb.symm) hm
  obtain ⟨r', gr', e', _, _, hf, _, hz, _, ht, _⟩ :=
    C05_nd_adaptive_nothing_lost FloatOps.exact a b ga gb rowsA rowsB ta tb (la.trans lb.symm) hm
  rw [e] at e'
  cases e'
  exact ⟨a, b, r, ga, gb, gr, ea, eb, e, t, u, hf, hz, ht⟩

/-- "= filling" for operands like these -/
theorem fill_applied {a b : HN} {ga gb : List Grid} (ta : TracksA FloatOps.exact a ga rowsA)
    (tb : TracksA FloatOps.exact b gb rowsB) (la : lattice ga = lattice grids0) (lb : lattice gb = lattice grids0)
    (ub : HullN FloatOps.exact grids0 gb (rowsB.map (·.1))) :
    ∃ r r', a.iadd FloatOps.exact b = .ok r ∧ opsB.foldlM (OpN.apply FloatOps.exact 4) a = .ok r' ∧
      r.axes = r'.axes ∧ r.freq = r'.freq ∧ r.err2 = r'.err2 ∧ r.missed = r'.missed := by
  have hlen : ga.length = 2 := by rw [← lattice_length, la]; rfl
  apply C05_nd_adaptive_eq_fill FloatOps.exact 4 a b ga gb grids0 rowsA rowsB ta tb (la.trans lb.symm)
    (monoGrids_of_lattice mono la) ub (by decide) opsB rowsB_eq
  · simp [opsB, OpN.Valid]
  · simp [opsB, OpN.Accepted, hlen]
  · exact fun r _ => reachGrids_exact ga (pos_of_lattice la widths) 4 r.1

/-- **Commutativity, "= filling", and sums in any order applied** to these operands and the empty histogram. -/
example : ∃ (a b : HN),
    opsA.foldlM (OpN.apply FloatOps.exact 4) h0 = .ok a ∧ opsB.foldlM (OpN.apply FloatOps.exact 4) h0 = .ok b ∧
    (∃ r1 r2, a.iadd FloatOps.exact b = .ok r1 ∧ b.iadd FloatOps.exact a = .ok r2 ∧
      r1.axesBins FloatOps.exact = r2.axesBins FloatOps.exact ∧ r1.freq = r2.freq ∧ r1.err2 = r2.err2 ∧
      r1.missed = r2.missed) ∧
    (∃ r r', a.iadd FloatOps.exact b = .ok r ∧ opsB.foldlM (OpN.apply FloatOps.exact 4) a = .ok r' ∧
      r.axes = r'.axes ∧ r.freq = r'.freq ∧ r.err2 = r'.err2 ∧ r.missed = r'.missed) ∧
    (∃ r1 r2 ga gb, (SumTree.add (.add (.leaf a ga rowsA) (.leaf b gb rowsB)) (.leaf h0 grids0 [])).eval FloatOps.exact = .ok r1 ∧
      (SumTree.add (.leaf b gb rowsB) (.add (.leaf h0 grids0 []) (.leaf a ga rowsA))).eval FloatOps.exact = .ok r2 ∧
      r1.axesBins FloatOps.exact = r2.axesBins FloatOps.exact ∧ r1.freq = r2.freq ∧ r1.err2 = r2.err2 ∧
      r1.missed = r2.missed ∧ r1.total = r2.total) := by
  obtain ⟨a, b, ga, gb, ea, eb, ta, tb, la, lb, _, ub⟩ := operands
  have hm : MonoGrids FloatOps.exact ga := monoGrids_of_lattice mono la
  have hlat := la.trans lb.symm
  refine ⟨a, b, ea, eb, ?_, ?_, ?_⟩
  · obtain ⟨r1, r2, e1, e2, h1, h2, h3, h4, _⟩ := C05_nd_adaptive_comm FloatOps.exact a b ga gb rowsA rowsB ta tb hlat hm
    exact ⟨r1, r2, e1, e2, h1, h2, h3, h4⟩
  · exact fill_applied ta tb la lb ub
  · obtain ⟨r1, r2, e1, e2, h⟩ := C05_nd_adaptive_any_order FloatOps.exact (lattice grids0) mono
      (.add (.add (.leaf a ga rowsA) (.leaf b gb rowsB)) (.leaf h0 grids0 []))
      (.add (.leaf b gb rowsB) (.add (.leaf h0 grids0 []) (.leaf a ga rowsA)))
      (by intro p hp
          simp only [SumTree.leaves, List.cons_append, List.nil_append, List.mem_cons, List.not_mem_nil, or_false] at hp
          rcases hp with rfl | rfl | rfl
          · exact ⟨ta, la⟩
          · exact ⟨tb, lb⟩
          · exact ⟨start, rfl⟩)
      (by simp only [SumTree.leaves, List.cons_append, List.nil_append]
          exact (List.Perm.swap _ _ _).trans (List.Perm.cons _ (List.Perm.swap _ _ _)))
    exact ⟨r1, r2, ga, gb, e1, e2, h⟩

/-! ### The model computes what the theorems say -/

def resA : R HN := opsA.foldlM (OpN.apply FloatOps.exact 4) h0
def resB : R HN := opsB.foldlM (OpN.apply FloatOps.exact 4) h0
def plus (x y : R HN) : R HN := x.bind fun a => y.bind fun b => a.iadd FloatOps.exact b

/-- the operands and their sum, written out (the cells of the rows hold the weights, the others are zero) -/
def a0 : HN :=
  { axes := [.fixed { w := 1 / 2, count := 7, adaptive := true }, .fixed { w := 2, count := 3, adaptive := true }]
    freq := Arr.ofFn [7, 3] fun i => if i = [0, 0] then 1 else if i = [6, 2] then 2 else 0
    err2 := Arr.ofFn [7, 3] fun i => if i = [0, 0] then 1 else if i = [6, 2] then 4 else 0
    names := ["axis0", "axis1"] }

def b0 : HN :=
  { axes := [.fixed { w := 1 / 2, tmin := -4, count := 4, adaptive := true },
             .fixed { w := 2, tmin := 1, count := 4, adaptive := true }]
    freq := Arr.ofFn [4, 4] fun i => if i = [0, 0] then 1 else if i = [3, 3] then 3 else 0
    err2 := Arr.ofFn [4, 4] fun i => if i = [0, 0] then 1 else if i = [3, 3] then 9 else 0
    names := ["axis0", "axis1"] }

def s0 : HN :=
  { axes := [.fixed { w := 1 / 2, tmin := -4, count := 11, adaptive := true }, .fixed { w := 2, count := 5, adaptive := true }]
    freq := Arr.ofFn [11, 5] fun i =>
      if i = [0, 1] then 1 else if i = [3, 4] then 3 else if i = [4, 0] then 1 else if i = [10, 2] then 2 else 0
    err2 := Arr.ofFn [11, 5] fun i =>
      if i = [0, 1] then 1 else if i = [3, 4] then 9 else if i = [4, 0] then 1 else if i = [10, 2] then 4 else 0
    names := ["axis0", "axis1"] }

theorem resA_eq : resA = .ok a0 := by decide +kernel
theorem resB_eq : resB = .ok b0 := by decide +kernel
theorem plus_ab : plus resA resB = .ok s0 := by
  rw [resA_eq, resB_eq]
  decide +kernel

/-- the operands: axis 0 disjoint (`0 … 6` and `-4 … -1`), axis 1 overlapping (`0 … 2` and `1 … 4`); the bins
    differ, so `+` takes the adapting branch -/
example :
    resA.map (fun r => (r.axes, r.total)) =
      .ok ([.fixed { w := 1 / 2, tmin := 0, count := 7, adaptive := true },
            .fixed { w := 2, tmin := 0, count := 3, adaptive := true }], 3) ∧
    resB.map (fun r => (r.axes, r.total)) =
      .ok ([.fixed { w := 1 / 2, tmin := -4, count := 4, adaptive := true },
            .fixed { w := 2, tmin := 1, count := 4, adaptive := true }], 4) ∧
    (resA.bind fun a => resB.map fun b => a.sameBins FloatOps.exact b) = .ok false := by
  rw [resA_eq, resB_eq]
  decide +kernel

/-- `a + b`: axis 0 spans `-4 … 6` (11 cells), axis 1 spans `0 … 4` (5 cells) — the unions; total `7`; nothing
    missed; the four weights sit in the cells of their rows; the contents are the batch histogram of all four
    rows over the final bins -/
example :
    (plus resA resB).map (fun r => (r.axes, r.freq.shape, r.total, r.missed)) =
      .ok ([.fixed { w := 1 / 2, tmin := -4, count := 11, adaptive := true },
            .fixed { w := 2, tmin := 0, count := 5, adaptive := true }], [11, 5], 7, some 0) ∧
    (plus resA resB).map (fun r => (r.freq.get [4, 0], r.freq.get [10, 2], r.freq.get [0, 1], r.freq.get [3, 4]))
      = .ok (1, 2, 1, 3) ∧
    (plus resA resB).map (fun r => (r.err2.get [3, 4], r.findBin FloatOps.exact [-1 / 2, 9])) = .ok (9, some [3, 4]) ∧
    (plus resA resB).map (fun r => decide (r.freq = (calcND (r.axesBins FloatOps.exact) (rowsA ++ rowsB)).freq ∧
        r.err2 = (calcND (r.axesBins FloatOps.exact) (rowsA ++ rowsB)).err2)) = .ok true := by
  rw [plus_ab]
  decide +kernel

/-- `a + b` and `b + a` have the same axis records, contents, squared errors and missed; both equal the
    histogram obtained by filling all four rows into the empty histogram, and by filling `b`'s rows into `a` -/
example :
    (plus resA resB).map (fun r => (r.axes, r.freq, r.err2, r.missed)) =
      (plus resB resA).map (fun r => (r.axes, r.freq, r.err2, r.missed)) ∧
    (plus resA resB).map (fun r => (r.axes, r.freq, r.err2, r.missed)) =
      ((opsA ++ opsB).foldlM (OpN.apply FloatOps.exact 4) h0).map (fun r => (r.axes, r.freq, r.err2, r.missed)) ∧
    (plus resA resB).map (fun r => (r.axes, r.freq, r.err2, r.missed)) =
      (resA.bind fun a => opsB.foldlM (OpN.apply FloatOps.exact 4) a).map (fun r => (r.axes, r.freq, r.err2, r.missed)) := by
  obtain ⟨a, b, ga, gb, ea, eb, ta, tb, la, lb, ua, ub⟩ := operands
  obtain ⟨r1, r2, e1, e2, _, c2, c3, c4, _, _, hax⟩ := C05_nd_adaptive_comm FloatOps.exact a b ga gb rowsA rowsB ta tb
    (la.trans lb.symm) (monoGrids_of_lattice mono la)
  obtain ⟨r, r', e, e', f1, f2, f3, f4⟩ := fill_applied ta tb la lb ub
  rw [e1] at e
  cases e
  -- every axis of `a` has cells, so the axis records of `a + b` and `b + a` agree too
  have c1 : r1.axes = r2.axes := by
    refine hax fun i g1 _ h1 _ => Or.inl ?_
    have hi : i < 2 := by
      have := (List.getElem?_eq_some_iff.mp h1).1
      rwa [← lattice_length, la] at this
    obtain rfl | rfl : i = 0 ∨ i = 1 := by omega
    · exact (ua.each 0 _ g1 rfl h1).pos (Or.inr (by decide))
    · exact (ua.each 1 _ g1 rfl h1).pos (Or.inr (by decide))
  simp only [plus, resA, resB, List.foldlM_append, ea, eb, bind, Except.bind, e1, e2, e', Except.map]
  exact ⟨congrArg Except.ok (by simp only [c1, c2, c3, c4]), congrArg Except.ok (by simp only [f1, f2, f3, f4]),
    congrArg Except.ok (by simp only [f1, f2, f3, f4])⟩

/-- **one empty operand** (no bins on either axis; the `.fresh` instruction): `h0 + b` and `b + h0` are `b` -/
example :
    (plus (.ok h0) resB).map (fun r => (r.axes, r.freq, r.err2, r.missed)) =
      resB.map (fun r => (r.axes, r.freq, r.err2, r.missed)) ∧
    (plus resB (.ok h0)).map (fun r => (r.axes, r.freq, r.err2, r.missed)) =
      resB.map (fun r => (r.axes, r.freq, r.err2, r.missed)) := by
  rw [resB_eq]
  decide +kernel

/-- the theorem applied to the empty left operand -/
example : ∃ (b r : HN) (gb gr : List Grid), opsB.foldlM (OpN.apply FloatOps.exact 4) h0 = .ok b ∧
    h0.iadd FloatOps.exact b = .ok r ∧ TracksA FloatOps.exact r gr ([] ++ rowsB) ∧ UnionN grids0 gb gr := by
  obtain ⟨_, b, _, gb, _, eb, _, tb, _, lb, _, _⟩ := operands
  obtain ⟨r, gr, e, t, u, _⟩ := C05_nd_adaptive FloatOps.exact h0 b grids0 gb [] rowsB start tb lb.symm
    (monoGrids_exact grids0 widths)
  exact ⟨b, r, gb, gr, eb, e, t, u⟩

/-- **(a + b) + h0 and b + (h0 + a)**: any bracketing, any order -/
example :
    (plus (plus resA resB) (.ok h0)).map (fun r => (r.axes, r.freq, r.err2, r.missed)) =
      (plus resB (plus (.ok h0) resA)).map (fun r => (r.axes, r.freq, r.err2, r.missed)) := by
  rw [plus_ab, resA_eq, resB_eq]
  decide +kernel

/-! ### Refusals, computed -/

/-- a 1-D operand; a width mismatch on axis 1 only (axis 0 fits); an origin mismatch on axis 0 only; a right
    operand with positive missed (different bins: refused; equal bins: accepted, missed added) -/
example :
    plus resA (.ok (HN.empty FloatOps.exact [.fixed { w := 1 / 2, adaptive := true }] true none none))
      = .error "different dimensions" ∧
    plus resA (.ok (HN.empty FloatOps.exact
        [.fixed { w := 1 / 2, tmin := 1, count := 2, adaptive := true }, .fixed { w := 3, count := 1, adaptive := true }]
        true none none)) = .error "different widths" ∧
    plus resA (.ok (HN.empty FloatOps.exact
        [.fixed { w := 1 / 2, shift := 1 / 8, count := 2, adaptive := true }, .fixed { w := 2, count := 1, adaptive := true }]
        true none none)) = .error "different shifts" ∧
    (resA.bind fun a => resB.bind fun b => a.iadd FloatOps.exact { b with missed := some 1 })
      = .error "other has missed values" ∧
    (resA.bind fun a => (a.iadd FloatOps.exact { a with missed := some 1 }).map fun r => (r.total, r.missed))
      = .ok (6, some 1) := by
  rw [resA_eq, resB_eq]
  decide +kernel

/-- the refusal theorem applied: a width mismatch on axis 1 (bins `[0, 3)` against `[0,2) [2,4) [4,6)`) -/
example : ∃ a e, opsA.foldlM (OpN.apply FloatOps.exact 4) h0 = .ok a ∧
    a.iadd FloatOps.exact (HN.empty FloatOps.exact
      [.fixed { w := 1 / 2, tmin := 1, count := 2, adaptive := true }, .fixed { w := 3, count := 1, adaptive := true }]
      true none none) = .error e ∧ (e = "different widths" ∨ e = "different shifts") := by
  obtain ⟨a, _, ga, _, ea, _, ta, _, la, _, ua, _⟩ := operands
  have hlen : ga.length = 2 := by rw [← lattice_length, la]; rfl
  obtain ⟨g1, hg1⟩ : ∃ g1, ga[1]? = some g1 := ⟨ga[1], List.getElem?_eq_getElem (by omega)⟩
  have sp := ua.each 1 _ g1 (by rfl : grids0[1]? = some { w := 2, adaptive := true }) hg1
  have hw : g1.w = 2 := sp.w
  obtain ⟨e, he, hmsg⟩ := C05_nd_refuse_lattice_msg FloatOps.exact a
    (HN.empty FloatOps.exact
      [.fixed { w := 1 / 2, tmin := 1, count := 2, adaptive := true }, .fixed { w := 3, count := 1, adaptive := true }]
      true none none) ga
    [{ w := 1 / 2, tmin := 1, count := 2, adaptive := true }, { w := 3, count := 1, adaptive := true }]
    ta.hax rfl hlen (fun g hg => (ta.flags g hg).1) (by intro m hm; cases hm; exact lt_irrefl _)
    1 g1 { w := 3, count := 1, adaptive := true } hg1 rfl
    (by
      intro hb
      have h0 := congrArg (fun l => l[0]?.map (fun p => p.2 - p.1)) hb
      have hp : 0 < g1.count := sp.pos (Or.inr (by decide))
      simp only [bins_eq_binsFrom, binsFrom_getElem? _ _ _ 0 hp, binsFrom_getElem? _ _ _ 0 (by decide : 0 < 1),
        Option.map_some, Option.some.injEq, Grid.edgeAt, FloatOps.exact, hw] at h0
      norm_num at h0
      linarith)
    (Or.inl (by rw [hw]; norm_num))
  exact ⟨a, e, ea, he, hmsg⟩

/-- **Finding: an axis that is empty in BOTH operands is not compared.**  Two histograms without any bins whose
    second axes have widths `2` and `3` "have the same bins" and add up silently; and when the first axes have
    (different) bins and only the second axes are empty, the adapting branch plans "nothing to do" for the
    second axis and the sum keeps the LEFT operand's width `2` there: no refusal although the widths differ.
    (Such operands hold no content — an N-d histogram with an empty axis has no cells.) -/
example :
    (h0.iadd FloatOps.exact (HN.empty FloatOps.exact
        [.fixed { w := 1 / 2, adaptive := true }, .fixed { w := 3, adaptive := true }] true none none)).map (·.axes)
      = .ok h0.axes ∧
    ((HN.empty FloatOps.exact
        [.fixed { w := 1 / 2, count := 2, adaptive := true }, .fixed { w := 2, adaptive := true }] true none none).iadd
      FloatOps.exact (HN.empty FloatOps.exact
        [.fixed { w := 1 / 2, tmin := 5, count := 1, adaptive := true }, .fixed { w := 3, adaptive := true }]
        true none none)).map (·.axes)
      = .ok [.fixed { w := 1 / 2, count := 6, adaptive := true }, .fixed { w := 2, adaptive := true }] := by
  decide +kernel

end ExampleAdaptiveAddND

end Physt
