import Physt.Proofs.Quantiles
import Physt.Theorems.C01
/-!
# C14 (continued) — the median recorded by an unweighted construction is the data median
Helper lemmas: `Proofs/Quantiles.lean`.
-/
namespace Physt

/-- **Construction records the median of the values entered** (NaN dropped). -/
theorem C14_construct_median (fo : FloatOps) (b : Binning) (vs : List (Option Rat)) (wkind : DType)
    (dtype : Option DType) (keep dropna : Bool) (r : H1)
    (h : H1.construct fo b vs none wkind dtype keep dropna = .ok r) :
    r.stats.median = H1.medianOf (vs.filterMap id) := by
  have hv : (maskPts vs none).map (·.1) = vs.filterMap id := by
    rw [C01_nan_unweighted, List.map_map]; exact List.map_id _
  have hw : H1.allEqual ((maskPts vs none).map (·.2)) = true := by
    rw [C01_nan_unweighted, List.map_map]; exact allEqual_const _
  rw [construct_ok_stats h, statsOf_median, hw, if_pos rfl, ← hv]
  split
  next hd => rw [List.isEmpty_iff.mp hd]; rfl
  next => rfl

/-- **It is the median**, whatever sorting algorithm is used: for any sorted permutation `s` of the
    data it is the middle order statistic (odd count) or the mean of the two middle ones (even). -/
theorem C14_median_sorted (vs s : List Rat) (hp : s.Perm vs) (hs : s.Pairwise (· ≤ ·)) :
    (s.length = 0 → H1.medianOf vs = none) ∧
    (∀ h : s.length % 2 = 1, H1.medianOf vs = some (s[s.length / 2]'(by omega))) ∧
    (∀ (h : s.length % 2 = 0) (hpos : 0 < s.length),
      H1.medianOf vs = some ((s[s.length / 2 - 1]'(by omega) + s[s.length / 2]'(by omega)) / 2)) := by
  rw [medianOf_eq, ← sorted_perm_unique vs s hp hs]
  refine ⟨fun h => by simp [medianSorted, h], fun h => ?_, fun h hpos => ?_⟩
  · obtain ⟨m, hm⟩ : ∃ m, s.length = 2 * m + 1 := ⟨s.length / 2, by omega⟩
    simp only [medianSorted_odd hm, show s.length / 2 = m by omega]
  · obtain ⟨m, hm⟩ : ∃ m, s.length = 2 * m + 2 := ⟨s.length / 2 - 1, by omega⟩
    simp only [medianSorted_even hm, show s.length / 2 = m + 1 by omega, Nat.add_sub_cancel]

/-- at least half of the values are ≤ the median and at least half are ≥ it -/
theorem C14_median_halves (vs : List Rat) (m : Rat) (h : H1.medianOf vs = some m) :
    (vs.length + 1) / 2 ≤ vs.countP (fun v => decide (v ≤ m)) ∧
    (vs.length + 1) / 2 ≤ vs.countP (fun v => decide (m ≤ v)) :=
  medianOf_count vs m h

/-- the order of the data does not matter; the median is the 50 % quantile -/
theorem C14_median_perm_quantile (vs ws s : List Rat) (h : vs.Perm ws) (hp : s.Perm vs) (hs : s.Pairwise (· ≤ ·)) :
    H1.medianOf vs = H1.medianOf ws ∧ H1.medianOf vs = quantile s (1 / 2) :=
  ⟨medianOf_perm vs ws h, medianOf_eq_quantile vs s hp hs⟩

example : H1.medianOf [5, 1, 4, 2] = some 3 ∧ H1.medianOf [3, 1, 2] = some 2 := by decide +kernel

end Physt
