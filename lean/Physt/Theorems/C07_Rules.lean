import Physt.Proofs.Quantiles
/-!
# C07 (continued) — quantile edges, integer bins, exponential edges, agreement of the representations

Helper lemmas: `Proofs/Quantiles.lean`.  `quantile s q` is numpy's linear interpolation on the
sorted data `s`; the side condition `0 ≤ q ≤ 1` is exactly what `quantile_binning` guarantees
(kernel-checked counter-examples outside it are in the helper file).
-/
namespace Physt
open H1

/-- **A quantile lies between two neighbouring order statistics**, hence between minimum and maximum. -/
theorem C07_quantile_between (s : List Rat) (hs : s.Pairwise (· ≤ ·)) (hne : s ≠ []) (q : Rat)
    (hq0 : 0 ≤ q) (hq1 : q ≤ 1) :
    ∃ r, quantile s q = some r ∧ s.head hne ≤ r ∧ r ≤ s.getLast hne ∧
      ∃ hlo : floorNat (qpos s q) < s.length,
        s[floorNat (qpos s q)] ≤ r ∧
        (∀ h1 : floorNat (qpos s q) + 1 < s.length, r ≤ s[floorNat (qpos s q) + 1]) ∧
        (floorNat (qpos s q) + 1 = s.length → r = s.getLast hne) := by
  have hlo : floorNat (qpos s q) < s.length := by
    have := floorNat_le_of_le_natCast (qpos_le s hq1)
    have := List.length_pos_iff.mpr hne
    omega
  have hb := interp_bounds (clampGet s hne) (clampGet_mono s hne hs) (qpos_nonneg s hq0)
  have hr := interp_clampGet_mem_range s hs hne (qpos_nonneg s hq0)
  rw [clampGet_of_lt s hne _ hlo] at hb
  refine ⟨_, quantile_eq_interp s hne q hq1, hr.1, hr.2, hlo, hb.1, fun h1 => ?_, fun h1 => ?_⟩
  · exact (clampGet_of_lt s hne _ h1) ▸ hb.2
  · have hlast : s[floorNat (qpos s q)] = s.getLast hne := by
      rw [List.getLast_eq_getElem]
      congr 1
      omega
    exact le_antisymm hr.2 (hlast ▸ hb.1)

/-- `q = 0` is the minimum, `q = 1` the maximum, `q = k/(n−1)` the k-th order statistic -/
theorem C07_quantile_points (s : List Rat) :
    quantile s 0 = s.head? ∧ quantile s 1 = s.getLast? ∧
    ∀ (hlen : 2 ≤ s.length) (k : Nat) (hk : k ≤ s.length - 1),
      quantile s ((k : Rat) / ((s.length - 1 : Nat) : Rat)) = some s[k] :=
  ⟨quantile_zero s, quantile_one s, fun hlen k hk => quantile_order_stat s hlen k hk⟩

/-- quantiles are monotone in `q` -/
theorem C07_quantile_mono (s : List Rat) (hs : s.Pairwise (· ≤ ·)) (hne : s ≠ []) (q₁ q₂ : Rat)
    (h0 : 0 ≤ q₁) (h12 : q₁ ≤ q₂) (h1 : q₂ ≤ 1) :
    ∃ r₁ r₂, quantile s q₁ = some r₁ ∧ quantile s q₂ = some r₂ ∧ r₁ ≤ r₂ :=
  ⟨_, _, quantile_eq_interp s hne q₁ (le_trans h12 h1), quantile_eq_interp s hne q₂ h1,
    interp_mono _ (clampGet_mono s hne hs) (qpos_nonneg s h0) (qpos_mono s h12)⟩

/-- **Quantile edges**: the model assembles a quantile binning as `qs.map (quantile s)` (driver query
    `"quantile"`; the bins are `edgesToBins` of these edges and must pass `is_rising`).
    For increasing `q`s the edges are the data quantiles, non-decreasing, inside
    `[min, max]` (first = min when the first `q` is 0, last = max when the last is 1), and the bins
    they form are rising — i.e. accepted — exactly when no two neighbouring quantiles coincide. -/
theorem C07_quantile_edges (s : List Rat) (hs : s.Pairwise (· ≤ ·)) (hne : s ≠ []) (qs : List Rat)
    (hqs : qs.Pairwise (· < ·)) (h01 : ∀ q ∈ qs, 0 ≤ q ∧ q ≤ 1) :
    ∃ es : List Rat, qs.map (quantile s) = es.map some ∧ es.length = qs.length ∧
      es.Pairwise (· ≤ ·) ∧
      (∀ e ∈ es, s.head hne ≤ e ∧ e ≤ s.getLast hne) ∧
      (Rising (edgesToBins es) ↔ ∀ i (hi : i + 1 < es.length), es[i] ≠ es[i + 1]) ∧
      (risingB (edgesToBins es) = true ↔ ∀ i (hi : i + 1 < es.length), es[i] ≠ es[i + 1]) ∧
      (qs.head? = some 0 → es.head? = s.head?) ∧
      (qs.getLast? = some 1 → es.getLast? = s.getLast?) := by
  have hg := clampGet_mono s hne hs
  have hval : ∀ q ∈ qs, quantile s q = some (interp (clampGet s hne) (qpos s q)) :=
    fun q hq => quantile_eq_interp s hne q (h01 q hq).2
  have hsorted : (qs.map fun q => interp (clampGet s hne) (qpos s q)).Pairwise (· ≤ ·) := by
    rw [List.pairwise_map]
    refine List.Pairwise.imp_of_mem ?_ hqs
    intro a b ha _ hab
    exact interp_mono _ hg (qpos_nonneg s (h01 a ha).1) (qpos_mono s (le_of_lt hab))
  have hiff := pairwise_lt_iff_neighbours_ne _ hsorted
  refine ⟨qs.map fun q => interp (clampGet s hne) (qpos s q), ?_, by simp, hsorted, ?_,
    (rising_edgesToBins_iff _).trans hiff,
    ((risingB_iff _).trans (rising_edgesToBins_iff _)).trans hiff, ?_, ?_⟩
  · rw [List.map_map]
    exact List.map_congr_left fun q hq => hval q hq
  · intro e he
    obtain ⟨q, hq, rfl⟩ := List.mem_map.mp he
    exact interp_clampGet_mem_range s hs hne (qpos_nonneg s (h01 q hq).1)
  · intro h
    cases qs with
    | nil => simp at h
    | cons q t =>
      simp only [List.head?_cons, Option.some.injEq] at h
      subst h
      simp only [List.map_cons, List.head?_cons]
      rw [← hval 0 (List.mem_cons_self ..), quantile_zero]
  · intro h
    rw [List.getLast?_map, h, Option.map_some, ← quantile_one,
      quantile_eq_interp s hne 1 (le_refl _)]

/-- **Fixed-width bins are regular** (exact arithmetic, width > 0): rising, consecutive, all of width `w`. -/
theorem C07_grid_regular (g : Grid) (hw : 0 < g.w) :
    Rising (g.bins FloatOps.exact) ∧ consecutiveB (g.bins FloatOps.exact) = true ∧
    (∀ b ∈ g.bins FloatOps.exact, b.2 - b.1 = g.w) ∧ (g.bins FloatOps.exact).length = g.count := by
  refine ⟨(grid_bins_regular g).resolve_right (fun h => h hw), ?_, grid_bins_width g, ?_⟩
  · rw [Grid.bins_eq_binsFrom]; exact Grid.binsFrom_consecutive _ _ _
  · rw [Grid.bins_eq_binsFrom]; exact Grid.binsFrom_length _ _ _

/-- **Integer bins are centred on integers**: width 1 and half-integer shift (`0.5` in physt). -/
theorem C07_integer_centred (j t : Int) (n i : Nat) (hi : i < n) :
    ∃ l r, (Grid.binsFrom (FloatOps.exact.edge 1 ((j : Rat) + 1 / 2)) t n)[i]? = some (l, r) ∧
      r - l = 1 ∧ (l + r) / 2 = ((t + (i : Int) + j + 1 : Int) : Rat) :=
  ⟨_, _, unit_bins ((j : Rat) + 1 / 2) t n i hi, by ring, by push_cast; ring⟩

/-- … and every integer inside the range lies in the bin centred on it, which is the cell the
    floor-based search finds. -/
theorem C07_integer_in_its_bin (j t : Int) (n : Nat) (v : Int) (h1 : t ≤ v - j - 1)
    (h2 : v - j - 1 < t + n) (closeLast : Bool) :
    ∃ l r, (Grid.binsFrom (FloatOps.exact.edge 1 ((j : Rat) + 1 / 2)) t n)[(v - j - 1 - t).toNat]?
        = some (l, r) ∧
      (l + r) / 2 = (v : Rat) ∧ l = (v : Rat) - 1 / 2 ∧ r = (v : Rat) + 1 / 2 ∧
      inBin (Grid.binsFrom (FloatOps.exact.edge 1 ((j : Rat) + 1 / 2)) t n) closeLast
        (v - j - 1 - t).toNat (v : Rat) = true ∧
      FloatOps.exact.est 1 ((j : Rat) + 1 / 2) (v : Rat) = v - j - 1 := by
  have hget := unit_bins ((j : Rat) + 1 / 2) t n (v - j - 1 - t).toNat (by omega)
  have hl : ((t + ((v - j - 1 - t).toNat : Int) : Int) : Rat) + ((j : Rat) + 1 / 2) = (v : Rat) - 1 / 2 := by
    rw [show t + ((v - j - 1 - t).toNat : Int) = v - j - 1 by omega]
    push_cast
    ring
  rw [hl, show (v : Rat) - 1 / 2 + 1 = v + 1 / 2 by ring] at hget
  have hlo : (v : Rat) - 1 / 2 ≤ v := sub_le_self _ (by norm_num)
  have hhi : (v : Rat) < v + 1 / 2 := lt_add_of_pos_right _ (by norm_num)
  refine ⟨_, _, hget, by ring, rfl, rfl, ?_, ?_⟩
  · simp only [inBin, hget, hlo, hhi, decide_true, Bool.true_or, Bool.and_self]
  · show ⌊((v : Rat) - ((j : Rat) + 1 / 2)) / 1⌋ = v - j - 1
    rw [show ((v : Rat) - ((j : Rat) + 1 / 2)) / 1 = ((v - j - 1 : Int) : Rat) + 1 / 2 by push_cast; ring,
      Int.floor_intCast_add, Int.floor_eq_zero_iff.mpr ⟨by norm_num, by norm_num⟩, add_zero]

/-- **Exponential edges form a geometric sequence** (over ℝ): constant ratio `10^lw`, strictly
    increasing iff `lw > 0`. -/
theorem C07_exponential_geometric (logMin lw : ℝ) :
    (∀ k : ℕ, expEdge logMin lw (k + 1) / expEdge logMin lw k = (10 : ℝ) ^ lw) ∧
    (∀ k : ℕ, 0 < expEdge logMin lw k) ∧
    (StrictMono (expEdge logMin lw) ↔ 0 < lw) :=
  ⟨expEdge_ratio logMin lw, expEdge_pos logMin lw, expEdge_strictMono_iff logMin lw⟩

/-- … and with `log_min = log10 a`, `log_width = (log10 b − log10 a)/n` they start at `a`, end at
    `b`, and every `v` in `[a, b)` lies in the bin its logarithm selects (covers the range exactly;
    the implementation does so up to rounding). -/
theorem C07_exponential_cover (a b : ℝ) (ha : 0 < a) (hab : a < b) (n : ℕ) (hn : 0 < n) :
    0 < (Real.logb 10 b - Real.logb 10 a) / n ∧
    expEdge (Real.logb 10 a) ((Real.logb 10 b - Real.logb 10 a) / n) 0 = a ∧
    expEdge (Real.logb 10 a) ((Real.logb 10 b - Real.logb 10 a) / n) n = b ∧
    ∀ v, a ≤ v → v < b →
      ⌊(Real.logb 10 v - Real.logb 10 a) / ((Real.logb 10 b - Real.logb 10 a) / n)⌋₊ < n ∧
      expEdge (Real.logb 10 a) ((Real.logb 10 b - Real.logb 10 a) / n)
        ⌊(Real.logb 10 v - Real.logb 10 a) / ((Real.logb 10 b - Real.logb 10 a) / n)⌋₊ ≤ v ∧
      v < expEdge (Real.logb 10 a) ((Real.logb 10 b - Real.logb 10 a) / n)
        (⌊(Real.logb 10 v - Real.logb 10 a) / ((Real.logb 10 b - Real.logb 10 a) / n)⌋₊ + 1) := by
  have hlw : 0 < (Real.logb 10 b - Real.logb 10 a) / n :=
    div_pos (sub_pos.mpr (Real.logb_lt_logb (by norm_num) ha hab)) (Nat.cast_pos.mpr hn)
  obtain ⟨h0, h1⟩ := expEdge_ends ha (lt_trans ha hab) hn
  refine ⟨hlw, h0, h1, fun v hav hvb => expEdge_bracket hlw n ?_ ?_⟩
  · rw [h0]; exact hav
  · rw [h1]; exact hvb

/-- **The representations agree**: the masked-edge form starts and ends at the first / last edge and
    has one mask entry per bin; reading the pairs back from it gives the bins; for consecutive bins
    it is the edge form with the trivial mask, and the edge form and the pair form are inverse. -/
theorem C07_representations (bins : Bins) :
    ((maskedEdges bins).1.head? = firstEdge? bins ∧ (maskedEdges bins).1.getLast? = lastEdge? bins ∧
      (maskedEdges bins).2.length = bins.length) ∧
    (Rising bins → pairsOfMasked (maskedEdges bins) = bins ∧
      (maskedEdges bins).2.Pairwise (· < ·) ∧ (maskedEdges bins).1.Pairwise (· < ·)) ∧
    (consecutiveB bins = true → maskedEdges bins = (binsToEdges bins, List.range bins.length) ∧
      edgesToBins (binsToEdges bins) = bins) ∧
    ((binsToEdges bins).head? = firstEdge? bins ∧ (binsToEdges bins).getLast? = lastEdge? bins) :=
  ⟨maskedEdges_ends bins, pairsOfMasked_maskedEdges bins,
   fun hc => ⟨maskedEdges_consecutive bins hc, edgesToBins_binsToEdges bins hc⟩, binsToEdges_ends bins⟩

/-- **Slicing a binning** (`binning[start:stop]`): a slice of rising (consecutive) bins is rising
    (consecutive); `bin_count` is the slice length; first / last edge are those of the first / last
    kept bin. -/
theorem C07_slicing (bins : Bins) (start stop : Option Int) :
    (Rising bins → Rising (sliceList bins start stop)) ∧
    (consecutiveB bins = true → consecutiveB (sliceList bins start stop) = true) ∧
    (sliceList bins start stop).length
      = (sliceBounds bins.length start stop).2 - (sliceBounds bins.length start stop).1 :=
  let h := sliceList_binning bins start stop
  ⟨h.1, h.2.1, h.2.2.1⟩

/-! Non-vacuity -/
example : quantile [1, 2, 4, 8] (1 / 2) = some 3 ∧ quantile [1, 2, 4, 8] (1 / 3) = some 2 := by decide +kernel

end Physt
