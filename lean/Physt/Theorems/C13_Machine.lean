import Physt.Proofs.DTypeMachine
import Physt.Model.Hist1D
/-!
# C13 (continued) — the reported dtype **is** the element type of `frequencies` and `errors2`

`Theorems/C13.lean` is about the rules by which the single `dtype` field of the value-level model
moves.  Here the types the real object carries (`_dtype`, `_frequencies.dtype`,
`_errors2.dtype`, and `_missed.dtype`) are followed separately through every operation by the
dtype machine of `Model/DTypeMachine.lean`, and the first sentence of C13 is proved over all
histories: `Consistent s := s.freq = s.reported ∧ s.err2 = s.reported`.

The machine mirrors three versions of physt (`Cfg`): `Cfg.d3f2ae4` (the setters store
`np.asarray(values)` as it comes; `accumulate` writes `_frequencies`), `Cfg.b8bc97c` (setters
repaired: `_as_contents`) and `Cfg.current` (57bdc7e: `accumulate` also assigns through the
setter).  For the current code the invariant holds after **every** history, with no exception
(`C13m_every_history_current`); for the two earlier versions the operations that break it are
characterised exactly (`C13m_step`) and the witnesses are kernel-checked ("before fix").  The
transitions were replayed against the real library on random histories for each of the three
versions: all five observables equal after every operation.

## What each `DOp` stands for

| `DOp`                               | Python                                                              |
|-------------------------------------|---------------------------------------------------------------------|
| `construct arr explicit nan`        | `Histogram1D(bins, np.array(…, dtype=arr), dtype=explicit, underflow=nan?)`, `HistogramND(…)`; `h1(data, weights=np.array(…, dtype=arr), dtype=explicit)`, `h(…)` (`arr = none`: no frequencies / no weights) |
| `fill w reshaped gap`               | `h.fill(v, weight=w)` (`w` python int / float / numpy scalar; default `1` = `pyInt`) |
| `fillN w reshaped nd gap`           | `h.fill_n(vs, weights=np.array(…, dtype=w))` (`none`: no weights)      |
| `add o adaptive`                    | `h += o`, `h + o`                                                   |
| `sub o`                             | `h -= o`, `h - o`                                                   |
| `mul c`                             | `h *= c`, `h * c`, `c * h`                                          |
| `div c`                             | `h /= c`, `h / c`                                                   |
| `normalize inplace`                 | `h.normalize(inplace=…, percent=…)`                                 |
| `merge`                             | `h.merge_bins(amount, axis=…, inplace=…)`                           |
| `reshape`                           | `h._change_binning(…)` / `_reshape_data` (adaptive growth)          |
| `setDType d fit`                    | `h.dtype = d`, `h.set_dtype(d)`                                     |
| `copy withFreq`                     | `h.copy(include_frequencies=withFreq)`                              |
| `projection`                        | `hnd.projection(*axes)`                                             |
| `select1D keepMissed`               | `h1d[a:b]`, `h1d[mask]`, `h1d[[i, j]]`, `h1d.select(0, …)`          |
| `selectNDInt`                       | `hnd.select(axis, i)`, `hnd[i]`                                     |
| `selectNDSlice`                     | `hnd.select(axis, slice)`, `h2d.T`                                  |
| `accumulate`                        | `hnd.accumulate(axis)`                                              |
| `partialNormalize`                  | `h2d.partial_normalize(axis, inplace=…)`                            |
| `refusedAfterCoerce k`              | `h *= -1.5`, `h -= bigger`, adaptive `h -= o` with other bins, `hnd.fill_n(…, weights=float128)`: refused, but after `_coerce_dtype(k)` |
-/
namespace Physt
open DType DState

/-- **A new histogram is consistent**: whatever `frequencies` array, `dtype=` argument and missed
    values the constructor is given, the reported dtype is the element type of both arrays. -/
theorem C13m_construct (arr explicit : Option DType) (nan : Bool) :
    Consistent (DState.construct arr explicit nan) :=
  construct_consistent arr explicit nan

/-- **One operation, exactly.**  On a consistent histogram (histogram operands of `+` consistent,
    too) the result of an operation is consistent **if and only if** the operation is not
    * (unless both repairs are in) `HistogramND.accumulate` on an int16 / int32 histogram, or
    * (setters of d3f2ae4 only) division by a float128 numpy scalar of a narrower histogram. -/
theorem C13m_step (cfg : Cfg) (s : DState) (op : DOp) (h : Consistent s)
    (ho : ∀ o ∈ op.addends, Consistent o) :
    Consistent (s.step cfg op) ↔ op.diverges cfg s = false :=
  step_consistent_iff cfg op h ho

/-- **Every history.**  From a consistent histogram, after *every* operation of *any* list of
    operations the histogram is consistent, provided no step is one of the diverging operations
    in the state it meets and the `+` operands are consistent (`Admissible`). -/
theorem C13m_every_history (cfg : Cfg) (s : DState) (ops : List DOp) (hs : Consistent s)
    (ha : Admissible cfg s ops) :
    (∀ t ∈ DState.trace cfg s ops, Consistent t) ∧ Consistent (DState.run cfg s ops) := by
  induction ops generalizing s with
  | nil => exact ⟨fun _ ht => absurd ht List.not_mem_nil, hs⟩
  | cons op ops ih =>
    have h1 := (step_consistent_iff cfg op hs ha.2.1).2 ha.1
    obtain ⟨ht, hr⟩ := ih _ h1 ha.2.2
    refine ⟨fun t htm => ?_, hr⟩
    simp only [trace, List.mem_cons] at htm
    rcases htm with rfl | htm
    · exact h1
    · exact ht t htm

/-- in the current code no operation diverges, whatever the state -/
theorem C13m_current_never_diverges (s : DState) (op : DOp) : op.diverges Cfg.current s = false := by
  unfold DOp.diverges
  split <;> rfl

/-- **THE CURRENT CODE (57bdc7e), EVERY HISTORY.**  From a consistent histogram — in particular
    from any constructor — after every operation of any list of the nineteen kinds of operation
    (construct, fill, fill_n, `+`, `-`, `*`, `/`, normalize, merge, reshape, set dtype accepted or
    refused, copy, projection, selections, accumulate, partial_normalize, refusals after the
    coercion) the dtype the histogram reports is the element type of its `frequencies` and of its
    `errors2`.  The only hypothesis: the histograms *added* are consistent, too (they are, being
    products of such histories: `C13m_reachable`). -/
theorem C13m_every_history_current (s : DState) (ops : List DOp) (hs : Consistent s)
    (hops : ∀ op ∈ ops, ∀ o ∈ op.addends, Consistent o) :
    (∀ t ∈ DState.trace Cfg.current s ops, Consistent t) ∧ Consistent (DState.run Cfg.current s ops) :=
  C13m_every_history _ s ops hs
    (admissible_of_not_diverges _ ops (fun op _ s => C13m_current_never_diverges s op) hops s)

/-- **Before the repairs (d3f2ae4)** a history must not contain `accumulate` nor a division by a
    float128 numpy scalar; every other history keeps the three types equal. -/
theorem C13m_every_history_before (s : DState) (ops : List DOp) (hs : Consistent s)
    (hacc : DOp.accumulate ∉ ops) (hdiv : DOp.div (.np f128) ∉ ops)
    (hops : ∀ op ∈ ops, ∀ o ∈ op.addends, Consistent o) :
    ∀ t ∈ DState.trace Cfg.d3f2ae4 s ops, Consistent t := by
  refine (C13m_every_history _ s ops hs (admissible_of_not_diverges _ ops ?_ hops s)).1
  intro op hop s
  cases op with
  | accumulate => exact absurd hop hacc
  | div c => exact (DOp.diverges_div _ s c).2 (fun h => hdiv (h.2.1 ▸ hop))
  | _ => rfl

/-- **Closed under operands**: every state produced by a constructor and non-diverging operations,
    the histogram operands being such products themselves, is consistent and satisfies the
    `_missed` invariant. -/
theorem C13m_reachable (cfg : Cfg) (s : DState) (h : Reachable cfg s) : Consistent s ∧ MissedInv s :=
  h.inv

/-- in the current code the reachable states are closed under *every* operation (no side
    condition), so `C13m_reachable` covers everything the nineteen operations can produce -/
theorem C13m_reachable_current_closed (s : DState) (op : DOp) (h : Reachable Cfg.current s)
    (ho : ∀ o ∈ op.operands, Reachable Cfg.current o) : Reachable Cfg.current (s.step Cfg.current op) :=
  Reachable.step op h ho (C13m_current_never_diverges s op)

/-- the first diverging operation of a history does break the invariant -/
theorem C13m_divergence (cfg : Cfg) (s : DState) (ops : List DOp) (op : DOp) (hs : Consistent s)
    (ha : Admissible cfg s ops) (ho : ∀ o ∈ op.addends, Consistent o)
    (hd : op.diverges cfg (DState.run cfg s ops) = true) :
    ¬ Consistent (DState.run cfg s (ops ++ [op])) := by
  rw [run_append]
  intro hc
  have := (step_consistent_iff cfg op (C13m_every_history cfg s ops hs ha).2 ho).1 hc
  rw [hd] at this
  cases this

/-- **BEFORE THE FIX b8bc97c (setters of d3f2ae4)**:
    `h = Histogram1D([0,1,2,3], [1,2,3], dtype=np.float64); h /= np.longdouble(2)` reports
    float64 over float128 `frequencies` and `errors2` (`_missed`, divided in place, stays float64).
    Observed on the real library at d3f2ae4. -/
theorem C13m_before_fix_div_longdouble :
    DState.run Cfg.d3f2ae4 (DState.construct (some i64) (some f64) false) [.div (.np f128)]
      = { reported := f64, freq := f128, err2 := f128, missed := f64, missedNaN := false } ∧
    ¬ Consistent (DState.run Cfg.d3f2ae4 (DState.construct (some i64) (some f64) false) [.div (.np f128)]) := by
  decide

/-- … and for every histogram narrower than float128, consistent or not. -/
theorem C13m_before_fix_div_longdouble_all (s : DState) (hs : s.reported ≠ f128) :
    (s.step Cfg.d3f2ae4 (.div (.np f128))).reported = f64 ∧ (s.step Cfg.d3f2ae4 (.div (.np f128))).freq = f128 ∧
    (s.step Cfg.d3f2ae4 (.div (.np f128))).err2 = f128 :=
  divStep_head_f128 rfl hs

/-- **AFTER THE FIX b8bc97c (`_as_contents`)** the same call promotes the histogram to float128. -/
theorem C13m_after_fix_div_longdouble (s : DState) (h : Consistent s) :
    (s.step Cfg.current (.div (.np f128))).reported = f128 ∧ Consistent (s.step Cfg.current (.div (.np f128))) :=
  divStep_patched_f128 rfl s

/-- **BEFORE THE FIX 997ef1a** (with the old and with the repaired setters):
    `h2(x, y, bins, dtype=np.int16).accumulate(0)` reports int16 over int64 `frequencies`
    (`np.cumsum` widens, the result was stored past the setter; `errors2` stays int16).
    Observed on the real library at d3f2ae4 and at b8bc97c. -/
theorem C13m_before_fix_accumulate (castOnAssign : Bool) :
    DState.run ⟨castOnAssign, false⟩ (DState.construct none (some i16) false) [.accumulate]
      = { reported := i16, freq := i64, err2 := i16, missed := i16, missedNaN := false } ∧
    ¬ Consistent (DState.run ⟨castOnAssign, false⟩ (DState.construct none (some i16) false) [.accumulate]) := by
  cases castOnAssign <;> decide

/-- **AFTER THE FIX 997ef1a**: the cumulative sums are assigned through the setter, which promotes
    the histogram: everything is int64. -/
theorem C13m_after_fix_accumulate :
    DState.run Cfg.current (DState.construct none (some i16) false) [.accumulate] = DState.fresh i64 := by
  decide

/-- **A refused operation can change the dtype** (both versions): `h *= -1.5` on an int64
    histogram raises "Cannot have negative frequencies" from the setter — after
    `_coerce_dtype(float64)` has converted `_dtype` and all arrays.  The three types stay equal,
    but "refused ⇒ nothing changes" does not hold for the dtype. -/
theorem C13m_refused_changes_dtype (cfg : Cfg) :
    DState.step cfg (DState.fresh i64) (.refusedAfterCoerce f64) = DState.fresh f64 :=
  rfl

/-- **Unweighted counting stays integral**: `fill` with a python-int (default) or numpy-integer
    weight and `fill_n` without weights or with integer weights keep an integer histogram in an
    integer type — all three types. -/
theorem C13m_counting (cfg : Cfg) (s : DState) (h : Consistent s) (hi : s.reported.isInt = true) :
    (∀ (w : DScalar) (r g : Bool), w.dtype.isInt = true →
      (s.step cfg (.fill w r g)).reported.isInt = true ∧ Consistent (s.step cfg (.fill w r g))) ∧
    (∀ r nd g : Bool, (s.step cfg (.fillN none r nd g)).reported = s.reported ∧
      Consistent (s.step cfg (.fillN none r nd g))) ∧
    (∀ (k : DType) (r nd g : Bool), k.isInt = true →
      (s.step cfg (.fillN (some k) r nd g)).reported.isInt = true ∧
      Consistent (s.step cfg (.fillN (some k) r nd g))) := by
  -- `fill` is `fill_n` with weights of the scalar's dtype, by `rfl`
  refine (fun key => ⟨fun w r g => key w.dtype r true g,
      fun r nd g => ⟨?_, fillN_consistent cfg h none r nd g⟩, key⟩)
    fun k r nd g hk => ⟨?_, fillN_consistent cfg h (some k) r nd g⟩
  · rw [fillN_reported]
    exact promote_idem _
  · rw [fillN_reported, promote_isInt, hi]
    exact hk

/-- **Float weights promote to float**: after `fill` / `fill_n` with a float weight the reported
    dtype — hence, by consistency, both arrays — is a float type to which the old dtype and the
    weight's dtype cast safely. -/
theorem C13m_float_weight (cfg : Cfg) (s : DState) (h : Consistent s) :
    (∀ (w : DScalar) (r g : Bool), w.dtype.isInt = false →
      (s.step cfg (.fill w r g)).reported.isInt = false ∧ (s.step cfg (.fill w r g)).freq.isInt = false ∧
      (s.step cfg (.fill w r g)).err2.isInt = false) ∧
    (∀ (k : DType) (r nd g : Bool), k.isInt = false →
      (s.step cfg (.fillN (some k) r nd g)).reported.isInt = false ∧
      (s.step cfg (.fillN (some k) r nd g)).freq.isInt = false ∧
      (s.step cfg (.fillN (some k) r nd g)).err2.isInt = false) := by
  -- `fill` is `fill_n` with weights of the scalar's dtype, by `rfl`
  refine (fun key => ⟨fun w r g => key w.dtype r true g, key⟩) fun k r nd g hk => ?_
  obtain ⟨h1, h2⟩ := fillN_consistent cfg h (some k) r nd g
  rw [h1, h2, and_self, and_self, fillN_reported, promote_isInt]
  exact (congrArg _ hk).trans (Bool.and_false _)

/-- **A scalar factor promotes by its numpy dtype** (python int → int64, python float → float64,
    numpy scalar → its own dtype), all three types; a float factor gives a float type. -/
theorem C13m_mul (cfg : Cfg) (s : DState) (h : Consistent s) (c : DScalar) :
    (s.step cfg (.mul c)).reported = promote s.reported c.dtype ∧ Consistent (s.step cfg (.mul c)) ∧
    (c.dtype.isInt = false → (s.step cfg (.mul c)).reported.isInt = false) := by
  obtain ⟨h1, h2⟩ := mulStep_spec cfg h c
  refine ⟨h1, h2, fun hc => ?_⟩
  show (s.mulStep cfg c).reported.isInt = false
  rw [h1, promote_isInt, hc]; exact Bool.and_false _

/-- **Division gives float types** — reported dtype and both arrays, for every divisor (python
    or numpy scalar) and with either setter, even in the diverging case. -/
theorem C13m_div_float (cfg : Cfg) (s : DState) (h : Consistent s) (c : DScalar) :
    (s.step cfg (.div c)).reported.isInt = false ∧ (s.step cfg (.div c)).freq.isInt = false ∧
    (s.step cfg (.div c)).err2.isInt = false := by
  simp only [step]
  have hr : (s.divStep cfg c).reported.isInt = false :=
    (assign_holds cfg (coerce_holds_self s f64) _ _).float rfl
  refine ⟨hr, ?_⟩
  cases hcfg : cfg.castOnAssign
  · have hc := coerce_consistent h f64
    have hx := (coerce_holds_self s f64).float rfl
    rw [divStep_head hcfg]
    exact ⟨DScalar.divType_float _ c (hc.1 ▸ hx), DScalar.divType_float _ c (hc.2 ▸ hx)⟩
  · have hc : Consistent (s.divStep cfg c) := assign_patched hcfg _ _ _
    rw [hc.1, hc.2]
    exact ⟨hr, hr⟩

/-- division is consistent exactly when it is not (old setter, float128 scalar, narrower histogram) -/
theorem C13m_div (cfg : Cfg) (s : DState) (h : Consistent s) (c : DScalar) :
    Consistent (s.step cfg (.div c)) ↔ ¬ (cfg.castOnAssign = false ∧ c = .np f128 ∧ s.reported ≠ f128) :=
  div_consistent_iff cfg h c

/-- **Normalisation gives a float type and stays consistent** (in place or not, either setter). -/
theorem C13m_normalize (cfg : Cfg) (s : DState) (h : Consistent s) (inplace : Bool) :
    (s.step cfg (.normalize inplace)).reported.isInt = false ∧ Consistent (s.step cfg (.normalize inplace)) :=
  normalize_spec cfg h inplace

/-- **Histogram + histogram uses numpy promotion** (same bins or adapted bins, either setter). -/
theorem C13m_add (cfg : Cfg) (s o : DState) (h : Consistent s) (ho : Consistent o) (adaptive : Bool) :
    (s.step cfg (.add o adaptive)).reported = promote s.reported o.reported ∧
    (s.step cfg (.add o adaptive)).freq = promote s.reported o.reported ∧
    (s.step cfg (.add o adaptive)).err2 = promote s.reported o.reported := by
  obtain ⟨h1, h2⟩ := addStep_spec cfg h ho adaptive
  exact ⟨h1, h2.1.trans h1, h2.2.trans h1⟩

/-- **Histogram − histogram, too** — whatever the types of the operand's arrays. -/
theorem C13m_sub (cfg : Cfg) (s o : DState) (h : Consistent s) :
    (s.step cfg (.sub o)).reported = promote s.reported o.reported ∧
    (s.step cfg (.sub o)).freq = promote s.reported o.reported ∧
    (s.step cfg (.sub o)).err2 = promote s.reported o.reported := by
  obtain ⟨h1, h2⟩ := subStep_spec cfg h o
  exact ⟨h1, h2.1.trans h1, h2.2.trans h1⟩

/-- **Explicit change of dtype**: accepted (`d` is the current dtype, or the cast is safe, or the
    value checks pass) — all three types are `d`; refused — the state is unchanged.  A safe cast
    never consults the values. -/
theorem C13m_set (cfg : Cfg) (s : DState) (h : Consistent s) (d : DType) (fit : Bool) :
    (s.setDTypeAccepted d fit = true →
      (s.step cfg (.setDType d fit)).reported = d ∧ (s.step cfg (.setDType d fit)).freq = d ∧
      (s.step cfg (.setDType d fit)).err2 = d) ∧
    (s.setDTypeAccepted d fit = false → s.step cfg (.setDType d fit) = s) ∧
    (canCast s.reported d = true → s.setDTypeAccepted d fit = true) := by
  simp only [step, setDType, setDTypeAccepted]
  refine ⟨fun ha => ?_, fun ha => ?_, fun hc => by simp [hc]⟩
  · split
    · rename_i hd
      subst hd
      exact ⟨rfl, h.1, h.2⟩
    · rename_i hd
      rw [decide_eq_false hd, Bool.false_or] at ha
      rw [if_pos ha]
      exact ⟨rfl, rfl, rfl⟩
  · simp only [Bool.or_eq_false_iff, decide_eq_false_iff_not] at ha
    simp [ha]

/-- the decision of the machine is the decision of the value-level model (`H1.setDTypeOk`), the
    flag `fit` being its value check: integral contents and squared errors if an integer type is
    asked of a float histogram, and all of them within the target's range -/
theorem C13m_set_agrees (x : H1) (s : DState) (hs : s.reported = x.dtype) (d : DType) :
    H1.setDTypeOk x d = s.setDTypeAccepted d
      ((!(d.isInt && !x.dtype.isInt) || (x.freq ++ x.err2).all H1.isIntegral) && H1.fitsRange (x.freq ++ x.err2) d) := by
  simp only [H1.setDTypeOk, setDTypeAccepted, hs]
  congr 2

/-- **Requesting an integer histogram with float weights is refused** (and nothing else is). -/
theorem C13m_construct_refused (w d : Option DType) :
    DState.constructRefused w d = true ↔ ∃ wk dt, w = some wk ∧ d = some dt ∧ dt.isInt = true ∧ wk.isInt = false := by
  cases w <;> cases d <;> simp [DState.constructRefused]

/-- **No implicit conversion loses information**: after any operation other than a constructor
    and an explicit `set_dtype`, the old reported dtype casts *safely* to the new one. -/
theorem C13m_lossless (cfg : Cfg) (s : DState) (op : DOp) (h : Consistent s) (he : op.explicit = false) :
    canCast s.reported (s.step cfg op).reported = true :=
  step_lossless cfg s op h.1 he

/-! ## `_missed` is *not* kept in step -/

/-- What does hold of `_missed` after any operation (consistent or not, either setter): its type
    is the reported dtype or a float type, and a float type whenever it holds a NaN. -/
theorem C13m_missed_step (cfg : Cfg) (s : DState) (op : DOp) (h : MissedInv s)
    (ho : ∀ o ∈ op.operands, MissedInv o) : MissedInv (s.step cfg op) :=
  step_missedInv cfg op h ho

/-- `_missed` leaves the reported dtype by design: `Histogram1D([[0,1],[2,3]], [1,2]).fill(1.5)`
    (a value in the gap between bins makes under/overflow NaN) — int64 histogram, float64 `_missed`;
    `copy(include_frequencies=False)` then keeps a float64 `_missed` of zeros under int64. -/
theorem C13m_missed_leaves (cfg : Cfg) :
    DState.run cfg (DState.construct (some i64) none false) [.fill .pyInt false true]
      = { reported := i64, freq := i64, err2 := i64, missed := f64, missedNaN := true } ∧
    DState.run cfg (DState.construct (some i64) none false) [.fill .pyInt false true, .copy false]
      = { reported := i64, freq := i64, err2 := i64, missed := f64, missedNaN := false } :=
  ⟨rfl, rfl⟩

/-- … and it can differ from a *float* reported dtype as well: a float16 histogram `+=` an int16
    histogram built with `underflow=np.nan` reports float32 over a float64 `_missed`. -/
theorem C13m_missed_float_mismatch (cfg : Cfg) :
    DState.step cfg (DState.construct none (some f16) false) (.add (DState.construct none (some i16) true) false)
      = { reported := f32, freq := f32, err2 := f32, missed := f64, missedNaN := true } := by
  rw [show ∀ s o, DState.step cfg s (.add o false) = s.addStep cfg o false from fun _ _ => rfl,
    addStep_eq cfg (construct_consistent _ _ _) (construct_consistent _ _ _)]
  rfl

/-- an int16 histogram; `fill(v, weight=np.float32(0.5))`; `*= 2`;
    `+=` an int64 histogram; `/ 2` — after every step, with either setter (observed on the real
    library: float32, float64, float64, float64) -/
example (cfg : Cfg) :
    (DState.trace cfg (DState.construct none (some i16) false)
      [.fill (.np f32) false false, .mul .pyInt, .add (DState.fresh i64) false, .div .pyInt]).map DState.toString
      = ["float32 float32 float32 float32 0", "float64 float64 float64 float64 0",
         "float64 float64 float64 float64 0", "float64 float64 float64 float64 0"] := by
  have h : DState.trace cfg (DState.construct none (some i16) false)
      [.fill (.np f32) false false, .mul .pyInt, .add (DState.fresh i64) false, .div .pyInt]
      = [DState.fresh f32, DState.fresh f64, DState.fresh f64, DState.fresh f64] := by
    obtain ⟨b, c⟩ := cfg
    cases b <;> cases c <;> rfl
  rw [h]
  decide +kernel

/-- the general theorem applied to that history (the `+` operand is consistent, nothing diverges) -/
example (cfg : Cfg) :
    ∀ t ∈ DState.trace cfg (DState.construct none (some i16) false)
      [.fill (.np f32) false false, .mul .pyInt, .add (DState.fresh i64) false, .div .pyInt], Consistent t := by
  refine (C13m_every_history cfg _ _ (C13m_construct _ _ _)
    (admissible_of_not_diverges cfg _ (fun op hop s => ?_) (by decide) _)).1
  simp only [List.mem_cons, List.not_mem_nil, or_false] at hop
  rcases hop with rfl | rfl | rfl | rfl <;> rfl

/-- the current-code theorem on a history through many kinds of operation, `accumulate` and a
    float128 divisor included -/
example :
    ∀ t ∈ DState.trace Cfg.current (DState.construct none (some i16) false)
      [.fill .pyInt true false, .fillN (some f16) false false true, .div (.np f128), .setDType i32 true,
       .sub (DState.fresh f32), .merge, .accumulate, .projection, .select1D true, .normalize false, .copy false],
      Consistent t := by
  refine (C13m_every_history_current _ _ (C13m_construct _ _ _) ?_).1
  decide

/-- `Reachable` is inhabited beyond constructors: the float128 state after the division -/
example : Reachable Cfg.current ((DState.construct none none false).step Cfg.current (.div (.np f128))) :=
  Reachable.step _ (Reachable.construct _ _ _) (fun _ h => by cases h) rfl

/- the replay interface: text lines in, states out (evaluated at build time; string splitting
   does not reduce in the kernel, so this is a test, not a theorem) -/
#guard DState.replay Cfg.d3f2ae4 default
      ["construct none int16 0", "fill np:float32 0 0", "mul py:int", "add int64 int64 int64 int64 0 0", "div py:int",
       "div np:float128"]
      == some ["int16 int16 int16 int16 0", "float32 float32 float32 float32 0", "float64 float64 float64 float64 0",
               "float64 float64 float64 float64 0", "float64 float64 float64 float64 0",
               "float64 float128 float128 float64 0"]

end Physt
