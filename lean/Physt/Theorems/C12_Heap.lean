import Physt.Proofs.Heap
/-!
# C12 (continued) — derived histograms are independent of their sources: the object graph

`Theorems/C12.lean` treats histograms as values, so independence is a triviality there.  This
file speaks about the object graph of the real code (`Model/Heap.lean`): a heap of cells
(binning objects, numpy arrays, the `_meta_data` dict, frozen `Statistics` objects, immutable edge
buffers), histogram objects that are records of references, every derivation of the property
modelled by WHICH cells it allocates and every in-place operation by which cells it writes and
which references it re-assigns — as read off the Python source (file:line in `Model/Heap.lean`).

What is shared in the real code, and why it is harmless (or not):
* `Statistics` objects are frozen and `INVALID_STATISTICS` is one object referenced by many
  histograms (every slice, projection, parsed histogram): immutable, not part of `Sep`.
* slicing a `StaticBinning` gives a NEW binning object whose `_bins` is a numpy view of the
  source's buffer, and `NumpyBinning.copy()` keeps the same `_numpy_bins` buffer: physt never
  writes into such a buffer, it only re-assigns the attribute — buffers are immutable cells here.
* `HistogramCollection.copy()` / `create()` — BEFORE fix 10ef3a5 every member of a copied collection
  (and every created member) referenced ONE binning object: with an adaptive binning, filling one
  member changed the bins of its siblings and left them ill-formed (kernel-checked witness in the last
  section, on the old variant `collCopyShared`).  The current code (`collCopy`, `Deriv.create`) gives
  every member its own binning copy, so `Sep` and the frame theorem need no exception: they
  hold for all pairs of distinct live objects.
-/
namespace Physt
namespace Hp

/-- **Separation is an invariant of every history.**  In a world where every live histogram
    object is well-typed, the mutable references of each object (binning objects, `_frequencies`,
    `_errors2`, `_missed`, `_meta_data`) are pairwise distinct and two distinct live objects share
    no mutable cell (members of a copied collection are separated from each other too);
    the same holds after ANY list of derivations (copy, arithmetic, normalize, merge_bins,
    projection, indexing, select, T, partial_normalize, accumulate, JSON round trip, collection copy, `collection.create`;
    the result joins the live set) and in-place operations (fill with adaptive growth, `+=`, `*=`, `/=`,
    dtype change, in-place merge, metadata edits, `set_adaptive`, …) on arbitrary live objects. -/
theorem C12_sep_history (w : World) (iv : Inv w) (steps : List Step) : Inv (w.run steps) :=
  inv_run iv steps

/-- one step: a derivation adds a separated, well-typed object -/
theorem C12_sep_derive (w : World) (iv : Inv w) (i : Nat) (d : Deriv) : Inv (w.step (.derive i d)) :=
  inv_step iv _

/-- one step: an in-place operation keeps all live objects separated and well-typed -/
theorem C12_sep_mutate (w : World) (iv : Inv w) (i : Nat) (m : Mut) : Inv (w.step (.mutate i m)) :=
  inv_step iv _

/-- one step: `HistogramCollection.copy()` -/
theorem C12_sep_collCopy (w : World) (iv : Inv w) (is : List Nat) : Inv (w.step (.collCopy is)) :=
  inv_step iv _

/-- the initial world (only `INVALID_STATISTICS` on the heap, no histogram) satisfies the invariant -/
theorem C12_sep_init : Inv { heap := Heap.init, live := [] } := invB_sound (by decide)

/-- `HistogramCollection.copy()` in detail (after fix 10ef3a5): no old cell is touched; every new member
    is well-typed, all its mutable references are new cells and pairwise distinct; two different members
    share nothing; and the new collection's own binning object is a new cell that no member references -/
theorem C12_collCopy_fresh (h : Heap) (ms : List HObj) (wx : ∀ x ∈ ms, WT h x) :
    Agree h (collCopy h ms).1 ∧
    (∀ y ∈ (collCopy h ms).2, WT (collCopy h ms).1 y ∧ (∀ l ∈ y.refs, h.length ≤ l) ∧ y.refs.Nodup) ∧
    (∀ (i j : Nat) (y z : HObj), (collCopy h ms).2[i]? = some y → (collCopy h ms).2[j]? = some z → i ≠ j →
        ∀ l ∈ y.refs, l ∉ z.refs) ∧
    (∀ b0, collBinning ms = some b0 →
        h.length ≤ (copyBin h b0).2 ∧ binOk (collCopy h ms).1 (copyBin h b0).2 = true ∧
        (collCopy h ms).2.length = ms.length ∧ ∀ y ∈ (collCopy h ms).2, (copyBin h b0).2 ∉ y.refs) :=
  let s := collCopy_spec ms wx
  ⟨s.1, fun y hy => ⟨(s.2.1 y hy).wt, (s.2.1 y hy).refs, (s.2.1 y hy).nodup⟩,
   pair_of_pairwise (fun _ _ => SepPair.symm) s.2.2.1, s.2.2.2⟩

/-- what a derivation produces, in detail: no old cell is touched; every mutable reference of the
    result is a NEW cell (`≥ heap.length`); they are pairwise distinct; the result is well-typed -/
theorem C12_derive_fresh (h : Heap) (x : HObj) (w : WT h x) (d : Deriv) :
    Agree h (derive h x d).1 ∧ (∀ l ∈ (derive h x d).2.refs, h.length ≤ l) ∧
    (derive h x d).2.refs.Nodup ∧ WT (derive h x d).1 (derive h x d).2 :=
  let f := (derive_spec w d).1
  ⟨f.agree, f.refs, f.nodup, f.wt⟩

/-- what an in-place operation on `x` does, in detail: cells not referenced by `x` are untouched;
    every cell keeps its kind, and statistics objects, edge buffers and array-backed binnings keep
    their contents; the references of the updated object are old references of `x` or new cells -/
theorem C12_mutate_effect (h : Heap) (x : HObj) (w : WT h x) (m : Mut) :
    (∀ l, l < h.length → l ∉ x.refs → (mutate h x m).1[l]? = h[l]?) ∧
    Pres h (mutate h x m).1 ∧
    (∀ l ∈ (mutate h x m).2.refs, l ∈ x.refs ∨ h.length ≤ l) ∧
    WT (mutate h x m).1 (mutate h x m).2 :=
  let e := mutate_eff w m
  ⟨e.frame, e.pres, e.refs, e.wt⟩

/-- **Frame — for ALL pairs of distinct live objects.**  An in-place operation on the live
    object number `i` leaves every other live object (`j ≠ i`) and EVERYTHING IT REPORTS — bins,
    contents, squared errors, missed, metadata, statistics, dtype — exactly as it was.  In particular
    the other object stays well-formed (`shapeOk`). -/
theorem C12_frame (w : World) (iv : Inv w) (i j : Nat) (y : HObj)
    (hy : w.live[j]? = some y) (ne : i ≠ j) (m : Mut) :
    (w.step (.mutate i m)).live[j]? = some y ∧
    snapshot (w.step (.mutate i m)).heap y = snapshot w.heap y ∧
    (snapshot (w.step (.mutate i m)).heap y).shapeOk = (snapshot w.heap y).shapeOk := by
  obtain ⟨a, b⟩ := frame_mutate iv hy ne m
  exact ⟨a, b, by rw [b]⟩

/-- **Frame along every history.**  Whatever happens to the other objects — derivations from
    any object (including `y` itself), collection copies, `create`, in-place operations on any
    object other than `y` — `y` reports the same. -/
theorem C12_frame_history (w : World) (iv : Inv w) (j : Nat) (y : HObj) (hy : w.live[j]? = some y)
    (steps : List Step) (hno : ∀ i m, Step.mutate i m ∈ steps → i ≠ j) :
    (w.run steps).live[j]? = some y ∧ snapshot (w.run steps).heap y = snapshot w.heap y :=
  frame_run iv hy steps hno

/-- **Operations that are not in-place never modify their operands** (nor any other live
    object): after a derivation from `live[i]`, every live object `y` — the source included — is the
    same record of references and reports the same. -/
theorem C12_operands_unchanged (w : World) (iv : Inv w) (i j : Nat) (y : HObj) (hy : w.live[j]? = some y)
    (d : Deriv) :
    (w.step (.derive i d)).live[j]? = some y ∧
    snapshot (w.step (.derive i d)).heap y = snapshot w.heap y :=
  frame_derive iv hy d

/-- …the same for `HistogramCollection.copy()` -/
theorem C12_collCopy_unchanged (w : World) (iv : Inv w) (j : Nat) (y : HObj) (hy : w.live[j]? = some y)
    (is : List Nat) :
    (w.step (.collCopy is)).live[j]? = some y ∧
    snapshot (w.step (.collCopy is)).heap y = snapshot w.heap y :=
  frame_collCopy iv hy is

/-- **Refinement, derivations.**  What the derived object reports is a function
    (`deriveSnap`, `Model/Heap.lean`) of what the source reports and of the derivation alone —
    no other part of the heap matters.  This is what justifies the value model of the other
    theorem files (a derivation there is a function from histogram values to histogram values). -/
theorem C12_refine_derive (h : Heap) (x : HObj) (w : WT h x) (d : Deriv) :
    snapshot (derive h x d).1 (derive h x d).2 = deriveSnap (snapshot h x) d :=
  (derive_spec w d).2

/-- **Refinement, in-place operations.**  What `x` reports after an in-place operation is a
    function (`mutateSnap`) of what it reported before — provided its own references are pairwise
    distinct (otherwise a write through one attribute would show through another). -/
theorem C12_refine_mutate (h : Heap) (x : HObj) (w : WT h x) (nd : x.refs.Nodup) (m : Mut) :
    snapshot (mutate h x m).1 (mutate h x m).2 = mutateSnap (snapshot h x) m :=
  mutate_snap w nd m

/-- `copy()` reports exactly what the original reports (bins, contents, missed, metadata,
    statistics, dtype, keep_missed); `copy(include_frequencies=False)` reports zero contents and
    missed counts of the same shapes, empty statistics, and the same bins, metadata and dtype -/
theorem C12_copy_reports (h : Heap) (x : HObj) (w : WT h x) :
    snapshot (derive h x (.copy true)).1 (derive h x (.copy true)).2 = snapshot h x ∧
    snapshot (derive h x (.copy false)).1 (derive h x (.copy false)).2 =
      { snapshot h x with freq := (snapshot h x).freq.map zerosLike, err2 := (snapshot h x).err2.map zerosLike,
                          missed := (snapshot h x).missed.map zerosLike,
                          stats := (snapshot h x).stats.map fun _ => some .empty } :=
  ⟨(derive_spec w (.copy true)).2, (derive_spec w (.copy false)).2⟩

/-- the two refinements at the level of worlds: after a step, the new / updated live object reports
    the value-level image of what the source / target reported -/
theorem C12_refine_step (w : World) (iv : Inv w) (i : Nat) (x : HObj) (hx : w.live[i]? = some x) :
    (∀ d, ∃ x', (w.step (.derive i d)).live[w.live.length]? = some x' ∧
        snapshot (w.step (.derive i d)).heap x' = deriveSnap (snapshot w.heap x) d) ∧
    (∀ m, ∃ x', (w.step (.mutate i m)).live[i]? = some x' ∧
        snapshot (w.step (.mutate i m)).heap x' = mutateSnap (snapshot w.heap x) m) := by
  have wx := iv.wt x (List.mem_of_getElem? hx)
  have ilt : i < w.live.length := (List.getElem?_eq_some_iff.mp hx).1
  refine ⟨fun d => ⟨(derive w.heap x d).2, ?_, ?_⟩, fun m => ⟨(mutate w.heap x m).2, ?_, ?_⟩⟩
  · simp [World.step, hx]
  · simp only [World.step, hx]; exact (derive_spec wx d).2
  · simp only [World.step, hx]; simp [ilt]
  · simp only [World.step, hx]; exact mutate_snap wx (iv.sep.own x (List.mem_of_getElem? hx)) m

/-- **`sepB` is sound** (it also checks well-typedness): a driver can evaluate it on the object
    graph observed at run time. -/
theorem C12_sepB_sound (h : Heap) (live : List HObj) (e : sepB h live = true) :
    (∀ x ∈ live, WT h x) ∧ Sep live := sepB_sound e

/-! ## Non-vacuity: a concrete history

A 2-d histogram `H`: axis 0 an adaptive fixed-width binning (2 cells of width 1 from 0), axis 1 a
`StaticBinning` with 3 bins; then

  `p = H.projection(0)`; `s = H[:, 1:3]`; `H.fill((-0.5, 1.5))` (axis 0 grows to 4 cells in place);
  `p *= 2`; `q = p[0:1]`; `H.T`; `p' = p.copy()`; `c = HistogramCollection(p, p').copy()` (two 1-d
  members, objects 6 and 7); `r = c.create("r", […])` (object 8); `c[0].fill(-0.5)` (the adaptive binning of
  member 6 grows — its OWN binning object, after fix 10ef3a5). -/

def exHeap : Heap :=
  [.stats .invalid, .binning (.grid 1 0 0 2 true false), .buf [(0, 1), (1, 2), (2, 3)],
   .binning (.arr false 2 0 3 true), .arr [1, 2, 3, 4, 5, 6], .arr [1, 2, 3, 4, 5, 6], .arr [0],
   .dict [("name", "H")]]

def exH : HObj :=
  { binnings := [1, 3], freq := 4, err2 := 5, missed := 6, md := 7, stats := none, dtype := 0, keep := true }

def exW : World := { heap := exHeap, live := [exH] }

def exSteps : List Step :=
  [.derive 0 (.reduce [0] [6, 15] [6, 15] [("name", "H")] 0),                    -- 1: p = H.projection(0)
   .derive 0 (.selectSlice 1 1 2 [2, 3, 5, 6] [2, 3, 5, 6]),                      -- 2: s = H[:, 1:3]
   .mutate 0 (.fill { grow := [(0, -1, 4)], reshape := true,
                      freq := [0, 1, 0, 1, 2, 3, 4, 5, 6, 0, 0, 0],
                      err2 := [0, 1, 0, 1, 2, 3, 4, 5, 6, 0, 0, 0], missed := [0] }),  -- H.fill((-0.5, 1.5))
   .mutate 1 (.scale { freq := [12, 30], err2 := [24, 60], missed := [0, 0, 0], missedInPlace := false,
                       stats := some .invalid }),                                 -- p *= 2
   .derive 1 (.getitem1 (.slice 0 1) [12] [24] [0, 30, 0] [("name", "H")] true),  -- 3: q = p[0:1]
   .derive 0 (.transpose [("name", "H")] [0, 1, 4, 0, 0, 2, 5, 0, 1, 3, 6, 0] [0, 1, 4, 0, 0, 2, 5, 0, 1, 3, 6, 0]),  -- 4: H.T
   .derive 1 (.copy true),                                                         -- 5: p.copy()
   .collCopy [1, 5],                                                               -- 6, 7: HistogramCollection(p, p').copy()
   .derive 6 (.create 2 [("name", "r")] 0 { freq := [1, 1], err2 := [1, 1], missed := [0, 0, 0],
                                             stats := some (.vals [2]) }),        -- 8: c.create("r", [0.5, 1.5])
   .mutate 6 (.fill { grow := [(0, -1, 3)], reshape := true, freq := [1, 12, 30], err2 := [1, 24, 60],
                      missed := [0, 0, 0], stats := some (.vals [1]) })]           -- c[0].fill(-0.5)

theorem exW_inv : Inv exW := invB_sound (by decide +kernel)

example : Inv exW := exW_inv

/-- the final world: it passes the executable check of the invariant (9 live objects), every object in it
    is shape-well-formed, and what its objects share -/
theorem exFinal_checks :
    let w := exW.run exSteps
    (w.live.length = 9 ∧ invB w = true) ∧
    (w.live.map fun x => (snapshot w.heap x).shapeOk) = [true, true, true, true, true, true, true, true, true] ∧
    sharing w.heap w.live[0]! w.live[2]! = [("binnings[1]._bins", "binnings[1]._bins")] ∧
    sharing w.heap w.live[1]! w.live[3]! = [("stats", "stats")] ∧
    sharing w.heap w.live[1]! w.live[5]! = [] ∧
    sharing w.heap w.live[6]! w.live[7]! = [] ∧
    sharing w.heap w.live[6]! w.live[8]! = [] := by decide +kernel

/-- the invariant at the end of the history, by the theorem … -/
example : Inv (exW.run exSteps) := C12_sep_history exW exW_inv exSteps

/-- … and, independently, by running the executable check on the final world (9 live objects) -/
example : (exW.run exSteps).live.length = 9 ∧ invB (exW.run exSteps) = true := exFinal_checks.1

/-- the world after the two derivations, before `H.fill` -/
def exW2 : World := exW.run (exSteps.take 2)

/-- the projection `p` (object 1) reports after `H.fill` (which grew H's axis-0 binning in place)
    exactly what it reported before: instance of the frame theorem -/
example : snapshot (exW2.step (exSteps[2])).heap exW2.live[1]! = snapshot exW2.heap exW2.live[1]! := by
  have iv : Inv exW2 := C12_sep_history exW exW_inv _
  exact (C12_frame exW2 iv 0 1 exW2.live[1]! (getElem?_eq_some_getElem! (by decide +kernel)) (by decide) _).2.1

/-- the frame is not vacuous: the same `fill` DID change what `H` itself reports (axis 0 has 4 cells now) -/
example :
    (snapshot (exW.run (exSteps.take 3)).heap ((exW.run (exSteps.take 3)).live[0]!)).bins[0]? =
      some (some (.grid 1 0 (-1) 4 true false)) ∧
    (snapshot (exW.run (exSteps.take 2)).heap ((exW.run (exSteps.take 2)).live[0]!)).bins[0]? =
      some (some (.grid 1 0 0 2 true false)) := by decide +kernel

/-- every object is shape-well-formed at the end -/
example : ((exW.run exSteps).live.map fun x => (snapshot (exW.run exSteps).heap x).shapeOk) =
    [true, true, true, true, true, true, true, true, true] := exFinal_checks.2.1

/-- refinement on the example: the slice `s = H[:, 1:3]` (object 2) reports the value-level image of what
    `H` reported, namely axis 0 unchanged, axis 1 the static bins `[1,2), [2,3)`, the new contents -/
example :
    snapshot exW2.heap exW2.live[2]! = deriveSnap (snapshot exW.heap exH) (.selectSlice 1 1 2 [2, 3, 5, 6] [2, 3, 5, 6]) ∧
    deriveSnap (snapshot exW.heap exH) (.selectSlice 1 1 2 [2, 3, 5, 6] [2, 3, 5, 6]) =
      { bins := [some (.grid 1 0 0 2 true false), some (.arr false [(1, 2), (2, 3)] true)],
        freq := some [2, 3, 5, 6], err2 := some [2, 3, 5, 6], missed := some [0], md := some [("name", "H")],
        stats := none, dtype := 0, keep := true } := by
  refine ⟨?_, by decide +kernel⟩
  have iv : Inv (exW.run (exSteps.take 1)) := C12_sep_history exW exW_inv _
  have hH : (exW.run (exSteps.take 1)).live[0]? = some exH := by decide +kernel
  have := C12_refine_derive (exW.run (exSteps.take 1)).heap exH (iv.wt exH (List.mem_of_getElem? hH))
    (.selectSlice 1 1 2 [2, 3, 5, 6] [2, 3, 5, 6])
  have e2 : snapshot (exW.run (exSteps.take 1)).heap exH = snapshot exW.heap exH :=
    (C12_operands_unchanged exW exW_inv 0 0 exH (by decide +kernel) _).2
  rw [e2] at this
  rw [← this]
  decide +kernel

/-- the last step, `c[0].fill(-0.5)` on member 6 of the copied collection, DID change what member 6
    reports (3 cells now) and left its sibling 7 and the created member 8 exactly as they were:
    instances of the frame theorem for members of one collection -/
example :
    let w₀ := exW.run (exSteps.take 9)
    let w₁ := w₀.step (exSteps[9])
    (snapshot w₁.heap w₁.live[6]!).bins = [some (.grid 1 0 (-1) 3 true false)] ∧
    (snapshot w₀.heap w₀.live[6]!).bins = [some (.grid 1 0 0 2 true false)] ∧
    snapshot w₁.heap w₀.live[7]! = snapshot w₀.heap w₀.live[7]! ∧
    snapshot w₁.heap w₀.live[8]! = snapshot w₀.heap w₀.live[8]! := by
  intro w₀ w₁
  have iv : Inv w₀ := C12_sep_history exW exW_inv _
  refine and_assoc.mp ⟨by decide +kernel, ?_, ?_⟩
  · exact (C12_frame w₀ iv 6 7 w₀.live[7]! (getElem?_eq_some_getElem! (by decide +kernel)) (by decide) _).2.1
  · exact (C12_frame w₀ iv 6 8 w₀.live[8]! (getElem?_eq_some_getElem! (by decide +kernel)) (by decide) _).2.1

/-- `sharing` at the end: `H` and its slice `s` share only the (immutable) edge buffer of the sliced
    static axis; the slice `q` of `p` and `p` share only `INVALID_STATISTICS`; `p` and its copy, the two
    members of the copied collection, and a member and the created histogram share nothing -/
example :
    sharing (exW.run exSteps).heap (exW.run exSteps).live[0]! (exW.run exSteps).live[2]! =
      [("binnings[1]._bins", "binnings[1]._bins")] ∧
    sharing (exW.run exSteps).heap (exW.run exSteps).live[1]! (exW.run exSteps).live[3]! =
      [("stats", "stats")] ∧
    sharing (exW.run exSteps).heap (exW.run exSteps).live[1]! (exW.run exSteps).live[5]! = [] ∧
    sharing (exW.run exSteps).heap (exW.run exSteps).live[6]! (exW.run exSteps).live[7]! = [] ∧
    sharing (exW.run exSteps).heap (exW.run exSteps).live[6]! (exW.run exSteps).live[8]! = [] :=
  exFinal_checks.2.2

/-! ## Before fix 10ef3a5: members of a copied collection were not independent

`HistogramCollection.copy()` re-pointed every copied member to ONE `binning_copy`
(`collCopyShared`; histogram_collection.py:66-69 before the fix).  With an adaptive binning,
`c2[0].fill(v)` made `force_bin_existence` rewrite that shared object in place and reshaped only
`c2[0]`'s arrays: the sibling `c2[1]` then reported 4 bins with 2 contents.  Python (before the fix):

    a = h1([0.5, 1.5], "fixed_width", bin_width=1, adaptive=True); b = a.copy()
    c2 = HistogramCollection(a, b).copy()
    c2[0].fill(-0.5)          # c2[1].binning.bin_count == 3, c2[1].frequencies.shape == (2,)
    c2[1].densities           # ValueError: operands could not be broadcast together
-/

def fillMember : Step :=
  .mutate 5 (.fill { grow := [(0, -1, 4)], reshape := true, freq := [1, 12, 30, 0], err2 := [1, 24, 60, 0],
                     missed := [0, 0, 0], stats := some (.vals [1]) })

/-- kernel-checked witness on the OLD variant: the world is separated before the collection copy, the
    old copy breaks separation (`sepB` fails: members 5 and 6 share `binnings[0]`), and after the fill on
    member 5 the sibling 6 — the same record of references — reports different bins and is no longer
    shape-well-formed -/
theorem C12_collection_members_not_independent_before_fix :
    let w := (exW.run (exSteps.take 5)).step (.derive 1 (.copy true))
    let w₀ := w.stepShared [1, 4]
    let w₁ := w₀.step fillMember
    invB w = true ∧ invB w₀ = false ∧
    sharing w₀.heap w₀.live[5]! w₀.live[6]! = [("binnings[0]", "binnings[0]")] ∧
    w₁.live[6]! = w₀.live[6]! ∧
    snapshot w₁.heap w₁.live[6]! ≠ snapshot w₀.heap w₀.live[6]! ∧
    (snapshot w₀.heap w₀.live[6]!).shapeOk = true ∧
    (snapshot w₁.heap w₁.live[6]!).shapeOk = false := by
  decide +kernel

/-- the same history on the CURRENT code: separation holds throughout and the sibling is untouched -/
theorem C12_collection_members_independent_after_fix :
    let w := (exW.run (exSteps.take 5)).step (.derive 1 (.copy true))
    let w₀ := w.step (.collCopy [1, 4])
    let w₁ := w₀.step fillMember
    invB w₀ = true ∧ invB w₁ = true ∧
    sharing w₀.heap w₀.live[5]! w₀.live[6]! = [] ∧
    snapshot w₁.heap w₁.live[6]! = snapshot w₀.heap w₀.live[6]! ∧
    (snapshot w₁.heap w₁.live[6]!).shapeOk = true := by
  decide +kernel

end Hp
end Physt
