import Physt.Proofs.PathsND
/-!
# C03 in N dimensions — every entry path gives the histogram of all the rows

Helper lemmas: `Proofs/PathsND.lean` (additivity of `calcND`, the `TracksN` invariant) and
`Proofs/MaskedEdges.lean` (construction and `find_bin` search the same way).
-/
namespace Physt

/-- **One `fill` = the one-row batch** (non-adaptive rising axes, tracking on): contents, squared
    errors and missed grow by the histogram of the single row; the index returned is the one
    `find_bin` returns, and `find_bin` does not look at the contents. -/
theorem C03_nd_fill (fo : FloatOps) (fuel : Nat) (h : HN) (hs : NonAdaptive h.axes)
    (hr : ∀ b ∈ h.axes, Rising (b.bins fo)) (hk : h.keep = true)
    (hf : h.freq.HasShape (h.shape fo)) (he : h.err2.HasShape (h.shape fo))
    (v : List Rat) (hl : v.length = h.axes.length) (w : Rat) (wk : H1.NumKind) :
    (h.fill fo fuel (v.map some) w wk).1.freq
      = Arr.zipWith (· + ·) h.freq (calcND (h.axesBins fo) [(v, w)]).freq ∧
    (h.fill fo fuel (v.map some) w wk).1.err2
      = Arr.zipWith (· + ·) h.err2 (calcND (h.axesBins fo) [(v, w)]).err2 ∧
    (h.fill fo fuel (v.map some) w wk).1.missed
      = nadd h.missed (some (calcND (h.axesBins fo) [(v, w)]).missing) ∧
    (h.fill fo fuel (v.map some) w wk).2 = some (h.findBin fo v) :=
  let r := fill_eq_single fo fuel h hs hr hk hf he v hl w wk
  ⟨r.1, r.2.1, r.2.2.1, r.2.2.2.1⟩

/-- **Any interleaving of `fill` and `fill_n` calls** (any chunking, empty batches, NaN rows) on a
    histogram that holds the rows `rows0` ends holding `rows0` followed by all rows entered. -/
theorem C03_nd_paths (fo : FloatOps) (fuel : Nat) (axes : List Binning)
    (hr : ∀ b ∈ axes, Rising (b.bins fo)) (ops : List OpN) (hv : ∀ op ∈ ops, op.Valid axes.length)
    (h0 : HN) (rows0 : List Row) (t0 : TracksN fo axes h0 rows0) (r : HN)
    (hrun : ops.foldlM (OpN.apply fo fuel) h0 = .ok r) :
    TracksN fo axes r (rows0 ++ (ops.map OpN.rows).flatten) :=
  foldlM_tracks (OpN.apply fo fuel) OpN.rows (TracksN fo axes) ops
    (fun op hop h rows m t hm => tracksN_apply fo fuel axes hr h rows t op (hv op hop) m hm) h0 rows0 t0 r hrun

/-- … and every such path is accepted when each batch has matching shapes -/
theorem C03_nd_paths_accepted (fo : FloatOps) (fuel : Nat) (axes : List Binning)
    (hr : ∀ b ∈ axes, Rising (b.bins fo)) (ops : List OpN) (hv : ∀ op ∈ ops, op.Valid axes.length)
    (hacc : ∀ op ∈ ops, op.Accepted axes.length)
    (h0 : HN) (rows0 : List Row) (t0 : TracksN fo axes h0 rows0) :
    ∃ r, ops.foldlM (OpN.apply fo fuel) h0 = .ok r :=
  foldlM_accepted (OpN.apply fo fuel) OpN.rows (TracksN fo axes) ops (fun op hop h rows t => by
    have hm : ∃ m, op.apply fo fuel h = .ok m := by
      cases op with
      | fill value w wk => exact ⟨_, rfl⟩
      | fillN batch ws wkind =>
        exact fillN_accepted fo fuel h batch ws wkind (by rw [t.hax]; exact (hacc _ hop).1) (hacc _ hop).2
    obtain ⟨m, hm⟩ := hm
    exact ⟨m, hm, tracksN_apply fo fuel axes hr h rows t op (hv op hop) m hm⟩) h0 rows0 t0

/-- the order in which rows were entered does not matter -/
theorem C03_nd_order (fo : FloatOps) (axes : List Binning) (h h' : HN) (rows rows' : List Row)
    (t : TracksN fo axes h rows) (t' : TracksN fo axes h' rows') (hp : rows.Perm rows') :
    h.freq = h'.freq ∧ h.err2 = h'.err2 ∧ h.missed = h'.missed := by
  have e := calcND_perm (axesOf fo axes) _ _ hp
  exact ⟨by rw [t.freq, t'.freq, e], by rw [t.err2, t'.err2, e], by rw [t.missed, t'.missed, e]⟩

/-- **Filling from empty = construction**, in any order: contents, squared errors, missed, bins. -/
theorem C03_nd_eq_construct (fo : FloatOps) (fuel : Nat) (axes : List Binning)
    (hs : NonAdaptive axes) (ops : List OpN) (hv : ∀ op ∈ ops, op.Valid axes.length)
    (dt : Option DType) (names : Option (List String)) (r : HN)
    (hrun : ops.foldlM (OpN.apply fo fuel) (HN.empty fo axes true dt names) = .ok r)
    (all : List (List (Option Rat))) (ws : Option (List Rat)) (wkind : DType) (dropna : Bool)
    (names' : Option (List String)) (c : HN)
    (hc : HN.construct fo axes all ws wkind dropna names' = .ok c)
    (hp : (maskRows all ws).Perm (ops.map OpN.rows).flatten) :
    r.freq = c.freq ∧ r.err2 = c.err2 ∧ r.missed = c.missed ∧ r.axes = c.axes ∧ r.keep = c.keep := by
  obtain ⟨hr, c1, c2, c3, c4, c5⟩ := construct_ok fo axes all ws wkind dropna names' c hc
  have tc : TracksN fo axes c (maskRows all ws) := ⟨c1, hs, c2, c3, c4, c5⟩
  have tr := C03_nd_paths fo fuel axes hr ops hv _ [] (tracksN_empty fo axes hs dt names) r hrun
  rw [List.nil_append] at tr
  obtain ⟨e1, e2, e3⟩ := C03_nd_order fo axes r c _ _ tr tc hp.symm
  exact ⟨e1, e2, e3, tr.hax.trans tc.hax.symm, tr.keep.trans tc.keep.symm⟩

/-- C02's accounting identity holds along every path: `total + missed` = weight entered -/
theorem C03_nd_account (fo : FloatOps) (axes : List Binning) (h : HN) (rows : List Row)
    (t : TracksN fo axes h rows) : ∃ m, h.missed = some m ∧ h.freq.total + m = (rows.map (·.2)).sum :=
  t.account

namespace ExampleND

/-- the invariants instantiated: the history is accepted and ends tracking all its rows in order -/
example (hcell : CellBridge) (fo : FloatOps) (fuel : Nat) :
    ∃ r, ops.foldlM (OpN.apply fo fuel) (HN.empty fo axes true none none) = .ok r ∧
      TracksN fo axes r (ops.map OpN.rows).flatten := by
  have t0 := tracksN_empty fo axes static none none
  obtain ⟨r, hr⟩ := C03_nd_paths_accepted fo fuel axes (rising fo) ops valid accepted _ [] t0
  exact ⟨r, hr, by simpa using C03_nd_paths fo fuel axes (rising fo) ops valid _ [] t0 r hr⟩

end ExampleND

/-! Non-vacuity: a 2-D histogram (one gapped right-open axis) filled by a mixed history. -/
example : ∃ r, ExampleND.ops.foldlM (OpN.apply FloatOps.exact 8) (HN.empty FloatOps.exact ExampleND.axes true none none) = .ok r ∧
    TracksN FloatOps.exact ExampleND.axes r (ExampleND.ops.map OpN.rows).flatten := by
  obtain ⟨r, hr⟩ := C03_nd_paths_accepted FloatOps.exact 8 ExampleND.axes (ExampleND.rising _) ExampleND.ops
    ExampleND.valid ExampleND.accepted _ [] (tracksN_empty _ _ ExampleND.static none none)
  exact ⟨r, hr, by
    simpa using C03_nd_paths FloatOps.exact 8 ExampleND.axes (ExampleND.rising _) ExampleND.ops
      ExampleND.valid _ [] (tracksN_empty _ _ ExampleND.static none none) r hr⟩

end Physt
