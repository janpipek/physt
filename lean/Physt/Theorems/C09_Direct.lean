import Physt.Proofs.ProjectDirect
/-!
# C09 (continued) — the projection equals the histogram built directly from the kept columns

`Theorems/C09.lean` / `C09_Laws.lean` prove that a projection holds the marginal sums, keeps the
kept axes in their original order and has the parent's total.  Here the last clause of the
property: **the projection equals the histogram constructed directly from the kept columns whenever
no row missed the dropped axes' bins** — and, without that hypothesis, exactly which rows the
projection holds.  Helper lemmas: `Proofs/ProjectDirect.lean`.

Vocabulary (all for every number of axes, every shape, every list of rows):

* `hitsAxis axes j v` — the row `v` has a `j`-th coordinate and it lies in some bin of axis `j`;
* `hitRows axes j rows` — the rows that hit axis `j`, column `j` erased;
* `keptOf A keep n` — the entries of `A` at the kept positions below `n`, in their original order
  (`Proofs/ArrayLaws.lean`; `HN.projection` keeps `keptOf h.axes …`, `HN.projection_eq`);
* `hitsDropped axes keep n v` — `v` hits every axis below `n` that is not kept;
* `keptRows axes keep n rows` — the rows that hit all dropped axes, reduced to their kept coordinates;
* `keepOf ax` — the predicate "position `i` is one of the resolved positions `ax`".
-/
namespace Physt

/-- **One axis, general form (no hypothesis on misses).**  Summing the contents (and the squared
    errors) of `calculate_nd_frequencies` over axis `j` gives the contents (squared errors), over
    the remaining axes, of exactly those rows whose `j`-th coordinate lies in some bin of axis `j`,
    with that coordinate erased.  Rows that fell into a gap of, or outside, axis `j` are in
    neither side; rows outside the *other* axes are missed on both sides.  No hypothesis on the
    rows: a row with too few coordinates is counted by neither side, surplus coordinates are
    ignored by both.  (`j < axes.length`: the axis summed over exists.) -/
theorem C09_direct_axis (axes : AxesB) (rows : List Row) (j : Nat) (hj : j < axes.length) :
    (calcND axes rows).freq.sumAxis j = (calcND (axes.eraseIdx j) (hitRows axes j rows)).freq ∧
    (calcND axes rows).err2.sumAxis j = (calcND (axes.eraseIdx j) (hitRows axes j rows)).err2 :=
  ⟨cellArr_sumAxis (fun w => w) axes rows j hj, cellArr_sumAxis (fun w => w * w) axes rows j hj⟩

/-- **One axis, no row missed it**: the marginal over axis `j` *is* the histogram of all the rows
    with column `j` erased. -/
theorem C09_direct_axis_nomiss (axes : AxesB) (rows : List Row) (j : Nat) (hj : j < axes.length)
    (hall : ∀ r ∈ rows, hitsAxis axes j r.1 = true) :
    (calcND axes rows).freq.sumAxis j
      = (calcND (axes.eraseIdx j) (rows.map fun r => (r.1.eraseIdx j, r.2))).freq ∧
    (calcND axes rows).err2.sumAxis j
      = (calcND (axes.eraseIdx j) (rows.map fun r => (r.1.eraseIdx j, r.2))).err2 := by
  rw [← hitRows_all axes j rows hall]
  exact C09_direct_axis axes rows j hj

/-- **Any set of dropped axes, general form**, summed the way `projection` sums them
    (`dropList`: the non-kept positions in decreasing order): the result is the histogram, over the
    kept axes *in their original order*, of exactly the rows that missed none of the dropped axes,
    reduced to their kept coordinates in their original order. -/
theorem C09_direct_axes (axes : AxesB) (rows : List Row) (keep : Nat → Bool) :
    (calcND axes rows).freq.sumAxes (dropList axes.length keep)
      = (calcND (keptOf axes keep axes.length) (keptRows axes keep axes.length rows)).freq ∧
    (calcND axes rows).err2.sumAxes (dropList axes.length keep)
      = (calcND (keptOf axes keep axes.length) (keptRows axes keep axes.length rows)).err2 := by
  have h1 := cellArr_sumAxes (fun w => w) keep axes.length axes rows (Nat.le_refl _)
  have h2 := cellArr_sumAxes (fun w => w * w) keep axes.length axes rows (Nat.le_refl _)
  rw [keptFrom_length_self, cellArr_projRows] at h1 h2
  exact ⟨h1, h2⟩

/-- **Any set of dropped axes, no row missed any of them**: the result is the histogram of all the
    rows reduced to their kept coordinates. -/
theorem C09_direct_axes_nomiss (axes : AxesB) (rows : List Row) (keep : Nat → Bool)
    (hall : ∀ r ∈ rows, hitsDropped axes keep axes.length r.1 = true) :
    (calcND axes rows).freq.sumAxes (dropList axes.length keep)
      = (calcND (keptOf axes keep axes.length) (rows.map fun r => (keptOf r.1 keep axes.length, r.2))).freq ∧
    (calcND axes rows).err2.sumAxes (dropList axes.length keep)
      = (calcND (keptOf axes keep axes.length) (rows.map fun r => (keptOf r.1 keep axes.length, r.2))).err2 := by
  rw [← keptRows_all axes keep axes.length rows hall]
  exact C09_direct_axes axes rows keep

/-- **What a projection of a constructed histogram holds.**  If `h` was constructed from `data`
    (with weights `ws`) over `axes` and `r = h.projection sel`, with `ax` the resolved positions of
    `sel`: the bins of `r` are the kept binnings in their original order, and its contents and
    squared errors are those of `calculate_nd_frequencies` over the kept axes applied to the kept
    coordinates of exactly the NaN-masked rows that missed none of the dropped axes. -/
theorem C09_projection_rows (fo : FloatOps) (axes : List Binning) (data : List (List (Option Rat)))
    (ws : Option (List Rat)) (wkind : DType) (dropna : Bool) (names : Option (List String)) (h r : HN)
    (sel : List (Sum Int String))
    (hc : HN.construct fo axes data ws wkind dropna names = .ok h) (hr : h.projection sel = .ok r) :
    ∃ ax, sel.mapM h.getAxis = .ok ax ∧
      r.axes = keptOf axes (keepOf ax) axes.length ∧
      r.freq = (calcND (axesOf fo (keptOf axes (keepOf ax) axes.length))
        (keptRows (axesOf fo axes) (keepOf ax) axes.length (maskRows data ws))).freq ∧
      r.err2 = (calcND (axesOf fo (keptOf axes (keepOf ax) axes.length))
        (keptRows (axesOf fo axes) (keepOf ax) axes.length (maskRows data ws))).err2 := by
  obtain ⟨_, ha, _, hf, he, _⟩ := construct_ok fo axes data ws wkind dropna names h hc
  obtain ⟨ax, hm, e⟩ := HN.projection_eq h r sel hr
  obtain ⟨s1, s2⟩ := C09_direct_axes (axesOf fo axes) (maskRows data ws) (keepOf ax)
  rw [axesOf_length, keptOf_axesOf] at s1 s2
  refine ⟨ax, hm, ?_, ?_, ?_⟩
  · rw [e, ha]; rfl
  · rw [← s1, ← hf, e, ha]; rfl
  · rw [← s2, ← he, e, ha]; rfl

/-- **The projection equals the histogram built directly from the kept columns** — weakest
    hypothesis: every data row that is NaN-free in its kept columns is NaN-free altogether and has
    a bin on every dropped axis.  (A row with a NaN in a kept column is dropped by both sides and
    may hold anything elsewhere.)  Then for *every* accepted direct construction `c` from the kept
    binnings and the kept columns with the same weights (any dtype, `dropna`, names):
    same contents, same squared errors, same bins.

    Not claimed: `missed`.  A projection reports `missed = 0` (`HN.projection_missed`), while the
    direct construction counts the weight of the rows outside the *kept* axes; nor the names when
    the direct construction is given other names. -/
theorem C09_projection_eq_direct (fo : FloatOps) (axes : List Binning) (data : List (List (Option Rat)))
    (ws : Option (List Rat)) (wkind : DType) (dropna : Bool) (names : Option (List String)) (h r : HN)
    (sel : List (Sum Int String))
    (hc : HN.construct fo axes data ws wkind dropna names = .ok h) (hr : h.projection sel = .ok r)
    (ax : List Nat) (hax : sel.mapM h.getAxis = .ok ax)
    (hnm : ∀ q ∈ data, (keptOf q (keepOf ax) axes.length).all Option.isSome = true →
      q.all Option.isSome = true ∧ hitsDropped (axesOf fo axes) (keepOf ax) axes.length (q.filterMap id) = true)
    (wkind' : DType) (dropna' : Bool) (names' : Option (List String)) (c : HN)
    (hd : HN.construct fo (keptOf axes (keepOf ax) axes.length)
      (data.map fun q => keptOf q (keepOf ax) axes.length) ws wkind' dropna' names' = .ok c) :
    r.freq = c.freq ∧ r.err2 = c.err2 ∧ r.axes = c.axes := by
  obtain ⟨ax', hm, e1, e2, e3⟩ := C09_projection_rows fo axes data ws wkind dropna names h r sel hc hr
  rw [hax] at hm
  cases hm
  obtain ⟨_, ca, _, cf, ce, _⟩ := construct_ok fo _ _ ws wkind' dropna' names' c hd
  rw [maskRows_keptOf (axesOf fo axes) (keepOf ax) axes.length data ws hnm] at cf ce
  exact ⟨by rw [e2, cf], by rw [e3, ce], by rw [e1, ca]⟩

/-- **The property as stated**: `h` constructed from `data`, `r = h.projection sel`.  If no row has
    a NaN in, or misses the bins of, a dropped column (`NoMissDropped`), then the direct
    construction from the kept binnings and the kept columns (same weights, same `dropna`) is
    accepted, and the projection has its contents, its squared errors and its bins.  The totals
    agree in particular.  (`missed` differs in general: see `C09_projection_eq_direct`.) -/
theorem C09_projection_is_direct (fo : FloatOps) (axes : List Binning) (data : List (List (Option Rat)))
    (ws : Option (List Rat)) (wkind : DType) (dropna : Bool) (names : Option (List String)) (h r : HN)
    (sel : List (Sum Int String))
    (hc : HN.construct fo axes data ws wkind dropna names = .ok h) (hr : h.projection sel = .ok r)
    (wkind' : DType) (names' : Option (List String)) :
    ∃ ax, sel.mapM h.getAxis = .ok ax ∧
      (NoMissDropped fo axes (keepOf ax) data →
        ∃ c, HN.construct fo (keptOf axes (keepOf ax) axes.length)
            (data.map fun q => keptOf q (keepOf ax) axes.length) ws wkind' dropna names' = .ok c ∧
          r.freq = c.freq ∧ r.err2 = c.err2 ∧ r.axes = c.axes ∧ r.freq.total = c.freq.total ∧
          r.missed = some 0) := by
  obtain ⟨ax, hax, _⟩ := C09_projection_rows fo axes data ws wkind dropna names h r sel hc hr
  refine ⟨ax, hax, ?_⟩
  intro hno
  obtain ⟨c, hd⟩ := HN.construct_kept_accepted fo axes data ws wkind dropna names h hc (keepOf ax) wkind' names'
  have hcol : ∀ r ∈ data, r.length = axes.length := by
    simpa [List.any_eq_false] using ((HN.construct_ok_iff fo axes data ws wkind dropna names h).mp hc).1
  obtain ⟨e1, e2, e3⟩ := C09_projection_eq_direct fo axes data ws wkind dropna names h r sel hc hr ax hax
    (noMiss_weak fo axes (keepOf ax) data hcol hno) wkind' dropna names' c hd
  exact ⟨c, hd, e1, e2, e3, by rw [e1], HN.projection_missed h r sel hr⟩

/-! ## Non-vacuity: a 3-D data set, a gapped right-open dropped axis, rows outside, a NaN row -/

namespace C09DirectExample

/-- `x`: 2 bins; `y`: 3 bins with a gap `[4, 5)`, right-open; `z`: 2 bins -/
def axes : List Binning :=
  [.static [(0, 1), (1, 2)] true, .static [(0, 2), (2, 4), (5, 6)] false, .static [(0, 3), (3, 6)] true]

/-- columns `x, y, z`.  Row 3 is outside `x`, row 4 outside `z` (kept axes: allowed), row 5 has a
    NaN in the kept column `x` (allowed); every `y` lies in a bin of the gapped axis `y`. -/
def data : List (List (Option Rat)) :=
  [[some (1 / 2), some 1, some 1],
   [some (3 / 2), some 3, some 4],
   [some 5, some 1, some 1],
   [some (3 / 2), some (11 / 2), some 7],
   [none, some 1, some 2],
   [some 2, some 3, some 6],
   [some (1 / 2), some 5, some 3]]

def weights : List Rat := [2, 1, 3, 1, 7, 1, 4]

/-- one more row whose `y = 9/2` falls into the gap of the dropped axis -/
def dataGap : List (List (Option Rat)) := data ++ [[some (1 / 2), some (9 / 2), some 1]]
def weightsGap : List Rat := weights ++ [5]

def parent : HN :=
  match HN.construct FloatOps.exact axes data (some weights) .f64 true (some ["x", "y", "z"]) with
  | .ok h => h
  | .error _ => default

theorem parent_ok :
    HN.construct FloatOps.exact axes data (some weights) .f64 true (some ["x", "y", "z"]) = .ok parent :=
  Except.eq_ok_getD _ (by decide +kernel)

def proj : HN :=
  match parent.projection [.inl 2, .inr "x"] with
  | .ok r => r
  | .error _ => default

theorem proj_ok : parent.projection [.inl 2, .inr "x"] = .ok proj :=
  Except.eq_ok_getD _ (by decide +kernel)

theorem sel_ok : [Sum.inl 2, Sum.inr "x"].mapM parent.getAxis = .ok [2, 0] := by
  apply Except.eq_ok_of_toOption
  decide +kernel

/-- the plain hypothesis holds: no row has a NaN in, or misses, the dropped column `y` -/
theorem noMiss : NoMissDropped FloatOps.exact axes (keepOf [2, 0]) data :=
  noMissDropped_of_B _ _ _ _ (by decide +kernel)

/-- **`C09_projection_is_direct` instantiated**: projecting the 3-D histogram onto (`z`, `x`) —
    requested out of order — gives the contents, squared errors and bins of the 2-D histogram built
    directly from columns `x, z` (in their original order). -/
example : ∃ c, HN.construct FloatOps.exact (keptOf axes (keepOf [2, 0]) axes.length)
      (data.map fun q => keptOf q (keepOf [2, 0]) axes.length) (some weights) .f64 true none = .ok c ∧
    proj.freq = c.freq ∧ proj.err2 = c.err2 ∧ proj.axes = c.axes := by
  obtain ⟨ax, hax, hmain⟩ := C09_projection_is_direct FloatOps.exact axes data (some weights) .f64 true
    (some ["x", "y", "z"]) parent proj [.inl 2, .inr "x"] parent_ok proj_ok .f64 none
  rw [sel_ok] at hax
  cases hax
  obtain ⟨c, hd, e1, e2, e3, _⟩ := hmain noMiss
  exact ⟨c, hd, e1, e2, e3⟩

/-- … the weakest hypothesis of `C09_projection_eq_direct` is decidable and holds here too … -/
example : ∀ q ∈ data, (keptOf q (keepOf [2, 0]) axes.length).all Option.isSome = true →
    q.all Option.isSome = true ∧
      hitsDropped (axesOf FloatOps.exact axes) (keepOf [2, 0]) axes.length (q.filterMap id) = true := by
  decide +kernel

/-- … and the objects are what one expects (computed by the kernel): the kept binnings are `x, z`,
    the kept columns are columns 0 and 2, the projection is not trivial (rows 3 and 4 are outside
    the kept axes, row 5 is masked), and the direct construction reports `missed = 4` where the
    projection reports `0`. -/
example :
    keptOf axes (keepOf [2, 0]) axes.length = [.static [(0, 1), (1, 2)] true, .static [(0, 3), (3, 6)] true] ∧
    (data.map fun q => keptOf q (keepOf [2, 0]) axes.length).take 2
      = [[some (1 / 2), some 1], [some (3 / 2), some 4]] ∧
    parent.freq.shape = [2, 3, 2] ∧ parent.missed = some 4 ∧
    proj.freq = { shape := [2, 2], data := [2, 4, 0, 2] } ∧
    proj.err2 = { shape := [2, 2], data := [4, 16, 0, 2] } ∧
    proj.names = ["x", "z"] ∧ proj.missed = some 0 ∧
    ((HN.construct FloatOps.exact (keptOf axes (keepOf [2, 0]) axes.length)
        (data.map fun q => keptOf q (keepOf [2, 0]) axes.length) (some weights) .f64 true none).toOption.map
      fun c => (c.freq, c.err2, c.axes, c.missed)) = some (proj.freq, proj.err2, proj.axes, some 4) := by
  decide +kernel

/-- **The hypothesis is needed, and the general form says what happens without it.**  With the
    extra row in the gap of `y` (weight 5): the projection still holds exactly the rows that hit
    `y` (`C09_projection_rows`: the same arrays as before), while the direct construction from
    columns `x, z` also counts the extra row. -/
example :
    let p := HN.construct FloatOps.exact axes dataGap (some weightsGap) .f64 true (some ["x", "y", "z"])
    let r := p.bind fun h => h.projection [.inl 2, .inr "x"]
    let c := HN.construct FloatOps.exact (keptOf axes (keepOf [2, 0]) 3)
      (dataGap.map fun q => keptOf q (keepOf [2, 0]) 3) (some weightsGap) .f64 true none
    (r.toOption.map fun r => r.freq.data) = some [2, 4, 0, 2] ∧
    (c.toOption.map fun c => c.freq.data) = some [7, 4, 0, 2] ∧
    (keptRows (axesOf FloatOps.exact axes) (keepOf [2, 0]) 3 (maskRows dataGap (some weightsGap))).length = 6 ∧
    (maskRows dataGap (some weightsGap)).length = 7 := by
  decide +kernel

/-- the array-level theorems on the same data: one axis (`y`, position 1) summed out -/
example :
    let rows := maskRows dataGap (some weightsGap)
    let ab := axesOf FloatOps.exact axes
    1 < ab.length ∧
    ((calcND ab rows).freq.sumAxis 1).data = [2, 4, 0, 2] ∧
    (calcND (ab.eraseIdx 1) (hitRows ab 1 rows)).freq.data = [2, 4, 0, 2] ∧
    (calcND (ab.eraseIdx 1) (rows.map fun r => (r.1.eraseIdx 1, r.2))).freq.data = [7, 4, 0, 2] := by
  decide +kernel

end C09DirectExample

end Physt
