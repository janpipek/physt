import Physt.Proofs.AdaptiveNDPerm
/-!
# C04 in N dimensions — adaptive fixed-width axes never lose a row when bins grow

The N-d counterpart of `Theorems/C04.lean` / `C04_History.lean`, and the adaptive counterpart of
`Theorems/C03_ND.lean`.  Helper lemmas: `Proofs/AdaptiveND.lean`,
`Proofs/AdaptiveNDPerm.lean`.

Two invariants:

* `TracksA fo h grids rows` — **all axes adaptive** grids (`.fixed g`, `g.adaptive`, aligned,
  right-open): contents and squared errors are the batch histogram (`calcND`, the model of
  `calculate_nd_frequencies`) of `rows` over the current bins, `missed = 0`, every row inside the
  current range of every axis;
* `TracksM fo h axes rows` — **mixed axes** (adaptive grids next to any non-adaptive rising bins):
  the same, with `missed` = the weight of the rows outside the non-adaptive bins, and "inside the
  range" asked of the adaptive axes only.  `TracksA` is `TracksM` on `grids.map .fixed`
  (`TracksA.toM`, `TracksM.toA`).

The hypotheses are those of the 1-D theorem, per axis: the edge function of every adaptive grid is
strictly increasing (`MonoGrids` / `EdgesOK`: rounding does not reorder edges; proved for exact
arithmetic with positive widths) and every coordinate entered has its cell within reach of the
corrected search (`ReachGrids` / `ReachRow`; proved for exact arithmetic).  `ire = false` on adaptive
axes is part of the invariant: physt refuses adaptive binnings that include the right edge, and
without that the 1-D property already fails (`Proofs/AdaptiveHistory.lean`, last examples).
-/
namespace Physt
open Grid H1

/-- **Contents recorded earlier stay attached to the same interval (one axis of N).**  Replace the
    bins of axis `i` by bins in which every row's coordinate `i` is found `a` bins further up (the
    grid grew by `a` cells on the left, any number on the right).  Then the batch histogram of the
    rows over the new axes is the old one moved by `a` cells along axis `i` (`Arr.shiftAxis`, which
    is what `_reshape_data` does) and zero elsewhere: no content moves to another interval. -/
theorem C04_nd_grow_keeps_intervals (axes : AxesB) (i : Nat) (p p' : Bins × Bool) (a : Nat)
    (hi : axes[i]? = some p) (rows : List Row)
    (hrows : ∀ r ∈ rows, r.1.length = axes.length ∧ ∃ x c, r.1[i]? = some x ∧ axisCell p.1 p.2 x = some c ∧
      c < p.1.length ∧ axisCell p'.1 p'.2 x = some (c + a)) :
    (calcND (axes.set i p') rows).freq = (calcND axes rows).freq.shiftAxis i a p'.1.length ∧
    (calcND (axes.set i p') rows).err2 = (calcND axes rows).err2.shiftAxis i a p'.1.length :=
  calcND_set_axis axes i p p' a hi rows hrows

/-- the same with the grid written out (N-d analogue of `C04_grow_keeps_intervals`): axis `i` holds the
    cells `t … t+n-1` of a strictly increasing edge function and every row has coordinate `i` in one
    of them; over the cells `t-a … t+n+b-1` the histogram is the old one moved `a` cells up along
    axis `i`, with zeros in the `a + b` new slices. -/
theorem C04_nd_grid_grow {edge : Int → Rat} (hm : ∀ a b : Int, a < b → edge a < edge b) (axes : AxesB) (i : Nat)
    (t : Int) (n a b : Nat) (hi : axes[i]? = some (binsFrom edge t n, false)) (rows : List Row)
    (hrows : ∀ r ∈ rows, r.1.length = axes.length ∧
      ∃ (x : Rat) (k : Int), r.1[i]? = some x ∧ CellOf edge x k ∧ t ≤ k ∧ k < t + n) :
    (calcND (axes.set i (binsFrom edge (t - a) (a + n + b), false)) rows).freq
      = (calcND axes rows).freq.shiftAxis i a (a + n + b) ∧
    (calcND (axes.set i (binsFrom edge (t - a) (a + n + b), false)) rows).err2
      = (calcND axes rows).err2.shiftAxis i a (a + n + b) := by
  have := calcND_set_axis axes i (binsFrom edge t n, false) (binsFrom edge (t - a) (a + n + b), false) a hi rows (by
    intro r hr
    obtain ⟨hl, x, k, hx, hk, k1, k2⟩ := hrows r hr
    refine ⟨hl, x, (k - t).toNat, hx, axisCell_grid hm t n x k hk k1 k2, by rw [binsFrom_length]; omega, ?_⟩
    have e : (k - t).toNat + a = (k - (t - (a : Int))).toNat := by omega
    rw [e]
    exact axisCell_grid hm _ _ x k hk (by omega) (by push_cast; omega))
  simpa only [binsFrom_length] using this

/-- … in terms of grids: axis `i` grows from the grid `g` to a grid `g'` with the same width and origin
    that contains it, as `_force_bin_existence` instructs (`ReshapeOK`); the rows have their
    coordinate `i` inside `g`.  Contents and squared errors over the new bins are the old arrays
    reshaped along axis `i`, and the missed weight is unchanged. -/
theorem C04_nd_regrid (fo : FloatOps) (axes : List Binning) (i : Nat) (g g' : Grid) (r : Reshape)
    (hi : axes[i]? = some (.fixed g)) (hm : EdgeMono fo g.w g.shift) (hw : g'.w = g.w) (hs : g'.shift = g.shift)
    (hire : g.ire = false) (hire' : g'.ire = false) (ok : ReshapeOK g g' r) (rows : List Row)
    (hrows : ∀ r ∈ rows, r.1.length = axes.length ∧ ∃ x, r.1[i]? = some x ∧ InGrid fo g x) :
    (calcND (axesOf fo (axes.set i (.fixed g'))) rows).freq
      = HN.reshapeAxis (calcND (axesOf fo axes) rows).freq i g'.count r ∧
    (calcND (axesOf fo (axes.set i (.fixed g'))) rows).err2
      = HN.reshapeAxis (calcND (axesOf fo axes) rows).err2 i g'.count r ∧
    (calcND (axesOf fo (axes.set i (.fixed g'))) rows).missing = (calcND (axesOf fo axes) rows).missing :=
  calcND_regrid fo axes i g g' r hi hm hw hs hire hire' ok rows hrows

/-- **One `fill` of a finite point never loses it.**  On an all-adaptive histogram satisfying the
    invariant, for increasing edges and reachable cells: the result satisfies the invariant for the
    old rows followed by the new one; every axis keeps width and origin and its range is the hull
    (`SpanHull`) of its old range and the cell of the coordinate; the call returns `some idx`, the
    index `find_bin` gives afterwards. -/
theorem C04_nd_fill (fo : FloatOps) (fuel : Nat) (h : HN) (grids : List Grid) (rows : List Row)
    (t : TracksA fo h grids rows) (hm : MonoGrids fo grids) (v : List Rat) (hl : v.length = grids.length)
    (hreach : ReachGrids fo fuel grids v) (w : Rat) (wk : H1.NumKind) :
    ∃ grids' idx, TracksA fo (h.fill fo fuel (v.map some) w wk).1 grids' (rows ++ [(v, w)]) ∧
      HullN fo grids grids' [v] ∧
      (h.fill fo fuel (v.map some) w wk).2 = some (some idx) ∧
      (h.fill fo fuel (v.map some) w wk).1.findBin fo v = some idx := by
  obtain ⟨axes', tm, gr, e⟩ := tracksM_fill fo fuel h _ rows (t.toM hm) (t.edgesOK hm) v (by simpa using hl)
    (reachGrids_iff fo fuel grids v hreach) w wk
  obtain ⟨grids', ta, hu, hm'⟩ := t.grown hm gr tm
  obtain ⟨idx, hf, _⟩ := ta.in_bin hm' (v, w) (by simp)
  exact ⟨grids', idx, ta, hu, by rw [e, hf], hf⟩

/-- **One `fill_n` batch never loses a row** (NaN rows are skipped with their weights; the empty batch
    changes nothing; weights or none): the call is accepted, the result satisfies the invariant for
    the old rows followed by the masked batch, every axis grows to the hull of its old range and
    the cells of its column of the batch. -/
theorem C04_nd_fill_n (fo : FloatOps) (fuel : Nat) (h : HN) (grids : List Grid) (rows : List Row)
    (t : TracksA fo h grids rows) (hm : MonoGrids fo grids) (batch : List (List (Option Rat)))
    (ws : Option (List Rat)) (wkind : DType) (hcol : ∀ x ∈ batch, x.length = grids.length)
    (hw : ∀ w, ws = some w → w.length = batch.length)
    (hreach : ∀ r ∈ maskRows batch ws, ReachGrids fo fuel grids r.1) :
    ∃ r grids', h.fillN fo fuel batch ws wkind = .ok r ∧ TracksA fo r grids' (rows ++ maskRows batch ws) ∧
      HullN fo grids grids' ((maskRows batch ws).map (·.1)) := by
  obtain ⟨r, axes', e, tm, gr⟩ := tracksM_fillN fo fuel h _ rows (t.toM hm) (t.edgesOK hm) batch ws wkind
    (by simpa using hcol) hw (fun r hr => reachGrids_iff fo fuel grids r.1 (hreach r hr))
  obtain ⟨grids', ta, hu, _⟩ := t.grown hm gr tm
  exact ⟨r, grids', e, ta, hu⟩

/-- **C04 for every history, N dimensions, all axes adaptive.**  For every `FloatOps` with strictly
    increasing edges on every axis, every list of `fill` / `fill_n` calls (NaN coordinates, NaN rows,
    empty batches, weights of any kind) whose finite values have one coordinate per axis and whose
    batches have matching shapes, every coordinate having its cell within reach, on a histogram
    satisfying the invariant (empty: `tracksA_empty`; or pre-filled):
    every call is accepted; the result satisfies the invariant for all rows, so it **equals the
    fixed-bin histogram of all the data over the final bins** (contents, squared errors, missed);
    `missed = 0`; total = initial total + weight entered; every row is found by `find_bin` in the bin
    `[edge k, edge (k+1))` of its cell `k` on each axis' original grid; per axis the final range is
    the hull of the initial range and the cells needed (`HullN`: same width and origin, nothing more,
    nothing less). -/
theorem C04_nd_every_history (fo : FloatOps) (fuel : Nat) (ops : List OpN) (h : HN) (grids : List Grid)
    (rows0 : List Row) (t : TracksA fo h grids rows0) (hm : MonoGrids fo grids)
    (hv : ∀ op ∈ ops, op.Valid grids.length) (hacc : ∀ op ∈ ops, op.Accepted grids.length)
    (hreach : ∀ r ∈ enteredRows ops, ReachGrids fo fuel grids r.1) :
    ∃ r grids', ops.foldlM (OpN.apply fo fuel) h = .ok r ∧ TracksA fo r grids' (rows0 ++ enteredRows ops) ∧
      HullN fo grids grids' ((enteredRows ops).map (·.1)) ∧
      r.freq = (calcND (r.axesBins fo) (rows0 ++ enteredRows ops)).freq ∧
      r.err2 = (calcND (r.axesBins fo) (rows0 ++ enteredRows ops)).err2 ∧
      r.missed = some (calcND (r.axesBins fo) (rows0 ++ enteredRows ops)).missing ∧
      r.missed = some 0 ∧
      r.total = h.total + ((enteredRows ops).map (·.2)).sum ∧
      (∀ row ∈ rows0 ++ enteredRows ops, ∃ idx, r.findBin fo row.1 = some idx ∧ validIdx (r.shape fo) idx = true ∧
        ∀ (i : Nat) (g : Grid) (x : Rat), grids'[i]? = some g → row.1[i]? = some x →
          ∃ k : Int, CellOf (fo.edge g.w g.shift) x k ∧ g.tmin ≤ k ∧ k < g.tmin + g.count ∧
            idx[i]? = some (k - g.tmin).toNat ∧
            (g.bins fo)[(k - g.tmin).toNat]? = some (fo.edge g.w g.shift k, fo.edge g.w g.shift (k + 1))) := by
  obtain ⟨r, grids', e, t', hu, hm'⟩ := tracksA_history fo fuel ops h grids rows0 t hm hv hacc hreach
  refine ⟨r, grids', e, t', hu, t'.freq, t'.err2, ?_, t'.missed, ?_, fun row hrow => t'.in_bin hm' row hrow⟩
  · rw [t'.missing_zero hm']; exact t'.missed
  · rw [t'.total hm', t.total hm, List.map_append, List.sum_append]

/-- in exact arithmetic the only hypothesis left on the grids is a positive width on every axis -/
theorem C04_nd_every_history_exact (fuel : Nat) (ops : List OpN) (h : HN) (grids : List Grid)
    (rows0 : List Row) (t : TracksA FloatOps.exact h grids rows0) (hw : ∀ g ∈ grids, 0 < g.w)
    (hv : ∀ op ∈ ops, op.Valid grids.length) (hacc : ∀ op ∈ ops, op.Accepted grids.length) :
    ∃ r grids', ops.foldlM (OpN.apply FloatOps.exact fuel) h = .ok r ∧
      TracksA FloatOps.exact r grids' (rows0 ++ enteredRows ops) ∧
      HullN FloatOps.exact grids grids' ((enteredRows ops).map (·.1)) ∧
      r.missed = some 0 ∧ r.total = h.total + ((enteredRows ops).map (·.2)).sum ∧
      (∀ row ∈ rows0 ++ enteredRows ops, ∃ idx, r.findBin FloatOps.exact row.1 = some idx) := by
  obtain ⟨r, grids', e, t', hu, _, _, _, hz, ht, hb⟩ := C04_nd_every_history FloatOps.exact fuel ops h grids rows0 t
    (monoGrids_exact grids hw) hv hacc (fun r _ => reachGrids_exact grids hw fuel r.1)
  exact ⟨r, grids', e, t', hu, hz, ht, fun row hrow => by
    obtain ⟨idx, hi, _⟩ := hb row hrow
    exact ⟨idx, hi⟩⟩

/-- **The result equals a fixed-bin histogram of the same data over the final bins.**  Build a
    histogram from all the rows at once (in any order) over the *static copy* of the final axes
    (`StaticBinning` with the final bins): its contents, squared errors and missed are those of the
    adaptively filled histogram. -/
theorem C04_nd_eq_fixed_bins (fo : FloatOps) (h : HN) (grids : List Grid) (rows : List Row)
    (t : TracksA fo h grids rows) (hm : MonoGrids fo grids)
    (all : List (List (Option Rat))) (ws : Option (List Rat)) (wkind : DType) (dropna : Bool)
    (names : Option (List String)) (c : HN)
    (hc : HN.construct fo (h.axes.map (Binning.asStatic fo)) all ws wkind dropna names = .ok c)
    (hp : (maskRows all ws).Perm rows) : c.freq = h.freq ∧ c.err2 = h.err2 ∧ c.missed = h.missed := by
  have tm := t.toM hm
  exact tm.eq_construct _ (by rw [axesOf_asStatic, tm.hax]) all ws wkind dropna names c hc hp

/-- **Chunking does not matter**: histories that enter the same rows in the same order — one `fill_n`
    batch, single `fill`s, any split — end on the same bins with the same contents, squared errors and
    missed (`_force_bin_existence` for an array looks at min and max only; the result is the same hull). -/
theorem C04_nd_chunking (fo : FloatOps) (fuel : Nat) (ops1 ops2 : List OpN) (h : HN) (grids : List Grid)
    (rows0 : List Row) (t : TracksA fo h grids rows0) (hm : MonoGrids fo grids)
    (hv1 : ∀ op ∈ ops1, op.Valid grids.length) (ha1 : ∀ op ∈ ops1, op.Accepted grids.length)
    (hv2 : ∀ op ∈ ops2, op.Valid grids.length) (ha2 : ∀ op ∈ ops2, op.Accepted grids.length)
    (hsame : enteredRows ops1 = enteredRows ops2)
    (hreach : ∀ r ∈ enteredRows ops1, ReachGrids fo fuel grids r.1) :
    ∃ r1 r2, ops1.foldlM (OpN.apply fo fuel) h = .ok r1 ∧ ops2.foldlM (OpN.apply fo fuel) h = .ok r2 ∧
      r1.axes = r2.axes ∧ r1.freq = r2.freq ∧ r1.err2 = r2.err2 ∧ r1.missed = r2.missed := by
  obtain ⟨r1, r2, _, e1, e2, _, _, _, same⟩ := tracksA_order fo fuel ops1 ops2 h grids rows0 t hm hv1 ha1 hv2 ha2
    (hsame ▸ List.Perm.refl _) hreach
  exact ⟨r1, r2, e1, e2, same⟩

/-- **The bins of every axis stay contiguous on the original grid**: axis `i` has the bins of its grid,
    bin `j` is `[edge (tmin+j), edge (tmin+j+1))` with `edge k = fo.edge w shift k` (`k·w + shift` in
    exact arithmetic), consecutive, `count` of them, right-open. -/
theorem C04_nd_bins_on_grid (fo : FloatOps) (h : HN) (grids : List Grid) (rows : List Row)
    (t : TracksA fo h grids rows) (i : Nat) (g : Grid) (hg : grids[i]? = some g) :
    (h.axesBins fo)[i]? = some (g.bins fo, false) ∧ consecutiveB (g.bins fo) = true ∧
    (g.bins fo).length = g.count ∧
    ∀ j, j < g.count →
      (g.bins fo)[j]? = some (fo.edge g.w g.shift (g.tmin + j), fo.edge g.w g.shift (g.tmin + j + 1)) := by
  refine ⟨?_, ?_, ?_, fun j hj => (grid_bins_on_grid fo g j hj).1⟩
  · rw [t.axesBins, axesOf_getElem? fo _ i _ ((map_fixed_getElem? grids i g).mpr hg)]
    simp [Binning.bins, Binning.ire, (t.flags g (List.mem_of_getElem? hg)).2.2]
  · rw [bins_eq_binsFrom]; exact binsFrom_consecutive _ _ _
  · rw [bins_eq_binsFrom, binsFrom_length]

/-- **Started empty, each axis spans exactly from the lowest to the highest cell ever needed.**
    (`count = 0` on every axis; at least one row entered.) -/
theorem C04_nd_span_from_empty (fo : FloatOps) (grids grids' : List Grid) (entered : List (List Rat))
    (hu : HullN fo grids grids' entered) (i : Nat) (g g' : Grid) (hg : grids[i]? = some g)
    (hg' : grids'[i]? = some g') (h0 : g.count = 0) (hne : col i entered ≠ []) :
    g'.w = g.w ∧ g'.shift = g.shift ∧ 0 < g'.count ∧
    (∃ x ∈ col i entered, CellOf (fo.edge g.w g.shift) x g'.tmin) ∧
    (∃ x ∈ col i entered, CellOf (fo.edge g.w g.shift) x (g'.tmin + g'.count - 1)) ∧
    (∀ x ∈ col i entered, ∃ k : Int, CellOf (fo.edge g.w g.shift) x k ∧ g'.tmin ≤ k ∧ k < g'.tmin + g'.count) := by
  have sp := hu.each i g g' hg hg'
  have hp := sp.pos (Or.inr hne)
  refine ⟨sp.w, sp.shift, hp, ?_, ?_, sp.covers⟩
  · rcases sp.loTight hp with ⟨h1, _⟩ | h1
    · omega
    · exact h1
  · rcases sp.hiTight hp with ⟨h1, _⟩ | h1
    · omega
    · exact h1

/-- **C04 for every history, N dimensions, any mix of adaptive and non-adaptive axes.**  Every call is
    accepted; the result holds the fixed-bin histogram of all the rows over the final bins (contents,
    squared errors, missed — rows can be missed on the non-adaptive axes only); `total + missed` is the
    weight entered; every adaptive axis has grown to the hull of its range and the cells of its
    column (all rows count, also those missed on another axis), every other axis is untouched
    (`AxesGrown`); every row lies inside the range of every adaptive axis (`TracksM.fits`). -/
theorem C04_nd_mixed_history (fo : FloatOps) (fuel : Nat) (ops : List OpN) (h : HN) (axes : List Binning)
    (rows0 : List Row) (tr : TracksM fo h axes rows0) (ok : EdgesOK fo axes)
    (hv : ∀ op ∈ ops, op.Valid axes.length) (ha : ∀ op ∈ ops, op.Accepted axes.length)
    (hreach : ∀ r ∈ enteredRows ops, ReachRow fo fuel axes r.1) :
    ∃ r axes' m, ops.foldlM (OpN.apply fo fuel) h = .ok r ∧ TracksM fo r axes' (rows0 ++ enteredRows ops) ∧
      AxesGrown fo axes axes' ((enteredRows ops).map (·.1)) ∧
      r.missed = some m ∧ r.total + m = ((rows0 ++ enteredRows ops).map (·.2)).sum := by
  obtain ⟨r, axes', e, t', g, _⟩ := tracksM_history fo fuel ops h axes rows0 tr ok hv ha hreach
  obtain ⟨m, h1, h2⟩ := t'.account
  exact ⟨r, axes', m, e, t', g, h1, h2⟩

/-- mixed axes in exact arithmetic: positive widths of the adaptive grids, rising bins elsewhere -/
theorem C04_nd_mixed_history_exact (fuel : Nat) (ops : List OpN) (h : HN) (axes : List Binning)
    (rows0 : List Row) (tr : TracksM FloatOps.exact h axes rows0)
    (hw : ∀ (i : Nat) (g : Grid), axes[i]? = some (Binning.fixed g) → g.adaptive = true → 0 < g.w)
    (hr : ∀ b ∈ axes, b.isAdaptive = false → Rising (b.bins FloatOps.exact))
    (hv : ∀ op ∈ ops, op.Valid axes.length) (ha : ∀ op ∈ ops, op.Accepted axes.length) :
    ∃ r axes' m, ops.foldlM (OpN.apply FloatOps.exact fuel) h = .ok r ∧
      TracksM FloatOps.exact r axes' (rows0 ++ enteredRows ops) ∧
      AxesGrown FloatOps.exact axes axes' ((enteredRows ops).map (·.1)) ∧
      r.missed = some m ∧ r.total + m = ((rows0 ++ enteredRows ops).map (·.2)).sum :=
  C04_nd_mixed_history FloatOps.exact fuel ops h axes rows0 tr (edgesOK_exact axes hw hr) hv ha
    (fun r _ => reachRow_exact axes hw fuel r.1)

/-! ## Non-vacuity: a concrete 2-D adaptive histogram (widths 1/10 and 2), started empty -/

namespace ExampleAdaptiveND

/-- two adaptive axes without bins yet (`count = 0`) -/
def grids : List Grid := [{ w := 1 / 10, adaptive := true }, { w := 2, adaptive := true }]

/-- a `fill`, a weighted batch with a NaN row (growth to the left and to the right on both axes), the
    empty batch, and a `fill` with a NaN coordinate -/
def ops : List OpN :=
  [.fill [some (17 / 10), some 3] 1 .pyInt,
   .fillN [[some (-3 / 10), some (-5)], [none, some 1], [some 5, some (1 / 2)]] (some [2, 9, 1 / 2]) .f64,
   .fillN [] none .i64,
   .fill [some 2, none] 7 .pyFloat]

def h0 : HN := HN.empty FloatOps.exact (grids.map Binning.fixed) true none none

theorem flags : ∀ g ∈ grids, g.adaptive = true ∧ g.align = true ∧ g.ire = false := by decide

theorem widths : ∀ g ∈ grids, 0 < g.w := by decide +kernel

theorem valid : ∀ op ∈ ops, op.Valid grids.length := by simp [ops, OpN.Valid, grids]

theorem accepted : ∀ op ∈ ops, op.Accepted grids.length := by simp [ops, OpN.Accepted, grids]

theorem start : TracksA FloatOps.exact h0 grids [] := tracksA_empty _ grids flags true none none

/-- the rows the history enters: the NaN row and the NaN value are gone, weights stay attached -/
example : enteredRows ops = [([17 / 10, 3], 1), ([-3 / 10, -5], 2), ([5, 1 / 2], 1 / 2)] := by decide +kernel

/-- the theorem applied: the history is accepted, the result satisfies the invariant for the three
    rows, nothing is missed, the total is the weight entered, every row is found by `find_bin` -/
example : ∃ r grids', ops.foldlM (OpN.apply FloatOps.exact 4) h0 = .ok r ∧
    TracksA FloatOps.exact r grids' (enteredRows ops) ∧
    HullN FloatOps.exact grids grids' ((enteredRows ops).map (·.1)) ∧
    r.missed = some 0 ∧ r.total = h0.total + ((enteredRows ops).map (·.2)).sum ∧
    (∀ row ∈ enteredRows ops, ∃ idx, r.findBin FloatOps.exact row.1 = some idx) := by
  simpa using C04_nd_every_history_exact 4 ops h0 grids [] start widths valid accepted

/-- … and the model computes what the theorem says: axis 0 spans the cells `-3 … 50` of the grid
    `k/10`, axis 1 the cells `-3 … 1` of the grid `2k`; total `7/2`; the three weights sit in the cells
    of their rows; nothing missed; the contents are the fixed-bin histogram of the rows over the
    final bins. -/
example :
    ((ops.foldlM (OpN.apply FloatOps.exact 4) h0).toOption.map fun r => (r.axes, r.total, r.missed, r.freq.shape))
      = some ([.fixed { w := 1 / 10, tmin := -3, count := 54, adaptive := true },
               .fixed { w := 2, tmin := -3, count := 5, adaptive := true }], 7 / 2, some 0, [54, 5]) ∧
    ((ops.foldlM (OpN.apply FloatOps.exact 4) h0).toOption.map fun r =>
      (r.freq.get [20, 4], r.freq.get [0, 0], r.freq.get [53, 3], r.findBin FloatOps.exact [17 / 10, 3]))
      = some (1, 2, 1 / 2, some [20, 4]) ∧
    ((ops.foldlM (OpN.apply FloatOps.exact 4) h0).toOption.map fun r =>
      decide (r.freq = (calcND (r.axesBins FloatOps.exact) (enteredRows ops)).freq)) = some true := by
  obtain ⟨r, _, e, t, -, hz, ht, -⟩ := C04_nd_every_history_exact 4 ops h0 grids [] start widths valid accepted
  -- total, `missed` and "contents = calcND" come from the theorem; only the bins and three cells are computed
  have ev : ((ops.foldlM (OpN.apply FloatOps.exact 4) h0).toOption.map fun r => (r.axes, r.freq.shape))
      = some ([.fixed { w := 1 / 10, tmin := -3, count := 54, adaptive := true },
               .fixed { w := 2, tmin := -3, count := 5, adaptive := true }], [54, 5]) := by decide +kernel
  refine ⟨?_, by decide +kernel, ?_⟩
  · rw [e] at ev ⊢
    obtain ⟨ha, hs⟩ := Prod.mk.inj (Option.some.inj ev)
    have hsum : h0.total + ((enteredRows ops).map (·.2)).sum = 7 / 2 := by decide +kernel
    exact congrArg some (by simp only [ha, hs, hz, ht, hsum])
  · rw [e]
    exact congrArg some (decide_eq_true t.freq)

/-- the same rows entered one by one in one batch, and constructed at once (in another order) over the
    static copy of the final bins: same contents -/
example :
    ((ops.foldlM (OpN.apply FloatOps.exact 4) h0).toOption.map fun r => (r.axes, r.freq, r.err2, r.missed))
      = ((HN.fillN FloatOps.exact 4 h0 [[some (17 / 10), some 3], [some (-3 / 10), some (-5)], [some 5, some (1 / 2)]]
          (some [1, 2, 1 / 2]) .f64).toOption.map fun r => (r.axes, r.freq, r.err2, r.missed)) ∧
    ((ops.foldlM (OpN.apply FloatOps.exact 4) h0).toOption.bind fun r =>
      (HN.construct FloatOps.exact (r.axes.map (Binning.asStatic FloatOps.exact))
        [[some 5, some (1 / 2)], [some (17 / 10), some 3], [some (-3 / 10), some (-5)]] (some [1 / 2, 1, 2]) .f64 true
        none).toOption.map fun c => decide (c.freq = r.freq ∧ c.err2 = r.err2 ∧ c.missed = r.missed)) = some true := by
  refine ⟨?_, ?_⟩
  obtain ⟨r1, r2, e1, e2, a, b, c, d⟩ := C04_nd_chunking FloatOps.exact 4 ops
    [.fillN [[some (17 / 10), some 3], [some (-3 / 10), some (-5)], [some 5, some (1 / 2)]] (some [1, 2, 1 / 2]) .f64]
    h0 grids [] start (monoGrids_exact grids widths) valid accepted (by simp [OpN.Valid]) (by simp [OpN.Accepted, grids])
    (by decide +kernel) (fun r _ => reachGrids_exact grids widths 4 r.1)
  · rw [e1, (by simpa [List.foldlM, OpN.apply] using e2 : HN.fillN _ _ _ _ _ _ = .ok r2)]
    exact congrArg some (by simp only [a, b, c, d])
  -- the static copy has rising bins, so `construct` accepts, and `C04_nd_eq_fixed_bins` applies
  obtain ⟨r, gs, e, t, hu, hm'⟩ := tracksA_history FloatOps.exact 4 ops h0 grids [] start (monoGrids_exact grids widths)
    valid accepted (fun r _ => reachGrids_exact grids widths 4 r.1)
  have hc := HN.construct_eq FloatOps.exact (r.axes.map (Binning.asStatic FloatOps.exact))
    [[some 5, some (1 / 2)], [some (17 / 10), some 3], [some (-3 / 10), some (-5)]] (some [1 / 2, 1, 2]) .f64 true none
  rw [if_neg (by simp [t.hax, hu.len, grids]), if_neg (by simp), if_neg (by simp), if_neg (not_any_iff.mpr fun b hb => by
    obtain ⟨b0, hb0, rfl⟩ := List.mem_map.mp hb
    have := (risingB_iff _).mpr ((t.edgesOK hm').all_rising b0 (t.hax ▸ hb0))
    cases b0 <;> simpa [Binning.asStatic, Binning.bins] using this)] at hc
  rw [e]
  show (HN.construct _ _ _ _ _ _ _).toOption.map _ = _
  rw [hc]
  exact congrArg some (decide_eq_true (C04_nd_eq_fixed_bins FloatOps.exact r gs _ t hm' _ _ _ _ _ _ hc (by decide +kernel)))

/-- the single-`fill` theorem instantiated on the empty histogram (`count = 0` on both axes) -/
example : ∃ grids' idx,
    TracksA FloatOps.exact ((h0.fill FloatOps.exact 4 ([17 / 10, 3].map some) 1 .pyInt).1) grids' ([] ++ [([17 / 10, 3], 1)]) ∧
    HullN FloatOps.exact grids grids' [[17 / 10, 3]] ∧
    (h0.fill FloatOps.exact 4 ([17 / 10, 3].map some) 1 .pyInt).2 = some (some idx) ∧
    (h0.fill FloatOps.exact 4 ([17 / 10, 3].map some) 1 .pyInt).1.findBin FloatOps.exact [17 / 10, 3] = some idx :=
  C04_nd_fill FloatOps.exact 4 h0 grids [] start
    (monoGrids_exact grids widths) [17 / 10, 3] rfl (reachGrids_exact grids widths 4 _) 1 .pyInt

/-- pre-filled: the state after the first two calls satisfies the invariant, and the theorem applies
    again to the remaining calls from there -/
example : ∃ r1 grids1 r2 grids2, (ops.take 2).foldlM (OpN.apply FloatOps.exact 4) h0 = .ok r1 ∧
    TracksA FloatOps.exact r1 grids1 (enteredRows (ops.take 2)) ∧
    (ops.drop 2).foldlM (OpN.apply FloatOps.exact 4) r1 = .ok r2 ∧
    TracksA FloatOps.exact r2 grids2 (enteredRows (ops.take 2) ++ enteredRows (ops.drop 2)) ∧
    r2.total = r1.total + ((enteredRows (ops.drop 2)).map (·.2)).sum := by
  obtain ⟨r1, grids1, e1, t1, hu1, _⟩ := C04_nd_every_history_exact 4 (ops.take 2) h0 grids [] start widths
    (fun op hop => valid op (List.mem_of_mem_take hop)) (fun op hop => accepted op (List.mem_of_mem_take hop))
  have hw1 : ∀ g ∈ grids1, 0 < g.w := by
    intro g hg
    obtain ⟨i, hi, rfl⟩ := List.getElem_of_mem hg
    have hi' : i < grids.length := by rw [← hu1.len]; exact hi
    rw [(hu1.each i _ _ (List.getElem?_eq_getElem hi') (List.getElem?_eq_getElem hi)).w]
    exact widths _ (List.getElem_mem hi')
  obtain ⟨r2, grids2, e2, t2, _, _, ht, _⟩ := C04_nd_every_history_exact 4 (ops.drop 2) r1 grids1 _ t1 hw1
    (fun op hop => by rw [hu1.len]; exact valid op (List.mem_of_mem_drop hop))
    (fun op hop => by rw [hu1.len]; exact accepted op (List.mem_of_mem_drop hop))
  rw [List.nil_append] at t1 t2
  exact ⟨r1, grids1, r2, grids2, e1, t1, e2, t2, ht⟩

end ExampleAdaptiveND

/-! ## Non-vacuity: mixed axes — an adaptive grid next to a static right-closed axis -/

namespace ExampleMixedND

def axes : List Binning := [.fixed { w := 1 / 10, adaptive := true }, .static [(0, 1), (1, 2)] true]

/-- the second row of the batch is outside the static axis: it is missed, yet its first coordinate
    makes the adaptive axis grow (as in physt, where all coordinates are handed to
    `_force_bin_existence` before the cells are looked up) -/
def ops : List OpN :=
  [.fill [some (17 / 10), some (1 / 2)] 1 .pyInt,
   .fillN [[some (1 / 2), some 2], [some (-3 / 10), some 5], [none, none]] none .i64]

def h0 : HN := HN.empty FloatOps.exact axes true none none

theorem fixed_eq {i : Nat} {g : Grid} (hg : axes[i]? = some (.fixed g)) : g = { w := 1 / 10, adaptive := true } := by
  simpa [axes] using List.mem_of_getElem? hg

theorem start : TracksM FloatOps.exact h0 axes [] :=
  tracksM_empty _ _ _ (Or.inl rfl) (fun _ _ hg _ => by rw [fixed_eq hg]; exact ⟨rfl, rfl⟩) none none

theorem widths (i : Nat) (g : Grid) (hg : axes[i]? = some (.fixed g)) (_ : g.adaptive = true) : 0 < g.w := by
  rw [fixed_eq hg]
  norm_num

theorem rising : ∀ b ∈ axes, b.isAdaptive = false → Rising (b.bins FloatOps.exact) := by
  simp only [axes, List.forall_mem_cons, List.not_mem_nil, false_imp_iff, implies_true, and_true]
  exact ⟨nofun, fun _ => (risingB_iff [(0, 1), (1, 2)]).mp (by decide +kernel)⟩

theorem valid : ∀ op ∈ ops, op.Valid axes.length := by simp [ops, OpN.Valid, axes]

theorem accepted : ∀ op ∈ ops, op.Accepted axes.length := by simp [ops, OpN.Accepted, axes]

example : ∃ r axes' m, ops.foldlM (OpN.apply FloatOps.exact 4) h0 = .ok r ∧
    TracksM FloatOps.exact r axes' (([] : List Row) ++ enteredRows ops) ∧
    AxesGrown FloatOps.exact axes axes' ((enteredRows ops).map (·.1)) ∧
    r.missed = some m ∧ r.total + m = ((([] : List Row) ++ enteredRows ops).map (·.2)).sum :=
  C04_nd_mixed_history_exact 4 ops h0 axes [] start widths rising valid accepted

/-- computed: the adaptive axis spans the cells `-3 … 17` (the missed row's `-3/10` included), the
    static axis is untouched, two rows counted, one missed -/
example :
    ((ops.foldlM (OpN.apply FloatOps.exact 4) h0).toOption.map fun r => (r.axes, r.total, r.missed, r.freq.shape))
      = some ([.fixed { w := 1 / 10, tmin := -3, count := 21, adaptive := true }, .static [(0, 1), (1, 2)] true],
              2, some 1, [21, 2]) := by
  decide +kernel

end ExampleMixedND

end Physt
